import CCV.Lemmas.Know
import CCV.Lemmas.KnowTrie
/-
  C02 — each party can run the protocol from its own data and the messages it receives.

  `holders_agree`: for EVERY graph (well-scoped or not), every operation semantics `sem`, every choice of
  what the parties supply for inputs they do not own (junk) and every three private random tapes:
  if the static holder analysis says party p holds a component of node n, then in the three-party
  execution p's value of that component equals the value in the one-evaluator run in which each
  Random node takes its owner's draw.  The per-graph obligations `okRevealed … = true` /
  `okShared … = true` (generated from what `compile_context` emits, decided by the kernel)
  then give, for that graph, for all inputs, junk and tapes: every output party ends with the
  global result.
-/
namespace CCV.C02
open CCV.Know
variable {A : Type}

/-- Stated for every index: beyond the end all three lists give their defaults, which agree. -/
structure Inv (henv : List HT) (st : Nat → List (Val A)) (env : List (Val A)) : Prop where
  lenS : ∀ p, (st p).length = henv.length
  lenE : env.length = henv.length
  agree : ∀ idx p, Agree p (henv.getD idx (.leaf PS.none)) ((st p).getD idx .nil) (env.getD idx .nil)

section
/- `real i` is the true value of input i, `inp p i` what party p supplies for it.  The one assumption of
   every theorem below is `hin`: on the components that the status `inStat i` says p holds, p supplies
   the true value (anything elsewhere). -/
variable (sem : Nat → List (Val A) → Val A) (inp : Nat → Nat → Val A) (tape : Nat → Nat → Val A)
  (real : Nat → Val A) (inStat : Nat → HT) (owner : Nat → Nat)

def gtape (tape : Nat → Nat → Val A) (owner : Nat → Nat) : Nat → Val A := fun r => tape (owner r) r

theorem base_agree (hin : ∀ i p, Agree p (inStat i) (inp p i) (real i))
    (henv : List HT) (st : Nat → List (Val A)) (env : List (Val A)) (hI : Inv henv st env)
    (n : Node) (p : Nat) :
    Agree p (hBase inStat owner henv n) (evalNode sem (inp p) (tape p) (st p) n)
      (evalNode sem real (gtape tape owner) env n) := by
  obtain ⟨k, deps, sends⟩ := n
  cases k with
  | input i => exact hin i p
  | random r =>
    intro hm
    have := PS.mem_single p (owner r) (PS.mem_lt _ _ hm) hm
    subst this; rfl
  | mkTuple => exact agree_mkTup p _ _ _ deps (fun d _ => hI.agree d p)
  | tupleGet j =>
    cases deps with
    | nil => exact agree_nth p j (.leaf PS.none) .nil .nil (fun _ => rfl)
    | cons d ds => exact agree_nth p j _ _ _ (hI.agree d p)
  | nop =>
    cases deps with
    | nil => exact fun _ => rfl
    | cons d ds => exact hI.agree d p
  | op tag =>
    intro hm
    have hall := (mem_foldl_inter p _ _ hm).2
    refine congrArg (sem tag) (List.map_congr_left (fun d hd => ?_))
    exact agree_meet p _ _ _ (hI.agree d p) (hall _ (List.mem_map_of_mem hd))

theorem step_inv (hin : ∀ i p, Agree p (inStat i) (inp p i) (real i))
    (henv : List HT) (st : Nat → List (Val A)) (env : List (Val A)) (hI : Inv henv st env) (n : Node) :
    Inv (henv ++ [hNode inStat owner henv n])
      (fun p => st p ++ [applySends n.sends (fun q => evalNode sem (inp q) (tape q) (st q) n) p])
      (env ++ [evalNode sem real (gtape tape owner) env n]) := by
  refine ⟨fun p => ?_, ?_, fun idx p => ?_⟩
  · rw [List.length_append, List.length_append, hI.lenS p]; rfl
  · rw [List.length_append, List.length_append, hI.lenE]; rfl
  · rw [Run.getD_snoc, Run.getD_snoc, Run.getD_snoc, hI.lenS p, hI.lenE]
    by_cases e : idx = henv.length
    · rw [if_pos e, if_pos e, if_pos e]
      exact agree_sends n.sends _ _ _ (base_agree sem inp tape real inStat owner hin henv st env hI n) p
    · rw [if_neg e, if_neg e, if_neg e]
      exact hI.agree idx p

theorem run_inv (hin : ∀ i p, Agree p (inStat i) (inp p i) (real i)) :
    ∀ (g : List Node) (henv : List HT) (st : Nat → List (Val A)) (env : List (Val A)),
    Inv henv st env →
    Inv (hRun inStat owner g henv) (exec3 sem inp tape g st) (evalG sem real (gtape tape owner) g env)
  | [], _, _, _, hI => hI
  | n :: g, henv, st, env, hI =>
    run_inv hin g _ _ _ (step_inv sem inp tape real inStat owner hin henv st env hI n)

/-- soundness of the holder analysis at every index of every graph, well-scoped or not: a dependency
    that points beyond the nodes computed so far reads the defaults, which agree -/
theorem holders_agree (hin : ∀ i p, Agree p (inStat i) (inp p i) (real i)) (g : List Node)
    (idx p : Nat) :
    Agree p ((hRun inStat owner g []).getD idx (.leaf PS.none))
      ((exec3 sem inp tape g (fun _ => []) p).getD idx .nil)
      ((evalG sem real (gtape tape owner) g []).getD idx .nil) :=
  (run_inv sem inp tape real inStat owner hin g [] (fun _ => []) []
    ⟨fun _ => rfl, rfl, fun _ _ => fun _ => rfl⟩).agree idx p

theorem hRun_length (g : List Node) (henv : List HT) :
    (hRun inStat owner g henv).length = henv.length + g.length :=
  Run.IsRun.length_from ⟨fun _ => rfl, fun _ _ _ => rfl⟩ g henv

/-- **Soundness of the holder analysis, for all graphs.** -/
theorem holders_sound (hin : ∀ i p, Agree p (inStat i) (inp p i) (real i)) (g : List Node)
    (hw : wellScoped g 0 = true) (idx : Nat) (hidx : idx < (hRun inStat owner g []).length) (p : Nat) :
    Agree p ((hRun inStat owner g []).getD idx (.leaf PS.none))
      ((exec3 sem inp tape g (fun _ => []) p).getD idx .nil)
      ((evalG sem real (gtape tape owner) g []).getD idx .nil) :=
  holders_agree sem inp tape real inStat owner hin g idx p

/-- **Revealed output.** If the check passes, every listed output party ends the three-party run
    with exactly the value the one-evaluator run computes — whatever junk the other parties'
    inputs were replaced by, and whatever the three random tapes are. -/
theorem revealed_correct (hin : ∀ i p, Agree p (inStat i) (inp p i) (real i)) (g : List Node)
    (out : Nat) (hout : out < g.length) (outs : PS)
    (hok : okRevealed inStat owner g out outs = true) (p : Nat) (hp : PS.mem p outs = true) :
    (exec3 sem inp tape g (fun _ => []) p).getD out .nil
      = (evalG sem real (gtape tape owner) g []).getD out .nil := by
  exact agree_meet p _ _ _ (holders_agree sem inp tape real inStat owner hin g out p)
    (PS.mem_subset p _ _ (Bool.and_eq_true_iff.1 hok).2 hp)

/-- **Shared output.** If the check passes, party i ends with components i and i+1 of the global
    output (so neighbours' copies are consistent and the three components are those of the
    one-evaluator run). -/
theorem shared_correct (hin : ∀ i p, Agree p (inStat i) (inp p i) (real i)) (g : List Node)
    (out : Nat) (hout : out < g.length) (hok : okShared inStat owner g out = true) :
    let v := fun p => (exec3 sem inp tape g (fun _ => []) p).getD out .nil
    let w := (evalG sem real (gtape tape owner) g []).getD out .nil
    nthV 0 (v 0) = nthV 0 w ∧ nthV 1 (v 0) = nthV 1 w ∧
    nthV 1 (v 1) = nthV 1 w ∧ nthV 2 (v 1) = nthV 2 w ∧
    nthV 2 (v 2) = nthV 2 w ∧ nthV 0 (v 2) = nthV 0 w := by
  simp only [okShared, Bool.and_eq_true] at hok
  obtain ⟨⟨⟨⟨⟨⟨_, h00⟩, h01⟩, h11⟩, h12⟩, h22⟩, h20⟩ := hok
  have H := fun p => holders_agree sem inp tape real inStat owner hin g out p
  intro v w
  exact ⟨agree_meet 0 _ _ _ (agree_nth 0 0 _ _ _ (H 0)) h00,
    agree_meet 0 _ _ _ (agree_nth 0 1 _ _ _ (H 0)) h01,
    agree_meet 1 _ _ _ (agree_nth 1 1 _ _ _ (H 1)) h11,
    agree_meet 1 _ _ _ (agree_nth 1 2 _ _ _ (H 1)) h12,
    agree_meet 2 _ _ _ (agree_nth 2 2 _ _ _ (H 2)) h22,
    agree_meet 2 _ _ _ (agree_nth 2 0 _ _ _ (H 2)) h20⟩

/-- **Revealed output, trie-based check** (the form used by the generated obligations: same analysis,
    O(log n) environment so that the kernel can evaluate it on graphs of thousands of nodes). -/
theorem revealedT_correct (hin : ∀ i p, Agree p (inStat i) (inp p i) (real i)) (g : List Node)
    (out : Nat) (outs : PS) (hok : okRevealedT inStat owner g out outs = true)
    (p : Nat) (hp : PS.mem p outs = true) :
    (exec3 sem inp tape g (fun _ => []) p).getD out .nil
      = (evalG sem real (gtape tape owner) g []).getD out .nil :=
  let ⟨h1, h2⟩ := okRevealedT_sound inStat owner g out outs hok
  revealed_correct sem inp tape real inStat owner hin g out h2 outs h1 p hp

/-- **Shared output, trie-based check.** -/
theorem sharedT_correct (hin : ∀ i p, Agree p (inStat i) (inp p i) (real i)) (g : List Node)
    (out : Nat) (hok : okSharedT inStat owner g out = true) :
    let v := fun p => (exec3 sem inp tape g (fun _ => []) p).getD out .nil
    let w := (evalG sem real (gtape tape owner) g []).getD out .nil
    nthV 0 (v 0) = nthV 0 w ∧ nthV 1 (v 0) = nthV 1 w ∧
    nthV 1 (v 1) = nthV 1 w ∧ nthV 2 (v 1) = nthV 2 w ∧
    nthV 2 (v 2) = nthV 2 w ∧ nthV 0 (v 2) = nthV 0 w :=
  let ⟨h1, h2⟩ := okSharedT_sound inStat owner g out hok
  shared_correct sem inp tape real inStat owner hin g out h2 h1

end
end CCV.C02
