import CCV.Lemmas.InlineMap
import CCV.Lemmas.InlineBatchMain
import CCV.Lemmas.InlineBatchOneBit
/-
  C07 — inlining preserves Call/Iterate semantics in every mode.
  Property theorems only (about the model functions of CCV/Model/Inline.lean and
  CCV/Model/InlineBatch.lean); helper lemmas and the specification functions `scanl1`, `sumO`,
  `Assoc` live in CCV/Lemmas/Inline.lean.

  `scanl1 f [x₀,x₁,…] = [x₀, x₀⊕x₁, (x₀⊕x₁)⊕x₂, …]`; `sumO f` = left fold, `none` on `[]`.
-/
namespace CCV.C07
open CCV CCV.Inline

variable {α : Type} {f : α → α → α}

/-! ## prefix sums and log-depth sum: every associative `⊕`, every length -/

/-- `log_depth_sum` returns the left fold of the items for every associative combine operation and
    every non-empty vector; on the empty vector the code returns `Err` (model: `none`), which is also
    what `sumO` gives. -/
theorem logDepthSum_fold (h : Assoc f) (items : List α) : logDepthSum f items = sumO f items :=
  logDepthSum_eq h items

/-- `prefix_sums_binary_ascent` returns the list of prefix folds (length 0: the empty list). -/
theorem prefixBinaryAscent_scan (h : Assoc f) (items : List α) :
    prefixBinaryAscent f items = scanl1 f items :=
  prefixBinaryAscent_eq h items

/-- `prefix_sums_sqrt_trick`, with the block size the code uses, returns the list of prefix folds. -/
theorem prefixSqrt_scan (h : Assoc f) (items : List α) : prefixSqrt f items = scanl1 f items :=
  prefixSqrt_eq h items

/-- The sqrt trick returns the list of prefix folds with any block size ≥ 1 (so the result does not depend
    on how `sqrt` rounds). -/
theorem prefixSqrt_anyBlock (h : Assoc f) (block : Nat) (hb : 1 ≤ block) (items : List α) :
    (prefixSqrtBT f block items).1 = scanl1 f items :=
  prefixSqrtB_eq h block hb items

/-- `prefix_sums_segment_tree` returns the list of prefix folds. -/
theorem prefixSegmentTree_scan (h : Assoc f) (items : List α) :
    prefixSegmentTree f items = scanl1 f items :=
  prefixSegmentTree_eq h items

/-- `pick_prefix_sum_algorithm` always returns one of the three algorithms, hence the list of prefix folds. -/
theorem pick_scan (h : Assoc f) (level : Level) (inputsLen : Nat) (items : List α) :
    pick level inputsLen f items = scanl1 f items :=
  pick_eq h level inputsLen items

/-- The picked algorithm's result is independent of the optimisation level and of the 15/16 switch. -/
theorem pick_independent (h : Assoc f) (l₁ l₂ : Level) (n₁ n₂ : Nat) (items : List α) :
    pick l₁ n₁ f items = pick l₂ n₂ f items := by
  rw [pick_scan h, pick_scan h]

theorem scanl1_get (items : List α) (i : Nat) (hi : i < items.length) :
    (scanl1 f items)[i]? = sumO f (items.take (i + 1)) := by
  cases items with
  | nil => simp at hi
  | cons x xs =>
    cases i with
    | zero => simp [scanl1, sumO]
    | succ i =>
      simp only [scanl1, List.getElem?_cons_succ, List.take_succ_cons, sumO]
      exact scanAux_getElem? xs x i (by simpa using hi)

/-! non-vacuity: list append is associative and NOT commutative; lengths across the 15/16 switch -/

theorem append_assoc' : Assoc (fun (a b : List Nat) => a ++ b) := fun a b c => List.append_assoc a b c

def gens (n : Nat) : List (List Nat) := (List.range n).map (fun i => [i])

example : prefixSqrt (· ++ ·) (gens 13) = scanl1 (· ++ ·) (gens 13) := by decide +kernel
example : (prefixSqrt (· ++ ·) (gens 13))[12]? = some (List.range 13) := by decide +kernel
example : prefixSegmentTree (· ++ ·) (gens 17) = scanl1 (· ++ ·) (gens 17) := by decide +kernel
example : prefixBinaryAscent (· ++ ·) (gens 11) = scanl1 (· ++ ·) (gens 11) := by decide +kernel
example : pick .default 15 (· ++ ·) (gens 15) = pick .default 16 (· ++ ·) (gens 15) := by decide +kernel
example : logDepthSum (· ++ ·) (gens 7) = some (List.range 7) := by decide +kernel
example : logDepthSum (· ++ ·) (gens 0) = none := by decide +kernel
/-- argument order matters: the flipped (still associative) operation gives a different answer -/
example : prefixSegmentTree (fun a b => b ++ a) (gens 3) ≠ prefixSegmentTree (· ++ ·) (gens 3) := by decide +kernel

/-! ## Iterate strategies vs the reference loop of `evaluate_call_iterate` -/

/-- simple inlining = the reference loop (any body, any state) -/
theorem iterSimple_ref (g : S → I → S × O) (s : S) (xs : List I) : iterSimple g s xs = iterRef g s xs := by
  rw [iterSimple, iterSimpleLoop_spec, List.nil_append]

/-- empty-state strategy: when the state type has a single value (the empty tuple), giving every
    copy the initial state and returning the initial state is the reference loop. -/
theorem iterEmptyState_ref (hS : ∀ a b : S, a = b) (g : S → I → S × O) (s : S) (xs : List I) :
    iterEmptyState g s xs = iterRef g s xs := by
  induction xs generalizing s with
  | nil => rfl
  | cons x xs ih =>
    have e : (g s x).1 = s := hS _ _
    simp only [iterRef, e, ← ih s, iterEmptyState, List.map_cons]

/-- associative strategy (contract: `(a, b) ↦ body(a, b).0` is associative; if the output type is the
    empty tuple, all its values are equal): in both optimisation levels, at every length (0, 1 and
    both sides of the 15/16 switch included), the prefix-sum based inlining computes exactly the
    reference loop — final state and every output. -/
theorem iterAssoc_ref {O : Type} (g : α → α → α × O) (h : Assoc (fun a b => (g a b).1)) (level : Level)
    (emptyOut : Bool) (unit : O) (hu : emptyOut = true → ∀ o : O, o = unit) (s : α) (xs : List α) :
    iterAssoc level emptyOut unit g s xs = iterRef g s xs := by
  unfold iterAssoc
  cases xs with
  | nil => rfl
  | cons x t =>
    simp only [List.isEmpty_cons, Bool.false_eq_true, if_false]
    rw [iterRef_closed, logDepthSum_eq h, sumO_eq_getLast, pick_eq h, scanl1, scanAux_eq_stepScan,
      getLast?_cons_getD]
    split
    · rename_i he
      congr 1
      apply eq_of_all_unit (hu he)
      simp only [List.length_map, List.length_zipWith, List.length_cons, stepScan_length]
      omega
    · rfl

/-- non-vacuity: body(a, b) = (a ++ b, a.length) on lists — associative, non-commutative, the output
    depends on the state *before* the step; 17 inputs (segment tree in the default level) -/
example : iterAssoc .default false 0 (fun (a b : List Nat) => (a ++ b, a.length)) [100] (gens 17)
    = iterRef (fun (a b : List Nat) => (a ++ b, a.length)) [100] (gens 17) := by decide +kernel
example : (iterAssoc .extreme false 0 (fun (a b : List Nat) => (a ++ b, a.length)) [100] (gens 3)).2 = [1, 2, 3] := by
  decide +kernel

/-! ## one-bit state (`MappingCombiner1Bit`, `extract_state_from_mapping`) -/

/-- composition of 1-bit transition tables is function composition (first `m1`, then `m2`) -/
theorem comb1_compose (s : Bool) (m1 m2 : Map1) : extract1 s (comb1 m1 m2) = extract1 (extract1 s m1) m2 :=
  extract1_comb1 s m1 m2

/-- extraction from the table built from the body is application of the body's transition function -/
theorem extract1_apply (g : Bool → I → Bool × O) (x : I) (s : Bool) :
    extract1 s ((g false x).1, (g true x).1) = (g s x).1 :=
  extract1_mapOf (fun a b => (g a b).1) x s

/-- the 1-bit combiner is associative (so the prefix-sum theorems apply to it) -/
theorem comb1_associative : Assoc comb1 := comb1_assoc

/-- one-bit strategy = reference loop, for every body on one state bit, both levels, every length. -/
theorem iterOneBit_ref {I O : Type} (g : Bool → I → Bool × O) (level : Level) (emptyOut : Bool) (unit : O)
    (hu : emptyOut = true → ∀ o : O, o = unit) (s : Bool) (xs : List I) :
    iterOneBit level emptyOut unit g s xs = iterRef g s xs :=
  iterOneBit_eq_ref g level emptyOut unit hu s xs

/-- non-vacuity: a body that is neither constant nor linear in the state (`s' = s·x₀ ⊕ x₁`), output =
    old state; 17 steps -/
example :
    let g : Bool → Bool × Bool → Bool × Bool := fun s x => (xor (s && x.1) x.2, s)
    let xs := (List.range 17).map (fun i => (i % 3 != 0, i % 5 == 1))
    iterOneBit .default false false g true xs = iterRef g true xs ∧ (iterRef g true xs).1 = true := by
  decide +kernel

/-! ## small state: transition matrices over GF(2) (`create_mapping_matrix`, `MappingCombiner`,
    `extract_state_from_mapping`) -/

/-- the product of the transition matrices of `p` then `q` is the transition matrix of `q ∘ p`
    (rows `i < N`, when `p` maps `[0,N)` into itself) -/
theorem matMul_ofFun (N : Nat) (p q : Nat → Nat) (i j : Nat) (hp : p i < N) :
    matMul N (matOfFun p) (matOfFun q) i j = matOfFun (q ∘ p) i j := by
  simp only [matMul, matOfFun, Function.comp]
  exact xsum_single (fun k => q k == j) (p i) N hp

/-- one-hot row vector times transition matrix = one-hot of the image: extraction is application -/
theorem vecMul_oneHot (N : Nat) (p : Nat → Nat) (s j : Nat) (hs : s < N) :
    vecMul N (oneHot s) (matOfFun p) j = oneHot (p s) j := by
  simp only [vecMul, matOfFun, oneHot]
  exact xsum_single (fun k => p k == j) s N hs

/-- decoding a one-hot vector with the mask array gives back the bits of the state -/
theorem decodeBit_oneHot (N : Nat) (s b : Nat) (hs : s < N) : decodeBit N (oneHot s) b = s.testBit b := by
  simp only [decodeBit, oneHot]
  exact xsum_single (fun j => j.testBit b) s N hs

/-- non-vacuity (N = 4): a non-invertible map followed by a permutation -/
example : matMul 4 (matOfFun (fun i => i / 2)) (matOfFun (fun i => (i + 1) % 4)) 3 2 = true := by decide +kernel
example : decodeBit 4 (vecMul 4 (oneHot 3) (matOfFun (fun i => (i + 3) % 4))) 1 = true := by decide +kernel

/-- GF(2) matrix product is associative on arbitrary matrices (so the prefix-sum theorems apply) -/
theorem matMul_associative (N : Nat) : Assoc (matMul N) := matMul_assoc N

/-- small-state strategy = reference loop: for every `K`, every body on `K`-bit states (numbered by
    their mask; the body maps valid states to valid states), both levels, every length: building the
    transition matrices, combining them with any of the prefix algorithms / `log_depth_sum`, and
    extracting with the one-hot initial state computes exactly the reference loop.  (One unbatched
    state; under the contract of the strategy every row of a batched state is such an instance.) -/
theorem iterSmall_ref {I O : Type} (K : Nat) (g : Nat → I → Nat × O)
    (hg : ∀ st x, st < 2 ^ K → (g st x).1 < 2 ^ K) (level : Level) (emptyOut : Bool) (unit : O)
    (hu : emptyOut = true → ∀ o : O, o = unit) (s : Nat) (hs : s < 2 ^ K) (xs : List I) :
    iterSmall level K emptyOut unit g s xs = iterRef g s xs := by
  rw [iterSmall_eq_iterVia]
  exact iterVia_assoc hu (matMul_assoc _) g _ _ _ s xs
    (extractS_scanl1 K _ (fun st x => (g st x).1) (fun _ _ _ _ => rfl) hg s hs xs) level xs.length

/-- non-vacuity (K = 2): a counter that is incremented when the input is odd and reset to 3 when the
    input is 0 (neither invertible nor linear); output = old state -/
example :
    let g : Nat → Nat → Nat × Nat := fun st x => (if x = 0 then 3 else (st + x % 2) % 4, st)
    iterSmall .default 2 false 0 g 1 [1, 2, 3, 0, 5] = iterRef g 1 [1, 2, 3, 0, 5]
      ∧ (iterRef g 1 [1, 2, 3, 0, 5]).2 = [1, 2, 2, 3, 3] := by
  decide +kernel

/-! ## batched states: the array layout of `exponential_inliner.rs`

  `iterSmallB` / `iterOneBitB` (CCV/Model/InlineBatch.lean) run `inline_iterate_small_state` on flat
  BIT arrays with the evaluator-shaped operations of `CCV.Ops`: `mask_to_value`, `one_hot_encode`
  (Add, GetSlice `[..., k]`, Multiply, CreateVector + VectorToArray), `create_mapping_matrix`,
  `create_mappings` (stacking, PermuteAxes, Get), the batched `matmul` combiner, the Reshape +
  PermuteAxes of `initial_state_one_hot` and `masks_arr`, and `extract_state_from_mapping`.
  A body is a function on flat state arrays; the contract of the strategy (`RowWise` / `PosWise`:
  row `β` of the new state depends only on row `β` of the old state) is the hypothesis. -/

open CCV.InlineBatch CCV.Shape

/-- batched small state = reference loop: for every batch shape `B` (any rank, all dimensions
    positive; rank 0 = the unbatched state `[K]`), every `K ≥ 1`, every body satisfying the row-wise
    contract, both levels, every number of steps, every well-formed initial state: the array-level
    inlining returns exactly the final state array and the outputs of the reference loop. -/
theorem iterSmallB_ref {I O : Type} (B : List Nat) (K : Nat) (hB : pos B) (hK : 1 ≤ K)
    (G : List Nat → I → List Nat × O) (g : List Nat → Nat → I → Nat)
    (hG : RowWise B K (fun st x => (G st x).1) g) (level : Level) (emptyOut : Bool) (unit : O)
    (hu : emptyOut = true → ∀ o : O, o = unit) (s : List Nat) (hs : WF (B ++ [K]) s) (xs : List I) :
    iterSmallB level B K emptyOut unit G s xs = iterRef G s xs := by
  rw [iterSmallB_eq_iterVia]
  exact iterVia_hom_rows (V := fun β => validIdx β B) (row := fun β S => rowNat B K S β) (step' := g)
    (e' := fun β => extractS K (rowNat B K s β)) (hm := rowMat B (2 ^ K)) hu G ⟨_, validIdx_zero B hB⟩ hG.wf
    (fun β S x hβ hS => hG.row S x β hS hβ) (matMul_assoc (2 ^ K)) (combine_rowMat B K)
    (extractState_eq B K hB hK s hs) _ _ s hs xs
    (fun β hβ => by
      rw [createMappings_rowMat B K _ g hG hB hK xs β hβ]
      exact extractS_scanl1 K (Fm K (g β)) (g β) (Rep_Fm K (g β) (rowStep_lt hG β hβ))
        (rowStep_lt hG β hβ) _ (rowNat_lt B K s β) xs)
    level xs.length

/-- row `β` of the batched result = the single-row construction on row `β`: the `K` bits in row
    `β` of the final state array spell the state that `iterSmall` (the one-row model of the theorems
    above, hence the reference iteration of the row's transition function `g β`) computes from row `β`
    of the initial state. -/
theorem iterSmallB_row {I O : Type} (B : List Nat) (K : Nat) (hB : pos B) (hK : 1 ≤ K)
    (G : List Nat → I → List Nat × O) (g : List Nat → Nat → I → Nat)
    (hG : RowWise B K (fun st x => (G st x).1) g) (level : Level) (emptyOut : Bool) (unit : O)
    (hu : emptyOut = true → ∀ o : O, o = unit) (s : List Nat) (hs : WF (B ++ [K]) s) (xs : List I)
    (β : List Nat) (hβ : validIdx β B) :
    rowNat B K (iterSmallB level B K emptyOut unit G s xs).1 β
      = (iterSmall level K emptyOut unit (fun st x => (g β st x, unit)) (rowNat B K s β) xs).1 := by
  rw [iterSmallB_ref B K hB hK G g hG level emptyOut unit hu s hs xs,
    iterSmall_ref K (fun st x => (g β st x, unit)) (fun st x hst => rowStep_lt hG β hβ st x hst)
      level emptyOut unit hu _ (rowNat_lt B K s β) xs]
  exact iterRef_row (V := fun β => validIdx β B) (row := fun β S => rowNat B K S β) G hG.wf
    (fun β S x hβ hS => hG.row S x β hS hβ) unit hβ s hs xs

/-- the pieces of the layout, as entry formulas (all batch ranks): block `β` of the mapping of step `i`
    is the transition matrix of row `β` -/
theorem createMappings_block {I : Type} (B : List Nat) (K : Nat) (G : List Nat → I → List Nat)
    (g : List Nat → Nat → I → Nat) (hG : RowWise B K G g) (hB : pos B) (hK : 1 ≤ K) (xs : List I)
    (β : List Nat) (hβ : validIdx β B) :
    (createMappings B K G xs).map (rowMat B (2 ^ K) β) = xs.map (Fm K (g β)) :=
  createMappings_rowMat B K G g hG hB hK xs β hβ

/-- the batched BIT `matmul` (`MappingCombiner::combine`) multiplies the blocks of every row -/
theorem combine_block (B : List Nat) (K : Nat) (β : List Nat) (hβ : validIdx β B) (a b : List Nat) :
    rowMat B (2 ^ K) β (combine B K a b) = matMul (2 ^ K) (rowMat B (2 ^ K) β a) (rowMat B (2 ^ K) β b) :=
  combine_rowMat B K β hβ a b

/-- row `β` of the extracted state is `extractS` of the row's initial state and the row's block of the mapping -/
theorem extractState_row (B : List Nat) (K : Nat) (hB : pos B) (hK : 1 ≤ K) (s : List Nat)
    (hs : WF (B ++ [K]) s) (β : List Nat) (hβ : validIdx β B) (p : List Nat) :
    rowNat B K (extractState B K (permuteInitial B K (oneHotEncode B K s)) (masksArr B K) p) β
      = extractS K (rowNat B K s β) (rowMat B (2 ^ K) β p) :=
  natOfBits_congr K _ _ fun k hk => by
    rw [extractState_bit B K hB hK s hs β hβ p k hk, toNat_beq_one]

theorem pos_2_3 : pos [2, 3] := by intro d hd; simp at hd; omega

/-- non-vacuity of the contract: a body that keeps the state when the input is `true` and resets every
    row to the constant 3 otherwise (neither injective nor input-independent), batch shape `[2, 3]` -/
example : RowWise [2, 3] 2 (fun S (x : Bool) => if x then S else maskToValue ([2, 3] ++ [2]) 2 3)
    (fun _ st x => if x then st else 3) :=
  ⟨fun S x h => by cases x <;> simp only [Bool.false_eq_true, if_false, if_true]
                   · exact maskToValue_WF [2, 3] 2 3
                   · exact h,
   fun S x β h hβ => by
     cases x <;> simp only [Bool.false_eq_true, if_false, if_true]
     exact rowNat_mask [2, 3] 2 3 (by decide) β hβ⟩

/-- non-vacuity, concrete run (batch shape `[2]`, `K = 2`, two steps, row `r` adds `x + r` mod 4 or
    is reset to 3 when `x = 0`): the array-level model and the reference loop agree, rows differ -/
example :
    let dec : List Nat → List Nat := fun s => [s.getD 0 0 + 2 * s.getD 1 0, s.getD 2 0 + 2 * s.getD 3 0]
    let enc : List Nat → List Nat := fun r => r.flatMap fun v => [v % 2, v / 2 % 2]
    let G : List Nat → Nat → List Nat × List Nat := fun s x =>
      (enc ((dec s).zipIdx.map fun (v, r) => if x = 0 then 3 else (v + x + r) % 4), dec s)
    iterSmallB .default [2] 2 false [] G [1, 0, 0, 1] [1, 2] = iterRef G [1, 0, 0, 1] [1, 2]
      ∧ (iterRef G [1, 0, 0, 1] [1, 2]).1 = [0, 0, 1, 1] := by
  decide +kernel

/-- batched one-bit state = reference loop: state dimensions `sh` of any rank (`[1]` for a scalar),
    every body whose new entry `q` depends only on the old entry `q`, both levels, every length. -/
theorem iterOneBitB_ref {I O : Type} (sh : List Nat) (hpos : pos sh) (hne : sh ≠ [])
    (G : List Nat → I → List Nat × O) (g : Nat → Bool → I → Bool)
    (hG : PosWise sh (fun st x => (G st x).1) g) (level : Level) (emptyOut : Bool) (unit : O)
    (hu : emptyOut = true → ∀ o : O, o = unit) (s : List Nat) (hs : WF sh s) (xs : List I) :
    iterOneBitB level sh emptyOut unit G s xs = iterRef G s xs := by
  rw [iterOneBitB_eq_iterVia]
  exact iterVia_hom_rows (V := fun q => q < prod sh) (row := fun q S => S.getD q 0 == 1) (step' := g)
    (e' := fun q => extract1 (s.getD q 0 == 1)) (hm := entryMap) hu G ⟨0, prod_pos hpos⟩ hG.wf hG.row
    comb1_assoc (comb1B_entryMap sh hpos) (extract1B_eq sh hpos hne s hs) _ _ s hs xs
    (fun q hq => by
      rw [mappings_entryMap sh _ g hG q hq xs]
      exact extract1_scanl1 (g q) _ xs)
    level xs.length

/-- entry `q` of the batched one-bit result = the single-bit construction (`iterOneBit`) on entry `q` -/
theorem iterOneBitB_row {I O : Type} (sh : List Nat) (hpos : pos sh) (hne : sh ≠ [])
    (G : List Nat → I → List Nat × O) (g : Nat → Bool → I → Bool)
    (hG : PosWise sh (fun st x => (G st x).1) g) (level : Level) (emptyOut : Bool) (unit : O)
    (hu : emptyOut = true → ∀ o : O, o = unit) (s : List Nat) (hs : WF sh s) (xs : List I)
    (q : Nat) (hq : q < prod sh) :
    (iterOneBitB level sh emptyOut unit G s xs).1.getD q 0
      = ((iterOneBit level emptyOut unit (fun b x => (g q b x, unit)) (s.getD q 0 == 1) xs).1).toNat := by
  have hwf : WF sh (iterRef G s xs).1 := by
    rw [iterRef_closed]
    cases hl : (stepScan (fun a b => (G a b).1) s xs).getLast? with
    | none => exact hs
    | some T => exact stepScan_WF hG.wf xs s hs T (List.mem_of_getLast? hl)
  rw [iterOneBitB_ref sh hpos hne G g hG level emptyOut unit hu s hs xs,
    iterOneBit_eq_ref _ level emptyOut unit hu,
    ← iterRef_row (V := fun q => q < prod sh) (row := fun q S => S.getD q 0 == 1) G hG.wf hG.row unit hq s hs xs,
    toNat_beq_of_lt _ (hwf.2 q)]

/-- non-vacuity: elementwise `s' = s·x ⊕ [position is odd]`, shape `[2, 2]`, five steps -/
example :
    let G : List Nat → Nat → List Nat × List Nat := fun s x =>
      (s.zipIdx.map fun (v, r) => (v * x + r) % 2, s)
    iterOneBitB .default [2, 2] false [] G [1, 0, 1, 1] [1, 1, 0, 1, 1] = iterRef G [1, 0, 1, 1] [1, 1, 0, 1, 1]
      ∧ (iterRef G [1, 0, 1, 1] [1, 1, 0, 1, 1]).1 = [0, 1, 0, 1] := by
  decide +kernel

end CCV.C07
