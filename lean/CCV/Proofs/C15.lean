import CCV.Lemmas.Random
/-
  C15 — PRF and PRNG are deterministic, in-domain and unbiased.
  The property theorems; the lemmas about the model live in CCV/Lemmas/Random.lean.
  `blocks i` is the i-th 16-byte AES block of the counter-mode stream of one (key, iv) — AES itself is
  not modelled; `streamSlice blocks a n` are the stream bytes `a .. a+n-1`.
-/
namespace CCV.C15
open CCV CCV.Random

/-- **Reads are the stream, whatever the buffer schedule and call pattern.**  For every initial buffer
    size ≥ 1 (so every growth schedule 16·⌈ibs/16⌉ → ×2 → … → 512) and every sequence of read sizes,
    `generate_random_bytes` never fails, the k-th call returns exactly `reads[k]` bytes, and the
    concatenation of everything delivered is the prefix of the counter-mode byte stream.
    (`ibs = 0` is excluded: with a zero-sized buffer the Rust loop never terminates; `Prf` only uses
    it in `output_permutation(_, 0)`, which draws nothing.) -/
theorem reads_are_stream_prefix (blocks : Nat → List Nat) (hb : ∀ i, (blocks i).length = 16)
    (ibs : Nat) (hibs : 1 ≤ ibs) (reads : List Nat) :
    ∃ s' out, readMany blocks (Session.new ibs) reads = .ok (s', out)
      ∧ out.flatten = streamSlice blocks 0 reads.sum
      ∧ out.map List.length = reads := by
  suffices h : ∀ (reads : List Nat) (pos : Nat), ∃ out,
      Reads blocks (fun s => readMany blocks s reads) pos out reads.sum
        ∧ out.flatten = streamSlice blocks pos reads.sum ∧ out.map List.length = reads by
    obtain ⟨out, hr, h2, h3⟩ := h reads 0
    obtain ⟨s', h1, _⟩ := hr _ (inv_new blocks ibs hibs)
    exact ⟨s', out, h1, h2, h3⟩
  intro reads
  induction reads with
  | nil => exact fun pos => ⟨[], fun s hinv => ⟨s, rfl, hinv⟩, rfl, rfl⟩
  | cons n ns ih =>
    intro pos
    obtain ⟨out, hr, hcat, hlen⟩ := ih (pos + n)
    refine ⟨streamSlice blocks pos n :: out, (generateRandomBytes_spec blocks hb n pos).cons hr
      fun s s1 s2 h1 h2 => by simp only [readMany, h1, h2], ?_, ?_⟩
    · rw [List.flatten_cons, List.sum_cons, hcat, streamSlice_add]
    · rw [List.map_cons, length_streamSlice, hlen]

/-- non-vacuity: a 3-block stream `blocks i = [16i, …, 16i+15]`, initial buffer 1 (→16), reads 5,0,20,7
    straddle two buffer refills of sizes 16 and 32 -/
example : (match readMany (fun i => (List.range 16).map (16 * i + ·)) (Session.new 1) [5, 0, 20, 7] with
    | .ok (_, out) => out
    | .error _ => [])
    = [[0, 1, 2, 3, 4], [], (List.range 20).map (5 + ·), (List.range 7).map (25 + ·)] := by
  decide +kernel


/-- **The second read path is the stream too.**  `generate_random_number_const::<need>` (used by
    `generate_u32_in_range`; it has its own buffer-straddling code) returns the next `need` stream bytes
    as a little-endian number, from any session state at stream position `pos`. -/
theorem randomNumber_is_stream (blocks : Nat → List Nat) (hb : ∀ i, (blocks i).length = 16)
    (s : Session) (pos need : Nat) (hinv : Inv blocks s pos) (hneed : need ≤ 16) :
    (randomNumber blocks s need).2 = leValue (streamSlice blocks pos need) % 2 ^ (8 * need)
      ∧ Inv blocks (randomNumber blocks s need).1 (pos + need) :=
  randomNumber_spec blocks hb s pos need hinv hneed

/-- **Bounded draws do not depend on the buffer schedule.**  For all moduli `< 2^32` and any two initial
    buffer sizes ≥ 1, two sessions over the same key stream return the same sequence of
    `generate_u32_in_range` draws (or fail alike: modulus 0 / budget exhausted) and end at the same stream
    position.  Hence the draws of `output_permutation` are a function of the key stream only. -/
theorem u32_draws_buffer_independent (blocks : Nat → List Nat) (hb : ∀ i, (blocks i).length = 16)
    (fuel : Nat) (ms : List Nat) (hms : ∀ m ∈ ms, m < 2 ^ 32) (ibs1 ibs2 : Nat) (h1 : 1 ≤ ibs1) (h2 : 1 ≤ ibs2) :
    SameUpToSession blocks (u32Many blocks fuel (Session.new ibs1) ms)
      (u32Many blocks fuel (Session.new ibs2) ms) :=
  u32Many_same blocks hb fuel ms hms _ _ 0 (inv_new blocks ibs1 h1) (inv_new blocks ibs2 h2)

/-- non-vacuity: 20 draws mod 7 (two bytes each, none rejected) with a 16-byte and a 512-byte buffer
    agree; the small buffer is filled twice (16 bytes at draw 1, 32 bytes at draw 9), both times with no
    ready byte left, so no draw straddles a refill here -/
example :
    let blocks := fun i => (List.range 16).map (fun x => (37 * (16 * i + x) + 11) % 256)
    (match u32Many blocks 9 (Session.new 1) (List.replicate 20 7) with | .ok (_, r) => r | .error _ => [])
      = (match u32Many blocks 9 (Session.new 512) (List.replicate 20 7) with | .ok (_, r) => r | .error _ => [])
    ∧ (match u32Many blocks 9 (Session.new 1) (List.replicate 20 7) with | .ok (_, r) => r.length | .error _ => 0) = 20 := by
  decide +kernel

/-- **A generated value depends only on the stream position and the type.**  Two sessions — whatever
    their buffer sizes, fill levels and histories — that have delivered the same number `pos` of stream
    bytes produce the same value for every type `t` (nested tuples / vectors included), never fail, and
    the value is well-typed: right shape and byte lengths, bytes < 256, and every scalar/array leaf
    stores an integer `< 2^bits`, i.e. all unused bits are zero. -/
theorem genValue_deterministic (blocks : Nat → List Nat) (hb : ∀ i, (blocks i).length = 16)
    (hbyte : ∀ i, ∀ x ∈ blocks i, x < 256) (t : RTy) (s1 s2 : Session) (pos : Nat)
    (h1 : Inv blocks s1 pos) (h2 : Inv blocks s2 pos) :
    ∃ v s1' s2', genValue blocks t s1 = .ok (s1', v) ∧ genValue blocks t s2 = .ok (s2', v)
      ∧ WellTyped t v := by
  obtain ⟨v, n, hv, hgen⟩ := genValue_spec blocks hb hbyte t pos
  obtain ⟨s1', e1, _⟩ := hgen s1 h1
  obtain ⟨s2', e2, _⟩ := hgen s2 h2
  exact ⟨v, s1', s2', e1, e2, hv⟩

/-- **`Prf::output_value` is a function of (key stream, type) only**: the initial buffer size (hence
    the whole buffer-growth schedule) is irrelevant, the call never fails, and the value is in-domain.
    Purity in the key/iv is by construction: `prfValue` has no other input than the stream of (key, iv). -/
theorem prfValue_pure (blocks : Nat → List Nat) (hb : ∀ i, (blocks i).length = 16)
    (hbyte : ∀ i, ∀ x ∈ blocks i, x < 256) (t : RTy) (ibs1 ibs2 : Nat) (h1 : 1 ≤ ibs1) (h2 : 1 ≤ ibs2) :
    ∃ v, prfValue blocks ibs1 t = .ok v ∧ prfValue blocks ibs2 t = .ok v ∧ WellTyped t v := by
  obtain ⟨v, s1', s2', e1, e2, hv⟩ := genValue_deterministic blocks hb hbyte t _ _ 0
    (inv_new blocks ibs1 h1) (inv_new blocks ibs2 h2)
  exact ⟨v, by simp only [prfValue, e1], by simp only [prfValue, e2], hv⟩

/-- non-vacuity: tuple (11-bit array, vector of two u8) over the stream 255,254,…: the 11-bit leaf is
    [255, 254 >> 5] = [255, 7], i.e. the integer 2047 < 2^11 -/
example : prfValue (fun i => (List.range 16).map (255 - 16 * i - ·)) 64
    (.tup [.arr 1 [11], .vec 2 (.arr 8 [])]) = .ok (.vec [.bytes [255, 7], .vec [.bytes [253], .bytes [252]]]) := by
  rfl

/-- number of draws `r` of the draw space `[0, N)` that the sampler accepts (`r ≤ bound`) and maps to
    residue `c` (`r % m = c`) -/
def acceptedWithResidue (N bound m c : Nat) : Nat :=
  ((List.range N).filter (fun r => r ≤ bound ∧ r % m = c)).length

theorem accepted_eq_countRes (N B m c : Nat) (h : B < N) :
    acceptedWithResidue N B m c = countRes (B + 1) m c := by
  obtain ⟨d, rfl⟩ := Nat.exists_eq_add_of_le (Nat.succ_le_of_lt h)
  unfold acceptedWithResidue countRes
  rw [List.range_add, List.filter_append, List.length_append, List.filter_map, List.length_map]
  have h1 : (List.range (B + 1)).filter (fun r => r ≤ B ∧ r % m = c)
      = (List.range (B + 1)).filter (fun r => r % m = c) :=
    List.filter_congr fun x hx => by
      simp only [Nat.le_of_lt_succ (List.mem_range.mp hx), true_and]
  have h2 : (List.range d).filter ((fun r => decide (r ≤ B ∧ r % m = c)) ∘ fun x => B + 1 + x) = [] :=
    List.filter_eq_nil_iff.mpr fun x _ => by
      have : ¬ B + 1 + x ≤ B := fun h => Nat.not_succ_le_self B (Nat.le_trans (Nat.le_add_right _ x) h)
      simp only [Function.comp_apply, this, false_and, decide_false, Bool.false_eq_true, not_false_eq_true]
  rw [h1, h2, List.length_nil, Nat.add_zero]

/-- **Rejection sampling with bound `N − 1 − (N mod m)` is unbiased**: over a draw space of `N ≥ m`
    equally likely numbers, every residue `c < m` has exactly `N / m ≥ 1` accepted preimages. -/
theorem rejection_unbiased (N m c : Nat) (hm : 1 ≤ m) (hN : m ≤ N) (hc : c < m) :
    acceptedWithResidue N (N - 1 - N % m) m c = N / m ∧ 1 ≤ N / m := by
  have hq : 1 ≤ N / m := Nat.div_pos hN hm
  -- the accepted draws are exactly the `N / m` full blocks of `m` numbers
  have hB : N - 1 - N % m + 1 = m * (N / m) := by
    rw [Nat.sub_right_comm, Nat.sub_eq_of_eq_add (Nat.div_add_mod N m).symm,
      Nat.sub_add_cancel (Nat.mul_pos hm hq)]
  have hlt : N - 1 - N % m + 1 ≤ N := hB ▸ Nat.mul_div_le N m
  refine ⟨?_, hq⟩
  rw [accepted_eq_countRes N _ m c hlt, hB, countRes_mul m _ c hc]

/-- the same with the bound as the code computes it from `max = N − 1` -/
theorem rejection_unbiased_max (N m c : Nat) (hm : 1 ≤ m) (hN : m ≤ N) (hc : c < m) :
    acceptedWithResidue N (N - 1 - (N - 1 + 1) % m) m c = N / m := by
  rw [Nat.sub_add_cancel (Nat.le_trans hm hN)]
  exact (rejection_unbiased N m c hm hN hc).1

/-- **`generate_u32_in_range` has no modulo bias**, for every modulus `m ≥ 1`: with `nb = need_bytes`
    random bytes (draw space `2^(8·nb)`, which is ≥ 256·m) and the code's `rejection_bound`, each residue
    `c < m` has exactly `2^(8·nb) / m` accepted preimages.  (`m = 0`: the code panics on `% 0`.) -/
theorem u32_in_range_unbiased (m c : Nat) (hm : 1 ≤ m) (hc : c < m) :
    acceptedWithResidue (2 ^ (needBytes m * 8)) (rejectionBound m (needBytes m)) m c
      = 2 ^ (needBytes m * 8) / m ∧ 256 ≤ 2 ^ (needBytes m * 8) / m := by
  have hsp := needBytes_space m
  exact ⟨rejection_unbiased_max _ m c hm (Nat.le_trans (Nat.le_mul_of_pos_left m (by decide)) hsp) hc,
    (Nat.le_div_iff_mul_le hm).mpr hsp⟩

/-- non-vacuity: m = 3 uses 2 bytes; bound 65534 rejects only 65535; 21845 preimages per residue -/
example : needBytes 3 = 2 ∧ rejectionBound 3 2 = 65534 ∧ 2 ^ (needBytes 3 * 8) / 3 = 21845 := by decide

/-- **`PRNG::get_random_in_range(Some(m))` has no modulo bias**, for every `1 ≤ m < 2^64`: over the
    `2^64` equally likely 8-byte draws, with the code's bound `u64::MAX − ((u64::MAX % m) + 1) % m`,
    each residue `c < m` has exactly `2^64 / m` accepted preimages.  (`m = 0`: the code panics on `% 0`.) -/
theorem u64_in_range_unbiased (m c : Nat) (hm : 1 ≤ m) (hm64 : m < 2 ^ 64) (hc : c < m) :
    acceptedWithResidue (2 ^ 64) (rejectionBound64 m) m c = 2 ^ 64 / m ∧ 1 ≤ 2 ^ 64 / m := by
  have hN := Nat.le_of_lt hm64
  refine ⟨?_, Nat.div_pos hN hm⟩
  rw [rejectionBound64, Nat.mod_add_mod]
  exact rejection_unbiased_max _ m c hm hN hc

/-- non-vacuity: m = 2^63 + 1 — almost half of the draws are rejected, one preimage per residue -/
example : rejectionBound64 (2 ^ 63 + 1) = 2 ^ 63 ∧ 2 ^ 64 / (2 ^ 63 + 1) = 1 := by decide

/-- **Bounded PRF draws lie in range**: whatever the stream, a successful `generate_u32_in_range(m)`
    returns a number `< m`. -/
theorem u32InRange_lt (blocks : Nat → List Nat) (fuel : Nat) (s s' : Session) (m r : Nat)
    (h : u32InRange blocks fuel s m = .ok (s', r)) : r < m := by
  unfold u32InRange at h
  split at h
  · cases h
  · rename_i hm
    generalize needBytes m = nb at h
    generalize rejectionBound m nb = bound at h
    induction fuel generalizing s with
    | zero => cases h
    | succ f ih =>
      simp only [u32Loop] at h
      split at h
      · injection h with h; injection h with _ h; subst h; exact Nat.mod_lt _ (Nat.pos_of_ne_zero hm)
      · exact ih _ h

/-- **Bounded PRNG draws lie in range**: a successful `get_random_in_range(Some(m))` returns `< m`. -/
theorem getRandomInRange_lt (blocks : Nat → List Nat) (fuel : Nat) (s s' : Session) (m r : Nat)
    (h : getRandomInRange blocks fuel s (some m) = .ok (s', r)) : r < m := by
  simp only [getRandomInRange] at h
  split at h
  · cases h
  · rename_i hm
    generalize rejectionBound64 m = bound at h
    induction fuel generalizing s with
    | zero => cases h
    | succ f ih =>
      simp only [range64Loop] at h
      split at h
      · cases h
      · split at h
        · injection h with h; injection h with _ h; subst h; exact Nat.mod_lt _ (Nat.pos_of_ne_zero hm)
        · exact ih _ h

/-- `output_permutation` is the pure swap sequence `applySwaps` applied to the draws it makes, and the
    k-th draw is in range (`≤ i + k`, being `< i + k + 1`). -/
theorem permLoop_eq_applySwaps (blocks : Nat → List Nat) (fuel : Nat) :
    ∀ (steps i : Nat) (s s' : Session) (a a' : List Nat),
      permLoop blocks fuel steps i s a = .ok (s', a') →
      ∃ js, js.length = steps ∧ InRange i js ∧ a' = applySwaps a i js := by
  intro steps
  induction steps with
  | zero =>
    intro i s s' a a' h
    injection h with h; injection h with _ h
    exact ⟨[], rfl, inRange_nil i, h.symm⟩
  | succ n ih =>
    intro i s s' a a' h
    simp only [permLoop] at h
    split at h
    · cases h
    · rename_i s1 j hj
      obtain ⟨js, hl, hr, ha⟩ := ih (i + 1) s1 s' (swap a i j) a' h
      exact ⟨j :: js, congrArg (· + 1) hl,
        inRange_cons.mpr ⟨Nat.le_of_lt_succ (u32InRange_lt blocks fuel s s1 (i + 1) j hj), hr⟩, ha⟩

/-- the Fisher–Yates loop of `output_permutation` only permutes its array (indices stay in bounds
    because every draw is `< i + 1`) -/
theorem permLoop_perm (blocks : Nat → List Nat) (fuel : Nat) :
    ∀ (steps i : Nat) (s s' : Session) (a a' : List Nat), i + steps ≤ a.length →
      permLoop blocks fuel steps i s a = .ok (s', a') → a'.Perm a := by
  intro steps i s s' a a' hlen h
  obtain ⟨js, hl, hr, rfl⟩ := permLoop_eq_applySwaps blocks fuel steps i s s' a a' h
  exact applySwaps_perm js a i hr (hl ▸ hlen)

/-- **`Prf::output_permutation(_, n)` returns a permutation of `0..n−1`**, for every `n` and every key
    stream (whenever the rejection loops accept within the fuel). -/
theorem outputPermutation_perm (blocks : Nat → List Nat) (fuel n : Nat) (a : List Nat)
    (h : outputPermutation blocks fuel n = .ok a) : a.Perm (List.range n) := by
  unfold outputPermutation at h
  split at h
  · cases h
  · dsimp only at h
    split at h
    · cases h
    · rename_i s' a' hl
      injection h with h; subst h
      cases n with
      | zero => injection hl with hl; injection hl with _ hl; exact hl ▸ List.Perm.refl _
      | succ n =>
        exact permLoop_perm blocks fuel n 1 _ s' _ _ (Nat.le_of_eq (by rw [List.length_range, Nat.add_comm])) hl

/-- non-vacuity: n = 4 over the stream 0,1,2,… (two-byte draws 256 % 2, 770 % 3, 1284 % 4 = 0, 2, 0) -/
example : outputPermutation (fun i => (List.range 16).map (16 * i + ·)) 10 4 = .ok [3, 0, 2, 1] := by
  rfl

/-- **`shuffle_array` (RandomPermutation and the other PRNG shuffles) only permutes its array.** -/
theorem shuffleArray_perm (blocks : Nat → List Nat) (fuel : Nat) (s s' : Session) (a a' : List Nat)
    (h : shuffleArray blocks fuel s a = .ok (s', a')) : a'.Perm a := by
  unfold shuffleArray at h
  suffices hs : ∀ (c : Nat) (s : Session) (a : List Nat), c ≤ a.length →
      shuffleLoop blocks fuel c s a = .ok (s', a') → a'.Perm a from hs _ s a (Nat.le_refl _) h
  intro c
  induction c with
  | zero => intro s a _ h; injection h with h; injection h with _ h; subst h; exact List.Perm.refl _
  | succ i ih =>
    intro s a hlen h
    simp only [shuffleLoop] at h
    split at h
    · injection h with h; injection h with _ h; subst h; exact List.Perm.refl _
    · split at h
      · cases h
      · rename_i s1 j hj
        have hlt := getRandomInRange_lt blocks fuel s s1 (i + 1) j hj
        have hp := swap_perm a j i (Nat.lt_of_lt_of_le hlt hlen) hlen
        exact (ih s1 (swap a j i) (by rw [length_swap]; exact Nat.le_of_succ_le hlen) h).trans hp

/-! ## uniformity of the shuffle: index sequences ↦ permutations is a bijection -/

/-- for every `n`, the map from in-range index sequences `(j₁ ≤ 1, j₂ ≤ 2, …, j_{n−1} ≤ n−1)` to arrays
    is injective, and every permutation of `0..n−1` is in its image -/
def fisherYatesBijectiveStatement : Prop :=
  ∀ n : Nat,
    (∀ js js' : List Nat, js.length = n - 1 → js'.length = n - 1 → InRange 1 js → InRange 1 js' →
      applySwaps (List.range n) 1 js = applySwaps (List.range n) 1 js' → js = js') ∧
    (∀ p : List Nat, p.Perm (List.range n) →
      ∃ js, js.length = n - 1 ∧ InRange 1 js ∧ applySwaps (List.range n) 1 js = p)

/-- **Every permutation of `0..n−1` has exactly one in-range preimage under the Fisher–Yates map.**
    This is `applySwaps_bijective` for the loop started one index earlier with the forced draw `0`,
    which is the same loop, since `swap a 0 0 = a`. -/
theorem fisherYates_existsUnique (n : Nat) (p : List Nat) (hp : p.Perm (List.range n)) :
    ∃ js, (js.length = n - 1 ∧ InRange 1 js ∧ applySwaps (List.range n) 1 js = p) ∧
      ∀ js', js'.length = n - 1 ∧ InRange 1 js' ∧ applySwaps (List.range n) 1 js' = p → js' = js := by
  cases n with
  | zero =>
    exact ⟨[], ⟨rfl, inRange_nil 1, (List.perm_nil.mp (show p.Perm [] from hp)).symm⟩,
      fun js' h => List.length_eq_zero_iff.mp h.1⟩
  | succ m =>
    have h0 : ∀ js, applySwaps (List.range (m + 1)) 0 (0 :: js) = applySwaps (List.range (m + 1)) 1 js :=
      fun js => congrArg (applySwaps · 1 js) (swap_self _ 0 (by rw [List.length_range]; exact Nat.succ_pos m))
    obtain ⟨js0, ⟨hl, hr, ha⟩, huniq⟩ := applySwaps_bijective (m + 1) (List.range (m + 1)) p
      List.nodup_range hp (Nat.le_of_eq List.length_range.symm) (fun q hq => by
        rw [List.getElem?_eq_none (by rw [hp.length_eq, List.length_range]; exact hq),
          List.getElem?_eq_none (by rw [List.length_range]; exact hq)])
    cases js0 with
    | nil => exact Nat.noConfusion hl
    | cons j js =>
      obtain ⟨hj, hr'⟩ := inRange_cons.mp hr
      obtain rfl : j = 0 := Nat.le_zero.mp hj
      refine ⟨js, ⟨Nat.succ.inj hl, hr', (h0 js).symm.trans ha⟩, fun js' ⟨g1, g2, g3⟩ => ?_⟩
      exact (List.cons.inj (huniq (0 :: js')
        ⟨congrArg (· + 1) g1, inRange_cons.mpr ⟨Nat.le_refl 0, g2⟩, (h0 js').trans g3⟩)).2

/-- **Surjectivity: every permutation of `0..n−1` is the output of the Fisher–Yates loop for some
    in-range sequence of draws**, for every `n`. -/
theorem fisherYates_surjective (n : Nat) (p : List Nat) (hp : p.Perm (List.range n)) :
    ∃ js, js.length = n - 1 ∧ InRange 1 js ∧ applySwaps (List.range n) 1 js = p :=
  let ⟨js, h, _⟩ := fisherYates_existsUnique n p hp
  ⟨js, h⟩

/-- for every `n` the Fisher–Yates map is injective on in-range index sequences, and (for `n ≥ 1`)
    every in-range sequence yields a permutation of `0..n−1`; the latter is not part of
    `fisherYatesBijectiveStatement`. -/
theorem fisherYates_bijective_partial (n : Nat) :
    (∀ js js' : List Nat, js.length = n - 1 → js'.length = n - 1 → InRange 1 js → InRange 1 js' →
      applySwaps (List.range n) 1 js = applySwaps (List.range n) 1 js' → js = js') ∧
    (∀ js : List Nat, js.length = n - 1 → InRange 1 js → 1 ≤ n →
      (applySwaps (List.range n) 1 js).Perm (List.range n)) := by
  have hperm : ∀ js : List Nat, js.length = n - 1 → InRange 1 js → 1 ≤ n →
      (applySwaps (List.range n) 1 js).Perm (List.range n) := fun js h1 hr hn =>
    applySwaps_perm js (List.range n) 1 hr (Nat.le_of_eq (by rw [h1, List.length_range, Nat.add_sub_cancel' hn]))
  refine ⟨fun js js' h1 h2 hr hr' heq => ?_, hperm⟩
  cases n with
  | zero => rw [List.length_eq_zero_iff.mp h1, List.length_eq_zero_iff.mp h2]
  | succ m =>
    obtain ⟨js0, _, huniq⟩ := fisherYates_existsUnique (m + 1) _ (hperm js' h2 hr' (Nat.succ_pos m))
    rw [huniq js ⟨h1, hr, heq⟩, huniq js' ⟨h2, hr', rfl⟩]

/-- **The Fisher–Yates map is injective on in-range index sequences and reaches every permutation of
    `0..n−1`** (that it reaches only permutations is `fisherYates_bijective_partial`): so `n − 1`
    independent draws, the k-th uniform on `0..k`, give a uniformly distributed permutation — each of
    the `n!` permutations has exactly one preimage. -/
theorem fisherYates_bijective : fisherYatesBijectiveStatement :=
  fun n => ⟨(fisherYates_bijective_partial n).1, fisherYates_surjective n⟩

/-- non-vacuity (surjectivity): the permutation [2, 0, 3, 1] of 0..3 is reached by the in-range draws
    0, 0, 2 (and only by them) -/
example : [2, 0, 3, 1].Perm (List.range 4) ∧ InRange 1 [0, 0, 2]
    ∧ applySwaps (List.range 4) 1 [0, 0, 2] = [2, 0, 3, 1] := by
  refine ⟨by decide, ?_, by decide⟩
  simp only [inRange_cons, inRange_nil]
  decide

/-- non-vacuity: the six in-range sequences for n = 3 give the six permutations -/
example : [[0, 0], [0, 1], [0, 2], [1, 0], [1, 1], [1, 2]].map (applySwaps (List.range 3) 1)
    = [[2, 0, 1], [1, 2, 0], [1, 0, 2], [2, 1, 0], [0, 2, 1], [0, 1, 2]] := by decide +kernel

/-! ## purity across evaluator instances: the per-key PRF cache is transparent -/

/-- every cached `Prf` is the one `Prf::new(key)` would create -/
def CacheOk (mk : Nat → PrfObj) (c : Cache) : Prop := ∀ k p, c.find k = some p → p = mk k

/-- the cache of a fresh `SimpleEvaluator` -/
theorem cacheOk_empty (mk : Nat → PrfObj) : CacheOk mk [] := by
  intro k p h; cases h

/-- the value of a PRF / PermutationFromPRF node as a function of (key, iv, type / n) alone -/
def prfPure (mk : Nat → PrfObj) (fuel : Nat) : PrfOp → PrfOut
  | .value key iv t => .value (prfValue (mk key iv) INITIAL_BUFFER_SIZE t)
  | .perm key iv n => .perm (outputPermutation (mk key iv) fuel n)

/-- the cache lookup of both PRF operations hands out `Prf::new(key)` and keeps the cache consistent -/
theorem cacheEntry_ok (mk : Nat → PrfObj) (c : Cache) (key : Nat) (hc : CacheOk mk c) :
    (Cache.entry mk c key).1 = mk key ∧ CacheOk mk (Cache.entry mk c key).2 := by
  unfold Cache.entry
  cases hf : c.find key with
  | some p => exact ⟨hc key p hf, hc⟩
  | none =>
    refine ⟨rfl, fun k p hk => ?_⟩
    rw [Cache.find] at hk
    split at hk
    · rename_i h
      exact h ▸ (Option.some.inj hk).symm
    · exact hc k p hk

theorem prfNode_pure (mk : Nat → PrfObj) (fuel : Nat) (c : Cache) (hc : CacheOk mk c) (op : PrfOp) :
    (prfNode mk fuel c op).1 = prfPure mk fuel op ∧ CacheOk mk (prfNode mk fuel c op).2 := by
  cases op with
  | value key iv t =>
    obtain ⟨h1, h2⟩ := cacheEntry_ok mk c key hc
    exact ⟨congrArg (fun p : PrfObj => PrfOut.value (prfValue (p iv) INITIAL_BUFFER_SIZE t)) h1, h2⟩
  | perm key iv n =>
    obtain ⟨h1, h2⟩ := cacheEntry_ok mk c key hc
    exact ⟨congrArg (fun p : PrfObj => PrfOut.perm (outputPermutation (p iv) fuel n)) h1, h2⟩

/-- **PRF nodes are pure across evaluator instances, orders and multiplicities.**  Starting from any
    consistent cache (in particular the empty cache of a fresh `SimpleEvaluator`, or the cache left by
    any earlier evaluation), a sequence of PRF / PermutationFromPRF nodes evaluates node by node to
    `prfPure`, a function of (key, iv, output type) only — so two evaluators, or one evaluator visiting
    the nodes in another order or several times, obtain identical values. -/
theorem prfNodes_pure (mk : Nat → PrfObj) (fuel : Nat) (ops : List PrfOp) (c : Cache) (hc : CacheOk mk c) :
    prfNodes mk fuel c ops = ops.map (prfPure mk fuel) := by
  induction ops generalizing c with
  | nil => rfl
  | cons op ops ih =>
    obtain ⟨h1, h2⟩ := prfNode_pure mk fuel c hc op
    show (prfNode mk fuel c op).1 :: prfNodes mk fuel (prfNode mk fuel c op).2 ops = _
    rw [List.map_cons, h1, ih _ h2]

/-- non-vacuity: two evaluators visiting (key 1, iv 0) and (key 2, iv 5) in different orders and
    multiplicities agree node by node -/
example (mk : Nat → PrfObj) (t : RTy) :
    prfNodes mk 9 [] [.value 1 0 t, .value 2 5 t, .value 1 0 t]
      = [prfPure mk 9 (.value 1 0 t), prfPure mk 9 (.value 2 5 t), prfPure mk 9 (.value 1 0 t)]
    ∧ prfNodes mk 9 [] [.value 2 5 t, .value 1 0 t] = [prfPure mk 9 (.value 2 5 t), prfPure mk 9 (.value 1 0 t)] :=
  ⟨prfNodes_pure mk 9 _ [] (cacheOk_empty mk), prfNodes_pure mk 9 _ [] (cacheOk_empty mk)⟩

end CCV.C15
