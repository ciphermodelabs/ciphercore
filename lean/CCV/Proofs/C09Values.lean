import CCV.Lemmas.EvalOps7
import CCV.Proofs.C09
/-
  C09, value-level half — "type inference is sound for evaluation; well-typed programs never crash".

  Two models are connected here:
    `CCV.TI.infer`        the typing rule of one node (`process_node`, Model/TypeInfer.lean);
    `CCV.EvalOps.evalOp`  the evaluation of one node (`SimpleEvaluator::evaluate_node`), the adapter of
                          Model/EvalOps.lean that extracts shapes / scalar types from the dependency types
                          and the inferred node type and calls the evaluator-shaped functions of
                          `CCV.Ops` (the C10 model).  Both are executed by the model driver and compared
                          with the Rust code on every run (`infer …` / `evalop …` requests of C09).

  For every covered operation, all scalar types, ranks, shapes, parameters and values:
    if `infer op tys = .ok t`, the dependency types are valid (they are types of registered nodes) and the
    dependency values have those types (`hasType`: `prod shape` residues, each below `2^bits`; the right
    number of well-typed children for vectors / tuples / named tuples), then
      * SOUNDNESS  the value computed by `evalOp` has type `t`;
      * TOTALITY   `evalOp` returns a value (the model evaluator is never stuck / never fails, no index of
                   `to_vector()`, `flattened_value[..]`, `slice_index` is out of range) — except for Gather,
                   InversePermutation, ApplyPermutation and VectorGet, whose run-time errors are
                   characterised exactly (index out of range / not a permutation / vector index ≥ length).
  GetSlice totality rests on `slices_models_agree`: the typing rule's copy of slices.rs and the evaluator
  model's copy accept the same slices with the same shapes.
  Every proof has the same four steps: read the typing rule backwards (`infer…_ok`, Lemmas/TypeInfer.lean and
  EvalOps3/4), destructure the typed dependency values, unfold `evalOp` on the accepted node
  (`unfold evalOp; rw [hi]`), apply the typing lemma of the `CCV.Ops` function (Lemmas/EvalOps{,2,…,7}.lean).
-/
namespace CCV.C09
open CCV CCV.TV CCV.Shape CCV.EvalOps
open CCV.TI hiding prod broadcastShapes transposeShape

def ValueSound (op : Op) : Prop :=
  ∀ (tys : List Ty) (t : Ty) (vs : List EV), (∀ ty ∈ tys, ty.isValid = true) → infer op tys = .ok t →
    hasTypeL tys vs → ∃ v, evalOp op tys vs = .ok v ∧ hasType t v

/-- **Add, Subtract, Multiply with broadcasting** (scalars and arrays of all 11 scalar types, all
    broadcastable shapes): the result exists, has `prod (broadcast shape)` entries, each below `2^bits`. -/
theorem arith_value_sound : ValueSound .add ∧ ValueSound .subtract ∧ ValueSound .multiply := by
  have key : ∀ (op : Op) (aop : Ops.Arith),
      (∀ tys, inferRaw op tys = inferBin (fun a b => broadcastArrays [a, b]) tys) →
      (∀ (a b t : Ty) (xs ys : List Nat), infer op [a, b] = .ok t →
        evalOp op [a, b] [.arr xs, .arr ys]
          = okArr (Ops.arith aop (stE a) (dimsE a) xs (dimsE b) ys (dimsE t))) →
      ValueSound op := by
    intro op aop hraw hev tys t vs hv hi hvs
    obtain ⟨a, b, rfl, hp⟩ := inferBin_ok (hraw tys ▸ infer_ok_raw hi)
    obtain ⟨v1, v2, rfl, h1, h2⟩ := hasTypeL_two hvs
    obtain ⟨xs, ys, r, rfl, rfl, hr, ht⟩ :=
      (broadcastPair_bcast (hv a (by simp)) (hv b (by simp)) (broadcastArrays_two hp)).sound h1 h2 (arith_typed aop)
    exact ⟨.arr r, (hev a b t xs ys hi).trans (congrArg okArr hr), ht⟩
  refine ⟨key .add .add (fun _ => rfl) ?_, key .subtract .sub (fun _ => rfl) ?_,
    key .multiply .mul (fun _ => rfl) ?_⟩
  all_goals
    intro a b t xs ys hi
    unfold evalOp
    rw [hi]
    rfl

example : evalOp .subtract [.array [3] .i8, .array [2, 1] .i8] [.arr [1, 2, 3], .arr [5, 255]]
    = .ok (.arr [252, 253, 254, 2, 3, 4]) := by rfl

/-- **MixedMultiply** (integer scalar / array times bit scalar / array, with broadcasting). -/
theorem mixedMultiply_value_sound : ValueSound .mixedMultiply := by
  intro tys t vs hv hi hvs
  obtain ⟨a, b, rfl, hp⟩ := inferBin_ok (infer_ok_raw hi)
  obtain ⟨v1, v2, rfl, h1, h2⟩ := hasTypeL_two hvs
  obtain ⟨xs, ys, r, rfl, rfl, hr, ht⟩ :=
    (mixedMultiplyInfer_bcast (hv a (by simp)) (hv b (by simp)) hp).sound h1 h2 mixedMultiply_typed
  unfold evalOp
  rw [hi]
  dsimp only [bin]
  exact ⟨.arr r, congrArg okArr hr, ht⟩

example : evalOp .mixedMultiply [.array [2] .i16, .array [2, 1] .bit] [.arr [65535, 7], .arr [1, 0]]
    = .ok (.arr [65535, 7, 0, 0]) := by rfl

/-- **Truncate** (scalars and arrays): same type, every entry reduced into the type. -/
theorem truncate_value_sound (d : Nat) : ValueSound (.truncate d) := by
  intro tys t vs _ hi hvs
  obtain ⟨rfl, _, st, hst⟩ := inferTruncate_ok (infer_ok_raw hi)
  obtain ⟨v, rfl, h1⟩ := hasTypeL_one hvs
  obtain ⟨ft, _⟩ := isFlat_of_stOf hst
  obtain ⟨xs, rfl, hx⟩ := hasType_flat_arr ft h1
  unfold evalOp
  rw [hi]
  exact ⟨_, rfl, (hasType_flat ft _).mpr (truncate_typed d hx)⟩

example : evalOp (.truncate 3) [.array [3] .i8] [.arr [249, 7, 128]] = .ok (.arr [254, 2, 214]) := by rfl

/-- **Sum** over any duplicate-free set of axes (scalar result when all axes are summed). -/
theorem sum_value_sound (axes : List Nat) : ValueSound (.sum axes) := by
  intro tys t vs _ hi hvs
  obtain ⟨s, st, rfl, _, _, rfl⟩ := inferSum_ok (infer_ok_raw hi)
  obtain ⟨v, rfl, h1⟩ := hasTypeL_one hvs
  obtain ⟨xs, rfl, hx⟩ := hasType_array h1
  unfold evalOp
  rw [hi]
  refine ⟨_, rfl, ?_⟩
  cases hd : dropAxes axes s 0 with
  | nil => exact hasType_scalar_mk (sum_all_typed st s xs axes)
  | cons d ds =>
    refine hasType_array_mk (sum_typed st s xs axes _ fun hax => ?_)
    subst hax
    rw [← hd, dropAxes_nil]
    exact hx

example : evalOp (.sum [0]) [.array [2, 3] .u8] [.arr [1, 2, 3, 4, 5, 250]] = .ok (.arr [5, 7, 253]) ∧
    evalOp (.sum [0, 1]) [.array [2, 2] .i8] [.arr [127, 1, 255, 3]] = .ok (.arr [130]) := ⟨rfl, rfl⟩

/-- **CumSum** along any axis: same type. -/
theorem cumSum_value_sound (axis : Nat) : ValueSound (.cumSum axis) := by
  intro tys t vs _ hi hvs
  obtain ⟨s, st, rfl, _, rfl⟩ := inferCumSum_ok (infer_ok_raw hi)
  obtain ⟨v, rfl, h1⟩ := hasTypeL_one hvs
  obtain ⟨xs, rfl, hx⟩ := hasType_array h1
  unfold evalOp
  rw [hi]
  exact ⟨_, rfl, hasType_array_mk (cumSum_typed s axis hx)⟩

example : evalOp (.cumSum 1) [.array [2, 3] .i8] [.arr [1, 2, 3, 4, 5, 250]] = .ok (.arr [1, 3, 6, 4, 9, 3]) := by
  rfl

/-- **PermuteAxes** by any permutation of the axes. -/
theorem permuteAxes_value_sound (axes : List Nat) : ValueSound (.permuteAxes axes) := by
  intro tys t vs _ hi hvs
  obtain ⟨s, st, rfl, hd, hlt, hl, rfl⟩ := inferPermuteAxes_ok (infer_ok_raw hi)
  obtain ⟨v, rfl, h1⟩ := hasTypeL_one hvs
  obtain ⟨xs, rfl, hx⟩ := hasType_array h1
  unfold evalOp
  rw [hi]
  refine ⟨_, rfl, hasType_array_mk ?_⟩
  rw [Ops.prod_map_perm hl (hasDup_false_nodup axes hd) hlt]
  exact permuteAxes_typed _ _ _ hx

example : evalOp (.permuteAxes [1, 0]) [.array [2, 3] .u8] [.arr [1, 2, 3, 4, 5, 6]] = .ok (.arr [1, 4, 2, 5, 3, 6]) := by
  rfl

/-- **Get** (any in-range index prefix; scalar result when the index is complete). -/
theorem get_value_sound (idx : List Nat) : ValueSound (.get idx) := by
  intro tys t vs _ hi hvs
  obtain ⟨s, st, rfl, hle, hlt, rfl⟩ := inferGet_ok (infer_ok_raw hi)
  obtain ⟨v, rfl, h1⟩ := hasTypeL_one hvs
  obtain ⟨xs, rfl, hx⟩ := hasType_array h1
  unfold evalOp
  rw [hi]
  refine ⟨_, rfl, ?_⟩
  have := get_typed st s xs idx (allLt_validIdx idx s hle hlt) hx
  split
  · rename_i he
    rw [he, List.drop_length] at this
    exact hasType_scalar_mk this
  · exact hasType_array_mk this

example : evalOp (.get [1]) [.array [2, 3] .u128] [.arr [1, 2, 3, 2 ^ 100 + 7, 5, 6]] = .ok (.arr [2 ^ 100 + 7, 5, 6]) := by
  rfl

/-- **NOP**: the value is passed through. -/
theorem nop_value_sound : ValueSound .nop := by
  intro tys t vs _ hi hvs
  obtain ⟨a, rfl, h⟩ := inferUn_ok (infer_ok_raw hi)
  cases h
  obtain ⟨v, rfl, h1⟩ := hasTypeL_one hvs
  unfold evalOp
  rw [hi]
  exact ⟨v, rfl, h1⟩

/-- **Dot**: 1-d · 1-d (scalar result), N-d · 1-d, N-d · M-d, and the scalar cases (elementwise product). -/
theorem dot_value_sound : ValueSound .dot := by
  intro tys t vs hv hi hvs
  obtain ⟨a, b, rfl, hp⟩ := inferBin_ok (infer_ok_raw hi)
  obtain ⟨v1, v2, rfl, h1, h2⟩ := hasTypeL_two hvs
  unfold evalOp
  rw [hi]
  rcases dotInfer_ok (hv a (by simp)) (hv b (by simp)) hp with ⟨s0, s1, st, rfl, rfl, ft, rfl, e11⟩ | ⟨hna, hb⟩
  · obtain ⟨xs, rfl, hx⟩ := hasType_array h1
    obtain ⟨ys, rfl, hy⟩ := hasType_array h2
    refine ⟨_, rfl, ?_⟩
    exact (hasType_flat ft _).mpr (dot_typed _ _ _ _ _ _ e11 fun _ => rfl)
  · -- the scalar cases are an elementwise product with broadcasting
    obtain ⟨xs, ys, r, rfl, rfl, hr, ht⟩ := hb.sound h1 h2 (arith_typed .mul)
    exact ⟨.arr r, (if_neg hna).trans (congrArg okArr hr), ht⟩

example : evalOp .dot [.array [2, 2] .u8, .array [2] .u8] [.arr [1, 2, 3, 4], .arr [10, 100]] = .ok (.arr [210, 174]) := by
  rfl

/-- **Matmul** (all ranks ≥ 1, batch broadcasting; 1-d · 1-d gives a scalar). -/
theorem matmul_value_sound : ValueSound .matmul := by
  intro tys t vs _ hi hvs
  obtain ⟨a, b, rfl, hp⟩ := inferBin_ok (infer_ok_raw hi)
  obtain ⟨s0, s1, st, rfl, rfl, ft, rfl, e11⟩ := matmulInfer_ok hp
  obtain ⟨v1, v2, rfl, h1, h2⟩ := hasTypeL_two hvs
  obtain ⟨xs, rfl, hx⟩ := hasType_array h1
  obtain ⟨ys, rfl, hy⟩ := hasType_array h2
  unfold evalOp
  rw [hi]
  refine ⟨_, rfl, ?_⟩
  exact (hasType_flat ft _).mpr (matmul_typed _ _ _ _ _ _ e11 fun _ => rfl)

example : evalOp .matmul [.array [1, 2, 2] .u8, .array [2, 2, 1] .u8] [.arr [1, 2, 3, 4], .arr [1, 1, 2, 3]]
    = .ok (.arr [3, 7, 8, 18]) := by rfl

/-- **Gemm(ta, tb)**, all four flag combinations, all batch ranks: the model evaluator succeeds
    (no slice of `general_gemm` is out of range) and the result has the inferred type. -/
theorem gemm_value_sound (ta tb : Bool) : ValueSound (.gemm ta tb) := by
  intro tys t vs hv hi hvs
  obtain ⟨a, b, rfl, hp⟩ := inferBin_ok (infer_ok_raw hi)
  obtain ⟨s0, s1, st, rfl, rfl, r0, r1⟩ := gemmInfer_ok hp
  obtain ⟨v1, v2, rfl, h1, h2⟩ := hasTypeL_two hvs
  obtain ⟨xs, rfl, hx⟩ := hasType_array h1
  obtain ⟨ys, rfl, hy⟩ := hasType_array h2
  obtain ⟨n0, pa⟩ := valid_array (hv (.array s0 st) (by simp))
  obtain ⟨n1, pb⟩ := valid_array (hv (.array s1 st) (by simp))
  -- ranks ≠ 0, 1: split off the last two dimensions
  obtain ⟨ba, x0, y0, rfl⟩ := exists_append_two s0 (by have := List.length_pos_iff.mpr n0; omega)
  obtain ⟨bb, x1, y1, rfl⟩ := exists_append_two s1 (by have := List.length_pos_iff.mpr n1; omega)
  obtain ⟨hk, bc, hbc, rfl⟩ := gemm_shape_sound hi
  have pba : pos ba := fun d hd => pa d (List.mem_append_left _ hd)
  have pbb : pos bb := fun d hd => pb d (List.mem_append_left _ hd)
  obtain ⟨r, hr, hok⟩ := gemm_stored st ta tb ba bb bc xs ys x0 y0 x1 y1 hk (bcOK_left pba pbb hbc)
    (bcOK_right pba pbb hbc) (pa x0 (by simp)) (pa y0 (by simp)) (pb x1 (by simp)) (pb y1 (by simp)) pba pbb
    (broadcastShapes_pos pba pbb hbc) hx.1 hy.1
  unfold evalOp
  rw [hi]
  dsimp only [bin]
  exact ⟨.arr r, congrArg okArr hr, hasType_array_mk hok⟩

example : evalOp (.gemm true false) [.array [1, 2, 2] .i8, .array [2, 2, 1] .i8] [.arr [1, 2, 255, 3], .arr [5, 254, 1, 1]]
    = .ok (.arr [7, 4, 0, 5]) := by rfl

/-- **A2B**: `bits` entries below 2 per element. -/
theorem a2b_value_sound : ValueSound .a2b := by
  intro tys t vs _ hi hvs
  obtain ⟨a, rfl, hp⟩ := inferUn_ok (infer_ok_raw hi)
  obtain ⟨fa, hst, s, rfl, hs⟩ := a2bInfer_ok hp
  obtain ⟨v, rfl, h1⟩ := hasTypeL_one hvs
  obtain ⟨xs, rfl, hx⟩ := hasType_flat_arr fa h1
  obtain ⟨r, hr, hok⟩ := a2b_typed (stE a) hst xs hx.2
  unfold evalOp
  rw [hi]
  refine ⟨.arr r, congrArg okArr hr, hasType_array_mk ?_⟩
  rw [hs, ← hx.1]
  exact hok

example : evalOp .a2b [.array [2] .u8] [.arr [5, 255]] = .ok (.arr [1, 0, 1, 0, 0, 0, 0, 0, 1, 1, 1, 1, 1, 1, 1, 1]) := by
  rfl

/-- **Gather**: if every index is below the size of the gathered axis the result exists and has the
    inferred type; otherwise (and only then) evaluation returns an error (which one is not stated). -/
theorem gather_value_sound (axis : Nat) (tys : List Ty) (t : Ty) (vs : List EV)
    (hv : ∀ ty ∈ tys, ty.isValid = true) (hi : infer (.gather axis) tys = .ok t) (hvs : hasTypeL tys vs) :
    ∃ s st is_ ist xs idx, tys = [.array s st, .array is_ ist] ∧ vs = [.arr xs, .arr idx] ∧
      ((∀ ie ∈ idx, ie < s.getD axis 0) → ∃ v, evalOp (.gather axis) tys vs = .ok v ∧ hasType t v) ∧
      ((∃ ie ∈ idx, s.getD axis 0 ≤ ie) → ∃ e, evalOp (.gather axis) tys vs = .error e) := by
  obtain ⟨s, st, is_, ist, rfl, hax, rfl⟩ := inferGather_ok (infer_ok_raw hi)
  obtain ⟨v1, v2, rfl, h1, h2⟩ := hasTypeL_two hvs
  obtain ⟨xs, rfl, hx⟩ := hasType_array h1
  obtain ⟨idx, rfl, hy⟩ := hasType_array h2
  have g := gather_typed st s xs idx axis hax (valid_array (hv (.array s st) (by simp))).2 hx
  unfold evalOp
  rw [hi]
  dsimp only [bin]
  refine ⟨s, st, is_, ist, xs, idx, rfl, rfl, fun hin => ?_, fun hbad => ?_⟩
  · obtain ⟨r, hr, hok⟩ := g.1 hin
    refine ⟨.arr r, congrArg okArr hr, hasType_array_mk ?_⟩
    rw [prod_append, prod_append, ← hy.1, Nat.mul_assoc]
    exact hok
  · obtain ⟨e, he⟩ := g.2 hbad
    exact ⟨e, congrArg okArr he⟩

example : evalOp (.gather 1) [.array [2, 3] .i8, .array [2] .u16] [.arr [1, 2, 3, 4, 5, 6], .arr [2, 0]]
    = .ok (.arr [3, 1, 6, 4]) := by rfl

/-- **InversePermutation**: on a permutation of `0..n-1` the result exists and has the inferred type;
    on anything else (and only then) evaluation returns an error (which one is not stated). -/
theorem inversePermutation_value_sound (tys : List Ty) (t : Ty) (vs : List EV)
    (hi : infer .inversePermutation tys = .ok t) (hvs : hasTypeL tys vs) :
    ∃ s st xs, tys = [.array s st] ∧ vs = [.arr xs] ∧
      ((xs.Nodup ∧ ∀ x ∈ xs, x < xs.length) → ∃ v, evalOp .inversePermutation tys vs = .ok v ∧ hasType t v) ∧
      (¬ (xs.Nodup ∧ ∀ x ∈ xs, x < xs.length) → ∃ e, evalOp .inversePermutation tys vs = .error e) := by
  obtain ⟨s, st, rfl, rfl⟩ := inferInversePermutation_ok (infer_ok_raw hi)
  obtain ⟨v, rfl, h1⟩ := hasTypeL_one hvs
  obtain ⟨xs, rfl, hx⟩ := hasType_array h1
  have g := inversePermutation_typed st xs hx.2
  unfold evalOp
  rw [hi]
  dsimp only [un]
  refine ⟨s, st, xs, rfl, rfl, fun hp => ?_, fun hn => ?_⟩
  · obtain ⟨r, hr, hok⟩ := g.1 hp
    exact ⟨.arr r, congrArg okArr hr, hasType_array_mk (hx.1 ▸ hok)⟩
  · obtain ⟨e, he⟩ := g.2 hn
    exact ⟨e, congrArg okArr he⟩

example : evalOp .inversePermutation [.array [4] .u8] [.arr [2, 0, 3, 1]] = .ok (.arr [1, 3, 0, 2]) := by rfl

/-- **ApplyPermutation(inverse)** on arrays of any rank: if the index array is a permutation of
    `0..n-1` (`n` = first dimension) the validity check passes, the inversion succeeds, `gather` reads
    no row out of range and the value has the inferred type; on anything else (and only then)
    evaluation fails with the documented run-time error. -/
theorem applyPermutation_value_sound (inv : Bool) (tys : List Ty) (t : Ty) (vs : List EV)
    (hv : ∀ ty ∈ tys, ty.isValid = true) (hi : infer (.applyPermutation inv) tys = .ok t) (hvs : hasTypeL tys vs) :
    ∃ s st ps pst xs perm, tys = [.array s st, .array ps pst] ∧ vs = [.arr xs, .arr perm] ∧
      ((perm.Nodup ∧ ∀ v ∈ perm, v < perm.length) →
        ∃ v, evalOp (.applyPermutation inv) tys vs = .ok v ∧ hasType t v) ∧
      (¬ (perm.Nodup ∧ ∀ v ∈ perm, v < perm.length) →
        evalOp (.applyPermutation inv) tys vs = .error "Argument 1 doesn't contain a valid permutation.") := by
  obtain ⟨s, st, ps, pst, rfl, rfl, rfl⟩ := inferApplyPermutation_ok (infer_ok_raw hi)
  obtain ⟨v1, v2, rfl, h1, h2⟩ := hasTypeL_two hvs
  obtain ⟨xs, rfl, hx⟩ := hasType_array h1
  obtain ⟨perm, rfl, hy⟩ := hasType_array h2
  obtain ⟨hne, hpos⟩ := valid_array (hv (.array s st) (by simp))
  unfold evalOp
  rw [hi]
  dsimp only [bin]
  refine ⟨s, st, _, pst, xs, perm, rfl, rfl, ?_⟩
  cases s with
  | nil => exact absurd rfl hne
  | cons d ds =>
    have hlen : perm.length = d := hy.1.trans (Nat.mul_one d)
    refine ⟨fun hp => ?_, fun hbad => congrArg okArr (applyPermutation_err inv d ds xs perm hlen hbad)⟩
    obtain ⟨r, hr, hok⟩ := applyPermutation_typed st inv d ds xs perm hpos hx hlen hp.1 hp.2
    exact ⟨.arr r, congrArg okArr hr, hasType_array_mk hok⟩

example : evalOp (.applyPermutation true) [.array [3, 2] .u8, .array [3] .u16] [.arr [1, 2, 3, 4, 5, 6], .arr [2, 0, 1]]
    = .ok (.arr [3, 4, 5, 6, 1, 2]) ∧
    evalOp (.applyPermutation false) [.array [3, 2] .u8, .array [3] .u16] [.arr [1, 2, 3, 4, 5, 6], .arr [2, 0, 0]]
    = .error "Argument 1 doesn't contain a valid permutation." := ⟨by rfl, by rfl⟩

/-- **the two models of slices.rs agree**: whenever the typing rule's copy (`TI.getSliceShape`, used by
    `infer`) accepts a slice with result shape `rs`, the evaluator model's copy (`Slices.getSliceShape`,
    used by `Ops.getSlice`) accepts it with the same shape (the ellipsis is expanded to the same clean
    slice, every axis gets the same count). -/
theorem slices_models_agree {shape : List Nat} {sl : List SliceEl} {rs : List Nat}
    (h : TI.getSliceShape shape sl = .ok rs) : Slices.getSliceShape shape (sl.map toSE) = .ok rs :=
  (getSliceShape_agree h).choose_spec.2.2

example : TI.getSliceShape [5, 4, 3] [.sub (some (-1)) none (some (-2)), .ellipsis, .single (-1)] = .ok [3, 4] ∧
    Slices.getSliceShape [5, 4, 3] [.sub (some (-1)) none (some (-2)), .ellipsis, .single (-1)] = .ok [3, 4] :=
  ⟨rfl, rfl⟩

/-- **GetSlice** (all ranks, negative indices and steps, ellipsis, scalar results): on an accepted
    slice the evaluator loop returns a value for every result position (`slice_index` never fails) and
    the value has the inferred type. -/
theorem getSlice_value_sound (sl : List SliceEl) : ValueSound (.getSlice sl) := by
  intro tys t vs _ hi hvs
  obtain ⟨s, st, rs, rfl, hrs, rfl⟩ := inferGetSlice_ok (infer_ok_raw hi)
  obtain ⟨v, rfl, h1⟩ := hasTypeL_one hvs
  obtain ⟨xs, rfl, hx⟩ := hasType_array h1
  have hp : pos rs := by
    cases rs with
    | nil => exact fun d hd => nomatch hd
    | cons d ds => exact (valid_array (s := d :: ds) (st := st) (infer_valid hi rfl)).2
  obtain ⟨r, hg⟩ := getSlice_total s xs (sl.map toSE) rs st (slices_models_agree hrs) hp
  unfold evalOp
  rw [hi]
  dsimp only [un]
  exact ⟨.arr r, congrArg okArr hg,
    hasType_arrOrScalar_mk (prod_dimsE_arrOrScalar rs st ▸ getSlice_typed st _ xs _ _ r hx.2 hg)⟩

example : evalOp (.getSlice [.ellipsis, .sub (some (-1)) none (some (-2))]) [.array [2, 5] .u8]
    [.arr [0, 1, 2, 3, 4, 5, 6, 7, 8, 9]] = .ok (.arr [4, 2, 0, 9, 7, 5]) := by rfl

/-- **ArrayToVector**: a vector of `shape[0]` rows, each of the element type. -/
theorem arrayToVector_value_sound : ValueSound .arrayToVector := by
  intro tys t vs hv hi hvs
  obtain ⟨s, st, rfl, rfl⟩ := inferArrayToVector_ok (infer_ok_raw hi)
  obtain ⟨v, rfl, h1⟩ := hasTypeL_one hvs
  obtain ⟨xs, rfl, hx⟩ := hasType_array h1
  obtain ⟨hne, hpos⟩ := valid_array (hv (.array s st) (by simp))
  unfold evalOp
  rw [hi]
  cases s with
  | nil => exact absurd rfl hne
  | cons d rest =>
    obtain ⟨hl, hrows⟩ := arrayToVector_typed st d rest xs hx
      (prod_pos fun x hm => hpos x (List.mem_cons_of_mem _ hm))
    refine ⟨_, rfl, (List.length_map _).trans hl, fun w hw => ?_⟩
    obtain ⟨row, hrow, rfl⟩ := List.mem_map.mp hw
    have := hrows row hrow
    split
    · rename_i h1
      cases rest with
      | nil => exact hasType_scalar_mk this
      | cons _ _ => exact absurd h1 (by simp)
    · exact hasType_array_mk this

example : evalOp .arrayToVector [.array [2, 2] .u8] [.arr [1, 2, 3, 4]] = .ok (.vec [.arr [1, 2], .arr [3, 4]]) := by rfl

/-- **VectorToArray**: a non-empty vector of scalars / arrays becomes one array. -/
theorem vectorToArray_value_sound : ValueSound .vectorToArray := by
  intro tys t vs _ hi hvs
  obtain ⟨n, et, rfl, hn, het⟩ := inferVectorToArray_ok (infer_ok_raw hi)
  obtain ⟨v, rfl, h1⟩ := hasTypeL_one hvs
  obtain ⟨rows, rfl, hl, hrows⟩ := hasType_vector h1
  unfold evalOp
  rw [hi]
  rcases het with ⟨st, rfl, rfl⟩ | ⟨s, st, rfl, rfl⟩
  · obtain ⟨rs, hrs, hlen, hok⟩ := rowsOf_typed st 1 rows (fun w hw => hasType_scalar (hrows w hw))
    simp only [hrs]
    refine ⟨_, rfl, hasType_array_mk ?_⟩
    have := vectorToArray_typed st 1 rs hok
    rw [hlen, hl] at this
    exact this
  · obtain ⟨rs, hrs, hlen, hok⟩ := rowsOf_typed st (prod s) rows (fun w hw => hasType_array (hrows w hw))
    simp only [hrs]
    refine ⟨_, rfl, hasType_array_mk ?_⟩
    have := vectorToArray_typed st (prod s) rs hok
    rw [hlen, hl] at this
    exact this

example : evalOp .vectorToArray [.vector 2 (.array [2] .u8)] [.vec [.arr [1, 2], .arr [3, 4]]] = .ok (.arr [1, 2, 3, 4]) := by rfl

/-- **Stack(outer)**: `prod outer` scalars / arrays of one scalar type, broadcast to the common
    inner shape and laid out one after the other: the value exists and has type `outer ++ inner`. -/
theorem stack_value_sound (outer : List Nat) : ValueSound (.stack outer) := by
  intro tys t vs _ hi hvs
  obtain ⟨st, full, rfl, _, hprod, hall⟩ := inferStack_ok (infer_ok_raw hi)
  obtain ⟨ps, hps, hl, _, hok⟩ := payloads_typed st tys vs hvs hall
  unfold evalOp
  rw [hi]
  simp only [hps]
  refine ⟨_, rfl, hasType_array_mk ?_⟩
  have := stack_typed st outer full ps (fun p hp => (hok p hp).2)
  rw [hl, hprod] at this
  exact this

example : evalOp (.stack [2]) [.array [2] .u8, .scalar .u8] [.arr [1, 2], .arr [7]] = .ok (.arr [1, 2, 7, 7]) := by
  rfl

/-- **Concatenate(axis)**: arrays of one scalar type agreeing off the axis: the value exists and has
    the inferred type (the axis dimension is the sum of the inputs' axis dimensions). -/
theorem concatenate_value_sound (axis : Nat) : ValueSound (.concatenate axis) := by
  intro tys t vs _ hi hvs
  obtain ⟨st, rs, rfl, hax, hsum, hall⟩ := inferConcatenate_ok (infer_ok_raw hi)
  obtain ⟨ps, hps, _, hm, hok⟩ := payloads_typed st tys vs hvs (fun ty hty => ⟨(hall ty hty).1, (hall ty hty).2.1⟩)
  unfold evalOp
  rw [hi]
  simp only [hps]
  refine ⟨_, rfl, hasType_array_mk ?_⟩
  apply concatenate_typed st axis ps rs hax
  · intro p hp
    have hmem : p.1 ∈ tys.map dimsE := by rw [← hm]; exact List.mem_map.mpr ⟨p, hp, rfl⟩
    obtain ⟨ty, hty, hd⟩ := List.mem_map.mp hmem
    rw [(hok p hp).1, ← hd]
    exact (hall ty hty).2.2
  · intro p hp
    exact (hok p hp).2
  · rw [hsum]
    have : (tys.map fun ty => (dimsE ty).getD axis 0) = (tys.map dimsE).map fun d => d.getD axis 0 := by
      rw [List.map_map]; rfl
    rw [this, ← hm, List.map_map]
    rfl

example : evalOp (.concatenate 1) [.array [2, 1] .u8, .array [2, 2] .u8] [.arr [1, 2], .arr [3, 4, 5, 6]]
    = .ok (.arr [1, 3, 4, 2, 5, 6]) := by rfl

/-- **B2A(st)**: a bit array whose last dimension is the width of `st` is re-read as residues of `st`. -/
theorem b2a_value_sound (st : ST) : ValueSound (.b2a st) := by
  intro tys t vs _ hi hvs
  obtain ⟨a, rfl, hp⟩ := inferUn_ok (infer_ok_raw hi)
  obtain ⟨s, rfl, hst, ft, est, hp⟩ := b2aInfer_ok hp
  obtain ⟨v, rfl, h1⟩ := hasTypeL_one hvs
  obtain ⟨xs, rfl, hx⟩ := hasType_array h1
  obtain ⟨r, hr, hok⟩ := b2a_typed st hst (prod (dimsE t)) xs (by rw [hx.1, hp]) hx.2
  unfold evalOp
  rw [hi]
  exact ⟨.arr r, congrArg okArr hr, (hasType_flat ft r).mpr (est ▸ hok)⟩

example : ∃ v, evalOp (.b2a .u8) [.array [2, 8] .bit] [.arr [1, 0, 1, 0, 0, 0, 0, 0, 1, 1, 1, 1, 1, 1, 1, 1]] = .ok v ∧
    hasType (.array [2] .u8) v :=
  b2a_value_sound .u8 _ _ _ (by decide) rfl ⟨⟨rfl, by decide⟩, trivial⟩

/-- **Reshape** (any pair of types accepted by `process_node`, including tuples / named tuples /
    vectors on either side): `flatten_value` + `unflatten_value` never index out of range and rebuild a
    value of the new type. -/
theorem reshape_value_sound (nt : Ty) : ValueSound (.reshape nt) := by
  intro tys t vs _ hi hvs
  obtain ⟨a, rfl, hlen, hat, rfl⟩ := inferReshape_ok (infer_ok_raw hi)
  obtain ⟨v, rfl, h1⟩ := hasTypeL_one hvs
  have h2 := allAtomic_hasTypeL _ _ _ hat hlen (flattenEV_typed a v h1)
  obtain ⟨r, rest, e1, e2, _⟩ := unflat_typed t [] (flattenEV v) (by rw [List.append_nil]; exact h2)
  unfold evalOp
  rw [hi]
  simp only [e1]
  exact ⟨r, rfl, e2⟩

example : evalOp (.reshape (.tuple [.array [1, 2] .u8, .vector 1 (.array [2] .u8)])) [.vector 2 (.array [2] .u8)]
    [.vec [.arr [1, 2], .arr [3, 4]]] = .ok (.vec [.arr [1, 2], .vec [.arr [3, 4]]]) := by rfl

example : evalOp (.reshape (.array [3, 2] .u8)) [.array [2, 3] .u8] [.arr [1, 2, 3, 4, 5, 6]] = .ok (.arr [1, 2, 3, 4, 5, 6]) := by
  rfl

/-- **CreateTuple**: the dependency values, in order. -/
theorem createTuple_value_sound : ValueSound .createTuple := by
  intro tys t vs _ hi hvs
  cases (infer_ok_raw hi : Except.ok (Ty.tuple tys) = .ok t)
  unfold evalOp
  rw [hi]
  exact ⟨.vec vs, rfl, hvs⟩

theorem createNamedTuple_value_sound (names : List String) : ValueSound (.createNamedTuple names) := by
  intro tys t vs _ hi hvs
  have hr := of_ite_error (infer_ok_raw hi)
  cases (of_ite_error hr.2).2
  unfold evalOp
  rw [hi]
  exact ⟨.vec vs, rfl, hasTypeN_zip names tys vs (Decidable.of_not_not hr.1) hvs⟩

theorem createVector_value_sound (et : Ty) : ValueSound (.createVector et) := by
  intro tys t vs _ hi hvs
  have hr : (if tys.all (fun t => Ty.beq t et) = true then Except.ok (Ty.vector tys.length et)
      else .error "Vector element type mismatch") = .ok t := infer_ok_raw hi
  split at hr
  · rename_i hall
    cases hr
    unfold evalOp
    rw [hi]
    exact ⟨.vec vs, rfl,
      hasTypeL_const et tys vs (fun ty hty => Ty.eq_of_beq ty et ((List.all_eq_true.mp hall) ty hty)) hvs⟩
  · cases hr

example : evalOp (.createVector (.scalar .u8)) [.scalar .u8, .scalar .u8] [.arr [1], .arr [2]] = .ok (.vec [.arr [1], .arr [2]]) := by
  rfl

/-- **TupleGet(i)** on a tuple or a named tuple: the index accepted by the type checker is in range
    for `to_vector()` of the value. -/
theorem tupleGet_value_sound (i : Nat) : ValueSound (.tupleGet i) := by
  intro tys t vs _ hi hvs
  unfold evalOp
  rw [hi]
  rcases inferTupleGet_ok (infer_ok_raw hi) with ⟨ts, rfl, hg⟩ | ⟨fs, n, rfl, hg⟩
  · obtain ⟨v, rfl, h1⟩ := hasTypeL_one hvs
    obtain ⟨cs, rfl, hcs⟩ := hasType_tuple h1
    obtain ⟨c, hc, hty⟩ := hasTypeL_getElem ts cs i t hcs hg
    simp only [hc]
    exact ⟨c, rfl, hty⟩
  · obtain ⟨v, rfl, h1⟩ := hasTypeL_one hvs
    obtain ⟨cs, rfl, hcs⟩ := hasType_named h1
    obtain ⟨c, hc, hty⟩ := hasTypeN_getElem fs cs i n t hcs hg
    simp only [hc]
    exact ⟨c, rfl, hty⟩

example : evalOp (.tupleGet 1) [.tuple [.scalar .u8, .array [2] .bit]] [.vec [.arr [7], .arr [1, 0]]] = .ok (.arr [1, 0]) := by
  rfl

/-- **NamedTupleGet(name)**: the evaluator's search for the field succeeds (`unwrap` is safe) and
    finds the child whose type the type checker returned. -/
theorem namedTupleGet_value_sound (name : String) : ValueSound (.namedTupleGet name) := by
  intro tys t vs _ hi hvs
  obtain ⟨fs, rfl, hg⟩ := inferNamedTupleGet_ok (infer_ok_raw hi)
  obtain ⟨v, rfl, h1⟩ := hasTypeL_one hvs
  obtain ⟨cs, rfl, hcs⟩ := hasType_named h1
  obtain ⟨k, c, hk, hc, hty⟩ := hasTypeN_lookup name fs cs t hcs hg
  unfold evalOp
  rw [hi]
  simp only [hk, hc]
  exact ⟨c, rfl, hty⟩

example : evalOp (.namedTupleGet "b") [.named [("a", .scalar .u8), ("b", .scalar .bit)]] [.vec [.arr [1], .arr [0]]]
    = .ok (.arr [0]) := by rfl

/-- **VectorGet** (the one run-time error of the accessors): the dependencies are a vector of `n`
    elements and a scalar `i` (the rule also checks that it is UINT64 / UINT32; not stated here); if
    `i < n` the element exists and has the element type, if `n ≤ i` (and only then) evaluation fails
    with the documented "Index out of range". -/
theorem vectorGet_value_sound (tys : List Ty) (t : Ty) (vs : List EV)
    (hi : infer .vectorGet tys = .ok t) (hvs : hasTypeL tys vs) :
    ∃ n et ist cs i, tys = [.vector n et, .scalar ist] ∧ vs = [.vec cs, .arr [i]] ∧
      (i < n → ∃ v, evalOp .vectorGet tys vs = .ok v ∧ hasType t v) ∧
      (n ≤ i → evalOp .vectorGet tys vs = .error "Index out of range") := by
  obtain ⟨n, ist, rfl⟩ := inferVectorGet_ok (infer_ok_raw hi)
  obtain ⟨v1, v2, rfl, h1, h2⟩ := hasTypeL_two hvs
  obtain ⟨cs, rfl, hl, hcs⟩ := hasType_vector h1
  obtain ⟨xs, rfl, hx⟩ := hasType_scalar h2
  obtain ⟨i, rfl⟩ := List.length_eq_one_iff.mp hx.1
  unfold evalOp
  rw [hi]
  refine ⟨n, t, ist, cs, i, rfl, rfl, fun hlt => ?_, fun hge => if_pos hge⟩
  have hic : i < cs.length := hl ▸ hlt
  refine ⟨cs[i], ?_, hcs _ (List.getElem_mem hic)⟩
  simp only [if_neg (Nat.not_le.mpr hlt), List.getElem?_eq_getElem hic]

example : evalOp .vectorGet [.vector 2 (.scalar .u8), .scalar .u64] [.vec [.arr [1], .arr [2]], .arr [1]] = .ok (.arr [2]) ∧
    evalOp .vectorGet [.vector 2 (.scalar .u8), .scalar .u64] [.vec [.arr [1], .arr [2]], .arr [2]]
      = .error "Index out of range" := ⟨rfl, rfl⟩

/-- **Zip**: vectors of one length `n` become a vector of `n` tuples. -/
theorem zip_value_sound : ValueSound .zip := by
  intro tys t vs _ hi hvs
  have hr := of_ite_error (infer_ok_raw hi : inferZip tys = .ok t)
  cases hz : zipGo tys none with
  | error e => rw [hz] at hr; cases hr.2
  | ok r =>
    obtain ⟨n, ets⟩ := r
    rw [hz] at hr
    cases hr.2
    obtain ⟨rfl, _⟩ := zipGo_facts tys none n ets hz
    obtain ⟨cols, hc, hok⟩ := colsOf_typed n ets vs hvs
    have hne : ets ≠ [] := fun he => hr.1 (by rw [he]; exact Nat.zero_lt_two)
    unfold evalOp
    rw [hi]
    simp only [hc]
    exact ⟨.vec (zipRows cols), rfl, zipRows_typed n ets cols hok hne⟩

example : evalOp .zip [.vector 2 (.scalar .u8), .vector 2 (.scalar .bit)] [.vec [.arr [1], .arr [2]], .vec [.arr [0], .arr [1]]]
    = .ok (.vec [.vec [.arr [1], .arr [0]], .vec [.arr [2], .arr [1]]]) := by rfl

theorem repeat_value_sound (n : Nat) : ValueSound (.repeat_ n) := by
  intro tys t vs _ hi hvs
  obtain ⟨a, rfl, h⟩ := inferUn_ok (infer_ok_raw hi)
  cases h
  obtain ⟨v, rfl, h1⟩ := hasTypeL_one hvs
  unfold evalOp
  rw [hi]
  exact ⟨.vec (List.replicate n v), rfl, List.length_replicate,
    fun w hw => (List.mem_replicate.mp hw).2 ▸ h1⟩

example : evalOp (.repeat_ 2) [.array [2] .u8] [.arr [1, 2]] = .ok (.vec [.arr [1, 2], .arr [1, 2]]) := by rfl

/-- the operations for which soundness AND totality are proved without side conditions -/
def totalOp : Op → Bool
  | .add | .subtract | .multiply | .mixedMultiply | .dot | .matmul | .gemm _ _ | .truncate _
  | .sum _ | .cumSum _ | .permuteAxes _ | .get _ | .getSlice _ | .reshape _ | .nop
  | .stack _ | .concatenate _ | .a2b | .b2a _ | .arrayToVector | .vectorToArray
  | .createTuple | .createNamedTuple _ | .createVector _ | .tupleGet _ | .namedTupleGet _ | .zip | .repeat_ _ => true
  | _ => false

/-- **Summary**: if a node of one of the `totalOp` operations is accepted by type inference with type `t`
    and the dependency values have the (valid) dependency types, then evaluating the node never fails and
    the value has type `t`.
    (The four operations with a data-dependent run-time error are characterised exactly by
    `gather_value_sound`, `inversePermutation_value_sound`, `applyPermutation_value_sound`,
    `vectorGet_value_sound`.) -/
theorem eval_hasType (op : Op) (h : totalOp op = true) : ValueSound op := by
  cases op
  case add => exact arith_value_sound.1
  case subtract => exact arith_value_sound.2.1
  case multiply => exact arith_value_sound.2.2
  case mixedMultiply => exact mixedMultiply_value_sound
  case dot => exact dot_value_sound
  case matmul => exact matmul_value_sound
  case gemm ta tb => exact gemm_value_sound ta tb
  case truncate d => exact truncate_value_sound d
  case sum axes => exact sum_value_sound axes
  case cumSum axis => exact cumSum_value_sound axis
  case permuteAxes axes => exact permuteAxes_value_sound axes
  case get idx => exact get_value_sound idx
  case getSlice sl => exact getSlice_value_sound sl
  case reshape nt => exact reshape_value_sound nt
  case nop => exact nop_value_sound
  case stack outer => exact stack_value_sound outer
  case concatenate axis => exact concatenate_value_sound axis
  case a2b => exact a2b_value_sound
  case b2a st => exact b2a_value_sound st
  case arrayToVector => exact arrayToVector_value_sound
  case vectorToArray => exact vectorToArray_value_sound
  case createTuple => exact createTuple_value_sound
  case createNamedTuple names => exact createNamedTuple_value_sound names
  case createVector et => exact createVector_value_sound et
  case tupleGet i => exact tupleGet_value_sound i
  case namedTupleGet name => exact namedTupleGet_value_sound name
  case zip => exact zip_value_sound
  case repeat_ n => exact repeat_value_sound n
  all_goals exact nomatch h

example : ∃ v, evalOp (.gemm false true) [.array [2, 2] .u8, .array [2, 2] .u8] [.arr [1, 2, 3, 4], .arr [5, 6, 7, 8]] = .ok v ∧
    hasType (.array [2, 2] .u8) v :=
  eval_hasType (.gemm false true) rfl _ _ _ (by decide) rfl ⟨⟨rfl, by decide⟩, ⟨rfl, by decide⟩, trivial⟩

end CCV.C09
