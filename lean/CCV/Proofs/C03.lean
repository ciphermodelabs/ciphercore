import Mathlib.Tactic.Ring
import Mathlib.Data.Fintype.Card
import CCV.Lemmas.MaskRev
import CCV.Lemmas.MaskTy
import CCV.Lemmas.Shuffle
import Mathlib.Algebra.Group.Prod
/-
  C03 — a party's view reveals nothing beyond its own inputs and outputs.

  Formulation.  A protocol fragment, seen by one observer, is a *view map*
  `view : X → T → V`: the other parties' secrets `x : X`, the tape `t : T` of the masks the observer
  does NOT know (idealised PRF outputs: independent, uniform), and everything the observer sees
  (`V`: messages delivered to it; its own inputs and the masks it knows are parameters).
  `Hides view out` says: whenever two secret vectors give the observer the same output, there is a
  bijection of tapes under which the two views coincide tape by tape.  For a FINITE tape space this
  is exactly "identical distributions" (`Hides.card_eq`: every view value has the same number of
  tapes producing it); it applies to the lemmas of Part (i), whose tapes are `R`, `R × R`, `Unit`.
  The theorems of Parts (ii)-(v) are about the tape space `ℕ → R` (or its typed part), which is not
  finite: what they state is the bijection of tapes, nothing about distributions.

  Part (i): the hand-modelled protocols of the compiler (input sharing, ABY3 product + resharing,
  reveal, oblivious transfer, 2-out-of-2 resharing of truncation).  The tie to the code is the
  correspondence stream of harness/src/c03.rs (exhaustive comparison of view distributions of the
  graphs `compile_context` emits, on bit-typed programs).
  Part (ii): the mask discipline is sound for every message system, over every additive commutative
  group.  Part (iii): from an exported graph and a certificate to `Hides`, through the verified checker,
  also for an output recipient.  Part (iv): the same on typed tapes.  Part (v): the opened permutations of
  the sorting protocol (masks in a group that need not commute).
-/
namespace CCV.C03

def Hides {X T V O : Type} (view : X → T → V) (out : X → O) : Prop :=
  ∀ x x', out x = out x' → ∃ σ : T → T, Function.Bijective σ ∧ ∀ t, view x t = view x' (σ t)

/-- for a FINITE tape space `Hides` means identical view distributions under a uniform tape: each view
    value is produced by the same number of tapes. -/
theorem Hides.card_eq {X T V O : Type} [Fintype T] [DecidableEq V] {view : X → T → V} {out : X → O}
    (h : Hides view out) (x x' : X) (hx : out x = out x') (v : V) :
    Fintype.card {t : T // view x t = v} = Fintype.card {t : T // view x' t = v} := by
  obtain ⟨σ, hσ, hv⟩ := h x x' hx
  exact Fintype.card_congr
    ((Equiv.ofBijective σ hσ).subtypeEquiv (fun t => by simp [hv t]))

/-- a party that receives nothing (or only values it can compute itself) learns nothing -/
theorem hides_of_const {X T V O : Type} (view : X → T → V) (out : X → O)
    (h : ∀ x x' t, out x = out x' → view x t = view x' t) : Hides view out :=
  fun x x' hx => ⟨id, Function.bijective_id, fun t => h x x' t hx⟩

theorem hides_of_inverse {X T V O : Type} {view : X → T → V} {out : X → O}
    (h : ∀ x x', out x = out x' → ∃ σ τ : T → T,
      (∀ t, τ (σ t) = t) ∧ (∀ t, σ (τ t) = t) ∧ ∀ t, view x t = view x' (σ t)) : Hides view out :=
  fun x x' hx =>
    let ⟨σ, _, hl, hr, hv⟩ := h x x' hx
    ⟨σ, ⟨Function.LeftInverse.injective hl, Function.RightInverse.surjective hr⟩, hv⟩

theorem Hides.congr {X T V O : Type} {view view' : X → T → V} {out : X → O} (h : Hides view out)
    (e : ∀ x t, view' x t = view x t) : Hides view' out :=
  fun x x' hx =>
    let ⟨σ, b, hv⟩ := h x x' hx
    ⟨σ, b, fun t => by rw [e, e, hv]⟩

section ring
variable {R : Type} [CommRing R]

/-- **2-out-of-2 resharing used by truncation** (mpc_truncate.rs): a party sends `v − r` where r is a
    mask the receiver does not know -/
theorem two_of_two_hides {X : Type} (v : X → R) :
    Hides (fun (x : X) (r : R) => v x - r) (fun _ => ()) :=
  hides_of_inverse fun x x' _ =>
    ⟨fun r => r + (v x' - v x), fun r => r - (v x' - v x), fun _ => add_sub_cancel_right _ _,
      fun _ => sub_add_cancel _ _, fun r => by ring⟩

/-- **Product + resharing** (mpc_arithmetic.rs, resharing.rs:250-271).  Party p+1 computes its
    3-out-of-3 product share `z` (a function of the secrets, here any `z : X → R`) and sends
    `z + (f_{p+1} − f_{p+2})` to p, who knows `f_{p+1}` but not `f_{p+2}`. -/
theorem reshare_hides {X : Type} (z : X → R) (known : R) :
    Hides (fun (x : X) (t : R) => z x + (known - t)) (fun _ => ()) :=
  (two_of_two_hides (fun x => z x + known)).congr (fun _ _ => (add_sub_assoc _ _ _).symm)

/-- **Input sharing** (recursively_generate_node_shares).  Owner o holds x; α_i = f_i − f_{i+1}.
    The observer p = o−1 receives the owner's share `x + f_o − f_{o+1}`; it knows `f_o` (= `known`)
    but not `f_{o+1}` (the tape).  Its view is uniform whatever x is: it learns nothing. -/
theorem input_sharing_hides (known : R) :
    Hides (fun (x : R) (t : R) => x + (known - t)) (fun _ => ()) :=
  reshare_hides (fun x => x) known

/-- over ℤ/2 the input-sharing views of x = 0 and x = 1 take the value 1 on equally many tapes -/
example : Fintype.card {t : Fin 2 // (fun (x t : Fin 2) => x + (1 - t)) 0 t = 1}
        = Fintype.card {t : Fin 2 // (fun (x t : Fin 2) => x + (1 - t)) 1 t = 1} := by decide

/-- the third party (o+1) receives only `f_{o+1} − f_{o+2}`-type shares that do not involve x -/
theorem input_sharing_other (known : R) :
    Hides (fun (_ : R) (t : R) => known - t) (fun _ => ()) :=
  hides_of_const _ _ (fun _ _ _ _ => rfl)

/-- several re-shared values in sequence (a chain of products): one fresh mask each, the masks of
    earlier rounds may enter later values in any way (`z k x history`). -/
theorem reshare_chain_hides {X : Type} (z1 : X → R) (z2 : X → R → R) (k1 k2 : R) :
    Hides (fun (x : X) (t : R × R) => (z1 x + (k1 - t.1), z2 x t.1 + (k2 - t.2))) (fun _ => ()) :=
  -- triangular: the shift of the second mask depends on the (shifted) first
  hides_of_inverse fun x x' _ =>
    ⟨fun t => (t.1 + (z1 x' - z1 x), t.2 + (z2 x' (t.1 + (z1 x' - z1 x)) - z2 x t.1)),
      fun s => (s.1 - (z1 x' - z1 x), s.2 - (z2 x' s.1 - z2 x (s.1 - (z1 x' - z1 x)))),
      fun t => by
        show (t.1 + (z1 x' - z1 x) - (z1 x' - z1 x), _) = t
        rw [add_sub_cancel_right, add_sub_cancel_right],
      fun s => by
        show (s.1 - (z1 x' - z1 x) + (z1 x' - z1 x), _) = s
        rw [sub_add_cancel, sub_add_cancel],
      fun t => Prod.ext (by ring) (by ring)⟩

/-- **Reveal** (reveal_output): the output party holds shares a, b and receives the third one.
    The received value is determined by what it already holds and by its output. -/
theorem reveal_hides {X : Type} (a b : R) (s : X → R) :
    Hides (fun (x : X) (_ : Unit) => s x) (fun x => a + b + s x) :=
  hides_of_const _ _ (fun _ _ _ h => add_left_cancel h)

/-- **Oblivious transfer, receiver with b = 0** (mpc/utils.rs:84-120): it sees `i0 + r0`,
    `i1 + r1` and `r_b = r0`; it learns `i0` (its output) and nothing about `i1`. -/
theorem ot_receiver_b0_hides :
    Hides (fun (i : R × R) (r : R × R) => (i.1 + r.1, i.2 + r.2, r.1)) (fun i => i.1) :=
  hides_of_inverse fun i i' (h : i.1 = i'.1) =>
    ⟨fun r => (r.1, r.2 + (i.2 - i'.2)), fun r => (r.1, r.2 - (i.2 - i'.2)),
      fun r => Prod.ext rfl (add_sub_cancel_right _ _), fun r => Prod.ext rfl (sub_add_cancel _ _),
      fun r => Prod.ext (by rw [h]) (Prod.ext (by ring) rfl)⟩

/-- receiver with b = 1: sees `i0 + r0`, `i1 + r1`, `r1`; learns `i1` only -/
theorem ot_receiver_b1_hides :
    Hides (fun (i : R × R) (r : R × R) => (i.1 + r.1, i.2 + r.2, r.2)) (fun i => i.2) :=
  hides_of_inverse fun i i' (h : i.2 = i'.2) =>
    ⟨fun r => (r.1 + (i.1 - i'.1), r.2), fun r => (r.1 - (i.1 - i'.1), r.2),
      fun r => Prod.ext (add_sub_cancel_right _ _) rfl, fun r => Prod.ext (sub_add_cancel _ _) rfl,
      fun r => Prod.ext (by ring) (Prod.ext (by rw [h]) rfl)⟩

/-- sender and helper of the OT receive nothing -/
theorem ot_sender_helper_hide {X V : Type} (own : V) :
    Hides (fun (_ : X) (_ : Unit) => own) (fun _ => ()) :=
  hides_of_const _ _ (fun _ _ _ _ => rfl)

end ring

section discipline
open CCV.Pivot
variable {R X : Type} [AddCommGroup R]

/-- the tape with the pivot coordinates blanked: everything about the tape that is not a pivot
    (in particular every mask the observer knows) -/
def offPivots (msgs : List (Msg X R)) (ρ : Nat → R) : Nat → R :=
  fun v => if ∃ m ∈ msgs, v = m.piv then 0 else ρ v

theorem offPivots_congr (msgs : List (Msg X R)) (ρ ρ' : Nat → R)
    (h : ∀ v, (∀ m ∈ msgs, v ≠ m.piv) → ρ' v = ρ v) : offPivots msgs ρ' = offPivots msgs ρ := by
  funext v
  unfold offPivots
  by_cases hv : ∃ m ∈ msgs, v = m.piv
  · rw [if_pos hv, if_pos hv]
  · rw [if_neg hv, if_neg hv]
    exact h v (fun m hm e => hv ⟨m, hm, e⟩)

theorem sim_view {msgs : List (Msg X R)} {x x' : X} {σ τ : (Nat → R) → (Nat → R)}
    (S : Sim msgs x x' σ τ) (ρ : Nat → R) :
    msgs.map (fun m => m.f x ρ) = msgs.map (fun m => m.f x' (σ ρ)) ∧
      offPivots msgs ρ = offPivots msgs (σ ρ) :=
  ⟨List.map_congr_left (S.align ρ), (offPivots_congr msgs ρ (σ ρ) (S.fixσ ρ)).symm⟩

/-- **Soundness of the mask discipline (non-recipient observer).**  If the messages delivered to a
    party, in some order, each carry a fresh pivot mask with coefficient ±1 that no earlier message
    depends on (older masks may enter in any, even non-linear, way), then the party's whole view —
    all messages together with every non-pivot coordinate of the tape — is the same, tape by tape
    along a bijection of the tapes, for any two secret vectors. -/
theorem pivot_discipline_hides (msgs : List (Msg X R)) (h : Disc msgs) :
    Hides (fun (x : X) (ρ : Nat → R) => (msgs.map (fun m => m.f x ρ), offPivots msgs ρ))
      (fun _ => ()) := by
  refine hides_of_inverse fun x x' _ => ?_
  obtain ⟨σ, τ, S⟩ := exists_sim msgs h x x'
  exact ⟨σ, τ, S.left, S.right, fun ρ => Prod.ext (sim_view S ρ).1 (sim_view S ρ).2⟩

/-- **… and for an output recipient**: further messages `rev` (the shares sent at reveal) that are
    determined by the party's output and the rest of its view add nothing. -/
theorem pivot_discipline_hides_recipient {O V : Type} (msgs : List (Msg X R)) (h : Disc msgs)
    (out : X → O) (rev : X → (Nat → R) → V)
    (F : O → List R → (Nat → R) → V)
    (hrev : ∀ x ρ, rev x ρ = F (out x) (msgs.map (fun m => m.f x ρ)) (offPivots msgs ρ)) :
    Hides (fun (x : X) (ρ : Nat → R) => (msgs.map (fun m => m.f x ρ), offPivots msgs ρ, rev x ρ)) out := by
  refine hides_of_inverse fun x x' hout => ?_
  obtain ⟨σ, τ, S⟩ := exists_sim msgs h x x'
  refine ⟨σ, τ, S.left, S.right, fun ρ => ?_⟩
  obtain ⟨e1, e2⟩ := sim_view S ρ
  simp only [hrev, hout, e1, e2]

/-- non-vacuity: two messages over ℤ; the second uses the first mask non-linearly
    (`z₂ = x·ρ₀² + ρ₁`), the first is `x + ρ₀`; listed last first. -/
example : Disc (X := Int) (R := Int)
    [⟨fun x ρ => x * ρ 0 * ρ 0 + ρ 1, 1, false⟩, ⟨fun x ρ => x + ρ 0, 0, false⟩] := by
  refine Disc.cons _ _ ?_ ?_ (Disc.cons _ _ ?_ ?_ Disc.nil)
  · intro x ρ a; simp [upd, sg]
  · intro m' hm'
    simp only [List.mem_singleton] at hm'
    subst hm'
    exact ⟨fun x ρ a => by simp [upd], by decide⟩
  · intro x ρ a; simp [upd, sg]
  · intro m' hm'; simp at hm'

end discipline

/- The per-graph obligations CCV/Generated/C03_*.lean state, for the graph `compile_context` emits,
   classified for one observer, `discOk G cert ∧ compOk G comp ∧ tyOk G tys vty cert` (`∧ revOk …` for a
   recipient) and that every delivered message is listed in `cert`, `comp` or `revs`; they are decided by
   the kernel.  The last conjunct (coverage) is not used by any theorem here. -/
section checker
open CCV.Pivot CCV.Mask
variable {R : Type} [AddCommGroup R]

/-- **Soundness of the checked certificate.**  For an exported graph `g` (any semantics `sem` of the
    non-additive operations, any values `own` of the observer's inputs and `kn` of the masks it knows):
    if the checker accepts the certificate — `cert`: the non-computable messages delivered to the
    observer, last first, each with its pivot; `comp`: the messages it can compute itself — then the
    observer's view (all those messages, and every non-pivot coordinate of the unknown tape) under any
    two values of the other parties' secrets coincides along a bijection of the unknown tapes. -/
theorem checked_graph_hides (sem : Nat → List R → R) (own kn : Nat → R) (g : List Mask.Node)
    (cert : Cert) (comp : List Nat) (h : discOk g cert = true) (hc : compOk g comp = true) :
    Hides (fun (x : Nat → R) (ρ : Nat → R) =>
        ((cert.map (toMsg sem own kn g)).map (fun m => m.f x ρ),
         comp.map (fun m => (evalRun sem own kn x ρ g []).getD m 0),
         offPivots (cert.map (toMsg sem own kn g)) ρ))
      (fun _ => ()) := by
  refine hides_of_inverse fun x x' _ => ?_
  obtain ⟨σ, τ, S⟩ := exists_sim _ (discOk_disc sem own kn g cert h) x x'
  exact ⟨σ, τ, S.left, S.right, fun ρ => Prod.ext (sim_view S ρ).1
    (Prod.ext (compOk_const sem own kn g comp hc x x' ρ (σ ρ)) (sim_view S ρ).2)⟩

/-- non-vacuity: owner 1 shares x with masks f0, f1, f2; observer 0 knows f0 (var 0) and f1 (var 1) but
    not f2 (tape variable 2) and receives share 1 = (f1 − f2) + x:
    nodes 0:x 1:f1 2:f2 3:f1−f2 4:(f1−f2)+x; message node 4, pivot 2 -/
example : discOk [⟨.hid 0, []⟩, ⟨.tapeK 1, []⟩, ⟨.tapeU 2, []⟩, ⟨.sub, [1, 2]⟩, ⟨.add, [3, 0]⟩] [(4, 2)] = true
    ∧ compOk [⟨.hid 0, []⟩, ⟨.tapeK 1, []⟩, ⟨.tapeU 2, []⟩, ⟨.sub, [1, 2]⟩, ⟨.add, [3, 0]⟩] [1] = true := by
  decide +kernel

end checker

section recipient
open CCV.Pivot CCV.Mask
variable {R : Type} [AddCommGroup R]

theorem reveal_determined (sem : Nat → List R → R) (own kn : Nat → R) (g : List Mask.Node)
    (cert : Cert) (comp revs : List Nat) (o : Nat)
    (hr : revOk g (cert.map (·.1) ++ comp) o revs = true) (x x' ρ ρ' : Nat → R)
    (hcert : (cert.map (toMsg sem own kn g)).map (fun m => m.f x ρ)
      = (cert.map (toMsg sem own kn g)).map (fun m => m.f x' ρ'))
    (hcomp : comp.map (fun m => val sem own kn g m x ρ) = comp.map (fun m => val sem own kn g m x' ρ'))
    (ho : val sem own kn g o x ρ = val sem own kn g o x' ρ') :
    revs.map (fun m => val sem own kn g m x ρ) = revs.map (fun m => val sem own kn g m x' ρ') := by
  simp only [revOk, Bool.and_eq_true, List.all_eq_true, decide_eq_true_eq, beq_iff_eq] at hr
  obtain ⟨⟨hw, ho'⟩, hrev⟩ := hr
  have hmsg : ∀ j ∈ cert.map (·.1) ++ comp, val sem own kn g j x ρ = val sem own kn g j x' ρ' := by
    intro j hj
    rcases List.mem_append.mp hj with hj | hj
    · obtain ⟨mv, hmv, rfl⟩ := List.mem_map.mp hj
      exact List.map_eq_map_iff.mp hcert (toMsg sem own kn g mv) (List.mem_map_of_mem hmv)
    · exact List.map_eq_map_iff.mp hcomp j hj
  refine List.map_congr_left (fun r hrm => ?_)
  -- val o − val r is equal in both runs, and so is val o
  have hs : val sem own kn g o x ρ - val sem own kn g r x ρ
      = val sem own kn g o x' ρ' - val sem own kn g r x' ρ' := by
    have := rcls_sound sem own kn g _ r hw x x' ρ ρ' hmsg o ho'
    rw [(hrev r hrm).2] at this
    exact this
  rw [ho] at hs
  exact sub_right_injective hs

/-- **Soundness of the checked certificate for an output recipient.**  `cert` / `comp` as in
    `checked_graph_hides`; `revs` = the reveal messages (the share(s) of the output the recipient does
    not hold, the forwarded result); `o` = the output node.  If the checker accepts — in particular
    `revOk`: the output node is `r + (something determined by the other messages, the recipient's own
    inputs and the masks it knows)` for every reveal message r — and the value of the output node does
    not depend on the tape (`hout`, a hypothesis here), then the recipient's whole view, reveal
    messages included, coincides along a bijection of the unknown tapes for any two secret vectors that
    give it the same output. -/
theorem checked_graph_hides_recipient (sem : Nat → List R → R) (own kn : Nat → R) (g : List Mask.Node)
    (cert : Cert) (comp revs : List Nat) (o : Nat)
    (h : discOk g cert = true) (hc : compOk g comp = true)
    (hr : revOk g (cert.map (·.1) ++ comp) o revs = true)
    (hout : ∀ x ρ ρ', val sem own kn g o x ρ = val sem own kn g o x ρ') :
    Hides (fun (x : Nat → R) (ρ : Nat → R) =>
        ((cert.map (toMsg sem own kn g)).map (fun m => m.f x ρ),
         comp.map (fun m => val sem own kn g m x ρ),
         revs.map (fun m => val sem own kn g m x ρ),
         offPivots (cert.map (toMsg sem own kn g)) ρ))
      (fun x => val sem own kn g o x (fun _ => 0)) := by
  refine hides_of_inverse fun x x' hx => ?_
  obtain ⟨σ, τ, S⟩ := exists_sim _ (discOk_disc sem own kn g cert h) x x'
  refine ⟨σ, τ, S.left, S.right, fun ρ => ?_⟩
  have e2 := compOk_const sem own kn g comp hc x x' ρ (σ ρ)
  exact Prod.ext (sim_view S ρ).1 (Prod.ext e2 (Prod.ext
    (reveal_determined sem own kn g cert comp revs o hr x x' ρ (σ ρ) (sim_view S ρ).1 e2
      (((hout x ρ _).trans hx).trans (hout x' _ (σ ρ))))
    (sim_view S ρ).2))

/-- non-vacuity: x owned by party 1, revealed to party 0.  Party 0 knows f0, f1 (tapeK), not f2
    (tapeU 2).  Shares: s0 = f0 − f1, s1 = (f1 − f2) + x, s2 = f2 − f0.  Party 0 holds s0 (computes it)
    and receives s1 (message node 6, pivot f2); at reveal it receives s2 (node 7); output o = (s0+s1)+s2. -/
example :
    let g : List Mask.Node := [⟨.hid 0, []⟩, ⟨.tapeK 0, []⟩, ⟨.tapeK 1, []⟩, ⟨.tapeU 2, []⟩,
      ⟨.sub, [1, 2]⟩, ⟨.sub, [2, 3]⟩, ⟨.add, [5, 0]⟩, ⟨.sub, [3, 1]⟩, ⟨.add, [4, 6]⟩, ⟨.add, [8, 7]⟩]
    discOk g [(6, 2)] = true ∧ compOk g [] = true ∧ revOk g ([(6, 2)].map (·.1) ++ []) 9 [7] = true := by
  decide +kernel

end recipient

/- The nodes of a compiled graph have different types; a tape variable ranges over ITS type only.  All
   values live in one group `R` (e.g. the product of all carrier groups), a type is a subgroup
   (`TagTypes`), and the statements below are about the TYPED tapes and secrets: the simulation of the
   discipline restricts to a bijection of the typed tapes. -/
section typed
open CCV.Pivot CCV.Mask
variable {R : Type} [AddCommGroup R]

theorem simT_bijective {X : Type} {T : Types R} {msgs : List (Msg X R)} {x x' : X}
    {σ τ : (Nat → R) → (Nat → R)} (S : SimT T msgs x x' σ τ) :
    Function.Bijective (fun (ρ : {ρ : Nat → R // TypedTape T ρ}) =>
      (⟨σ ρ.1, S.typedσ ρ.1 ρ.2⟩ : {ρ : Nat → R // TypedTape T ρ})) := by
  constructor
  · intro a b hab
    have h1 : σ a.1 = σ b.1 := congrArg Subtype.val hab
    have h2 : τ (σ a.1) = τ (σ b.1) := by rw [h1]
    rw [S.left, S.left] at h2
    exact Subtype.ext h2
  · intro b
    exact ⟨⟨τ b.1, S.typedτ b.1 b.2⟩, Subtype.ext (S.right b.1)⟩

/-- **Soundness of the mask discipline on typed tapes.**  As `pivot_discipline_hides`, for tape
    variables that range over their own type each: if every message takes its values in the type of its
    pivot, the views under any two admissible secret vectors coincide along a bijection of the TYPED
    tapes. -/
theorem typed_discipline_hides {X : Type} (T : Types R) (PX : X → Prop) (msgs : List (Msg X R))
    (h : Disc msgs) (hty : ∀ m ∈ msgs, MsgTyped T PX m) :
    Hides (fun (x : {x : X // PX x}) (ρ : {ρ : Nat → R // TypedTape T ρ}) =>
        (msgs.map (fun m => m.f x.1 ρ.1), offPivots msgs ρ.1))
      (fun _ => ()) := by
  intro x x' _
  obtain ⟨σ, τ, S⟩ := exists_sim_typed T PX msgs h hty x.1 x'.1 x.2 x'.2
  exact ⟨_, simT_bijective S, fun ρ => Prod.ext (sim_view S.toSim ρ.1).1 (sim_view S.toSim ρ.1).2⟩

/-- **Soundness of the checked certificate with types (non-recipient observer).**  `tys` tags every
    node of the exported graph with its type, `vty` every unknown tape variable.  If the checker accepts
    the certificate (`discOk`, `compOk`) AND the types (`tyOk`: `add`/`sub`/`nop` only between nodes of
    one type, each occurrence of a tape variable has the variable's type, each message has the type of
    its pivot), then for every semantics that respects the tags (`SemOK`, see `LeafOK`) the observer's
    views under any two admissible values of the secrets coincide along a bijection of the tapes whose
    every coordinate lies in its own type. -/
theorem checked_graph_hides_typed (T : TagTypes R) (sem : Nat → List R → R) (own kn : Nat → R)
    (g : List Mask.Node) (tys vty : List Nat) (cert : Cert) (comp : List Nat)
    (h : discOk g cert = true) (hc : compOk g comp = true) (ht : tyOk g tys vty cert = true)
    (hsem : SemOK T sem own kn g tys) :
    Hides (fun (x : {x : Nat → R // SecOK T g tys x}) (ρ : {ρ : Nat → R // TypedTape (T.vars vty) ρ}) =>
        ((cert.map (toMsg sem own kn g)).map (fun m => m.f x.1 ρ.1),
         comp.map (fun m => (evalRun sem own kn x.1 ρ.1 g []).getD m 0),
         offPivots (cert.map (toMsg sem own kn g)) ρ.1))
      (fun _ => ()) := by
  intro x x' _
  obtain ⟨σ, τ, S⟩ := exists_sim_typed (T.vars vty) (SecOK T g tys) _ (discOk_disc sem own kn g cert h)
    (cert_msgs_typed T sem own kn g tys vty cert ht h hsem) x.1 x'.1 x.2 x'.2
  exact ⟨_, simT_bijective S, fun ρ => Prod.ext (sim_view S.toSim ρ.1).1
    (Prod.ext (compOk_const sem own kn g comp hc x.1 x'.1 ρ.1 (σ ρ.1)) (sim_view S.toSim ρ.1).2)⟩

/-- **… and for an output recipient** (as `checked_graph_hides_recipient`, on typed tapes) -/
theorem checked_graph_hides_recipient_typed (T : TagTypes R) (sem : Nat → List R → R) (own kn : Nat → R)
    (g : List Mask.Node) (tys vty : List Nat) (cert : Cert) (comp revs : List Nat) (o : Nat)
    (h : discOk g cert = true) (hc : compOk g comp = true) (ht : tyOk g tys vty cert = true)
    (hsem : SemOK T sem own kn g tys)
    (hr : revOk g (cert.map (·.1) ++ comp) o revs = true)
    (hout : ∀ x ρ ρ', val sem own kn g o x ρ = val sem own kn g o x ρ') :
    Hides (fun (x : {x : Nat → R // SecOK T g tys x}) (ρ : {ρ : Nat → R // TypedTape (T.vars vty) ρ}) =>
        ((cert.map (toMsg sem own kn g)).map (fun m => m.f x.1 ρ.1),
         comp.map (fun m => val sem own kn g m x.1 ρ.1),
         revs.map (fun m => val sem own kn g m x.1 ρ.1),
         offPivots (cert.map (toMsg sem own kn g)) ρ.1))
      (fun x => val sem own kn g o x.1 (fun _ => 0)) := by
  intro x x' hx
  obtain ⟨σ, τ, S⟩ := exists_sim_typed (T.vars vty) (SecOK T g tys) _ (discOk_disc sem own kn g cert h)
    (cert_msgs_typed T sem own kn g tys vty cert ht h hsem) x.1 x'.1 x.2 x'.2
  refine ⟨_, simT_bijective S, fun ρ => ?_⟩
  have e2 := compOk_const sem own kn g comp hc x.1 x'.1 ρ.1 (σ ρ.1)
  exact Prod.ext (sim_view S.toSim ρ.1).1 (Prod.ext e2 (Prod.ext
    (reveal_determined sem own kn g cert comp revs o hr x.1 x'.1 ρ.1 (σ ρ.1) (sim_view S.toSim ρ.1).1 e2
      (((hout x.1 ρ.1 _).trans hx).trans (hout x'.1 _ (σ ρ.1))))
    (sim_view S.toSim ρ.1).2))

/-- non-vacuity: two types inside ℤ × ℤ (type 0 = ℤ × 0, type 1 = 0 × ℤ).  Nodes: 0: secret x (type 0),
    1: tape variable 0 (type 0), 2: x + ρ₀ (message, type 0), 3: an operation that converts x to type 1,
    4: tape variable 1 (type 1), 5: conv x − ρ₁ (message, type 1).  The checker accepts discipline and
    types, and a semantics respecting the tags exists. -/
def twoTypes : TagTypes (Int × Int) where
  P := fun t a => if t = 0 then a.2 = 0 else a.1 = 0
  zero := by intro t; by_cases h : t = 0 <;> simp [h]
  add := by
    intro t a b ha hb
    by_cases h : t = 0
    · simp only [h, if_true] at *; simp [ha, hb]
    · simp only [h, if_false] at *; simp [ha, hb]
  neg := by
    intro t a ha
    by_cases h : t = 0
    · simp only [h, if_true] at *; simp [ha]
    · simp only [h, if_false] at *; simp [ha]

def gTwo : List Mask.Node :=
  [⟨.hid 0, []⟩, ⟨.tapeU 0, []⟩, ⟨.add, [0, 1]⟩, ⟨.op 0, [0]⟩, ⟨.tapeU 1, []⟩, ⟨.sub, [3, 4]⟩]

example : discOk gTwo [(5, 1), (2, 0)] = true ∧ compOk gTwo [] = true
    ∧ tyOk gTwo [0, 0, 0, 1, 1, 1] [0, 1] [(5, 1), (2, 0)] = true := by decide +kernel

example : SemOK twoTypes (fun _ args => ((0 : Int), (args.getD 0 0).1)) (fun _ => 0) (fun _ => 0) gTwo
    [0, 0, 0, 1, 1, 1] := by
  intro j n hn
  rcases j with _ | _ | _ | _ | _ | _ | j
  case succ.succ.succ.zero => cases hn; exact fun _ => rfl
  case succ.succ.succ.succ.succ.succ => cases hn
  all_goals cases hn; trivial

/-- a mistyped mask is rejected: message of type 1 "masked" by a variable of type 0 -/
example : tyOk [⟨.hid 0, []⟩, ⟨.tapeU 0, []⟩, ⟨.add, [0, 1]⟩] [1, 0, 1] [0] [(2, 0)] = false := by decide +kernel

end typed

/- `RadixSortMPC` opens `σ ∘ π` to all parties, once per radix round and once at the end, π a fresh
   secret-shared random permutation each time.  In any group: if every opened value is `b · t` with a
   pivot `t` that `b` and all earlier openings are independent of, the tapes under any two secrets are
   in bijection with equal openings.  The per-configuration obligations CCV/Generated/C03Sort*.lean state
   `freshOk skeleton cert = true` for the protocol graph `RadixSortMPC::instantiate` builds. -/
section shuffle
open CCV.Shuffle
variable {G X : Type} [Group G]

def offPivotsMul (msgs : List (PivotMul.Msg X G)) (ρ : Nat → G) : Nat → G :=
  fun v => if ∃ m ∈ msgs, v = m.piv then 1 else ρ v

theorem offPivotsMul_congr (msgs : List (PivotMul.Msg X G)) (ρ ρ' : Nat → G)
    (h : ∀ v, (∀ m ∈ msgs, v ≠ m.piv) → ρ' v = ρ v) : offPivotsMul msgs ρ' = offPivotsMul msgs ρ := by
  funext v
  unfold offPivotsMul
  by_cases hv : ∃ m ∈ msgs, v = m.piv
  · rw [if_pos hv, if_pos hv]
  · rw [if_neg hv, if_neg hv]
    exact h v (fun m hm e => hv ⟨m, hm, e⟩)

/-- **Soundness of the discipline in an arbitrary group** (right-multiplicative masks): a bijection of
    tapes aligning all opened values (and every non-pivot tape coordinate) for any two secrets. -/
theorem mul_discipline_hides (msgs : List (PivotMul.Msg X G)) (h : PivotMul.Disc msgs) :
    Hides (fun (x : X) (ρ : Nat → G) => (msgs.map (fun m => m.f x ρ), offPivotsMul msgs ρ))
      (fun _ => ()) := by
  refine hides_of_inverse fun x x' _ => ?_
  obtain ⟨σ, τ, S⟩ := PivotMul.exists_sim msgs h x x'
  exact ⟨σ, τ, S.left, S.right, fun ρ => Prod.ext (List.map_congr_left (S.align ρ)) (offPivotsMul_congr msgs ρ (σ ρ) (S.fixσ ρ)).symm⟩

/-- **Soundness of the checked sort skeleton.**  For an exported protocol graph `g` (any semantics of
    the sub-protocols, values in any group): if `freshOk` accepts — the mask of every certified opening
    is a fresh shared permutation that neither the shuffled value nor any earlier opening depends on;
    `freshOk` also tests that the certificate lists every `mul` node of the graph, which the proof does not
    use — then the certified openings under any two values of the protocol's inputs coincide along a
    bijection of the tapes. -/
theorem checked_sort_skeleton_hides (sem : Nat → List G → G) (g : List Shuffle.Node) (cert : Shuffle.Cert)
    (h : freshOk g cert = true) :
    Hides (fun (x : Nat → G) (ρ : Nat → G) =>
        ((cert.map (Shuffle.toMsg sem g)).map (fun m => m.f x ρ),
         offPivotsMul (cert.map (Shuffle.toMsg sem g)) ρ))
      (fun _ => ()) :=
  mul_discipline_hides _ (freshOk_disc sem g cert h)

/-- non-vacuity: two radix rounds.  0: σ₀ (secret), 1: π₀, 2: open σ₀∘π₀, 3: σ₁ = f(opening, π₀)
    (`unshuffle` uses the OLD mask), 4: π₁, 5: open σ₁∘π₁.  Accepted. -/
example : freshOk [⟨.hid 0, []⟩, ⟨.mask 0, []⟩, ⟨.mul, [0, 1]⟩, ⟨.op 0, [2, 1]⟩, ⟨.mask 1, []⟩, ⟨.mul, [3, 4]⟩]
    [(5, 1), (2, 0)] = true := by decide +kernel

/-- the hoisted shuffle (one π for both rounds) is rejected -/
example : freshOk [⟨.hid 0, []⟩, ⟨.mask 0, []⟩, ⟨.mul, [0, 1]⟩, ⟨.op 0, [2, 1]⟩, ⟨.mul, [3, 1]⟩]
    [(4, 0), (2, 0)] = false := by decide +kernel

/-- with one mask `t` for two openings, their quotient `(s₁·t)·(s₀·t)⁻¹ = s₁·s₀⁻¹` does not depend on `t` -/
example (s0 s1 t : G) : (s1 * t) * (s0 * t)⁻¹ = s1 * s0⁻¹ := by
  rw [mul_inv_rev, mul_assoc, mul_inv_cancel_left]

end shuffle

end CCV.C03
