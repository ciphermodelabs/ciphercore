import CCV.Lemmas.SortFinal
/-
  C18 — sorting is a stable sort; permutation application and inversion agree.
  Theorems about the model `CCV/Model/Sort.lean` (the functions the driver executes).
-/
namespace CCV.C18
open CCV.Sort

/-- `get_sorting_permutation` returns a permutation of the row indices `0..n-1` -/
theorem sortPerm_perm (keys : List (List Nat)) : (sortPerm keys).Perm (List.range keys.length) := by
  have h := (isort_perm (fun a b : List Nat × Nat => lexLt a.1 b.1)
    (keys.zip (List.range keys.length))).map (·.2)
  refine h.trans ?_
  rw [show (fun x : List Nat × Nat => x.2) = Prod.snd from rfl, List.map_snd_zip (by simp)]

/-- `get_sorting_permutation` returns a permutation of the row indices `0..n-1` in which every
    earlier entry precedes every later one in the order (key lexicographically, input position on
    equal keys): sorted and stable.  Any number of rows, any row lengths and entries. -/
theorem sortPerm_is_stable_sort (keys : List (List Nat)) : IsStableSortPerm keys (sortPerm keys) := by
  refine ⟨sortPerm_perm keys, ?_⟩
  have hm := mem_zip_range keys
  have hz : (keys.zip (List.range keys.length)).Pairwise (fun a b => a.2 < b.2) := by
    rw [← List.pairwise_map (f := Prod.snd) (R := (· < ·)), List.map_snd_zip (by simp)]
    exact List.pairwise_lt_range
  rw [sortPerm, List.pairwise_map]
  apply isort_pairwise _ (fun a b c => stableLt_trans keys a.2 b.2 c.2)
  · intro x hx y hy h
    exact Or.inl (by rw [hm x hx, hm y hy]; exact h)
  · refine hz.imp_of_mem ?_
    intro x y hx hy hlt h
    unfold stableLt
    rw [hm x hx, hm y hy]
    rcases lexLt_tri x.1 y.1 with h' | h' | h'
    · exact Or.inl h'
    · exact Or.inr ⟨h', hlt⟩
    · rw [h] at h'; cases h'

example : IsStableSortPerm [[1, 0], [0, 1], [1, 0], [0, 1]] [1, 3, 0, 2] ∧
    sortPerm [[1, 0], [0, 1], [1, 0], [0, 1]] = [1, 3, 0, 2] :=
  ⟨sortPerm_is_stable_sort _, by decide +kernel⟩

/-- a list that is a stable sorting permutation of `keys` (`IsStableSortPerm`) is the one
    `get_sorting_permutation` computes -/
theorem sortPerm_unique (keys : List (List Nat)) (p : List Nat) (h : IsStableSortPerm keys p) :
    p = sortPerm keys := by
  have hq := sortPerm_is_stable_sort keys
  apply List.Perm.eq_of_pairwise (le := stableLt keys) _ h.2 hq.2 (h.1.trans hq.1.symm)
  intro a b _ _ h1 h2
  exact absurd h2 (stableLt_asymm keys a b h1)

example : ¬ IsStableSortPerm [[1], [0], [1], [0]] [3, 1, 0, 2] := by
  intro h
  have := sortPerm_unique _ _ h
  revert this
  decide +kernel

/-- the gathered key column is sorted: non-decreasing lexicographic rows (index 0 first) -/
theorem sortPerm_sorted (keys : List (List Nat)) :
    ∃ sorted, gather keys (sortPerm keys) = some sorted ∧
      sorted.Pairwise (fun a b => lexLt b a = false) := by
  have hp := sortPerm_is_stable_sort keys
  obtain ⟨s, hs, -, -⟩ := gather_perm_spec hp.1 rfl
  refine ⟨s, hs, ?_⟩
  rw [gather_eq_map hs [], List.pairwise_map]
  refine hp.2.imp fun {a b} h => ?_
  exact Bool.eq_false_iff.mpr fun h' => stableLt_asymm keys a b h (Or.inl h')

example : gather [[1, 0], [0, 1], [1, 0], [0, 1]] (sortPerm [[1, 0], [0, 1], [1, 0], [0, 1]]) =
    some [[0, 1], [0, 1], [1, 0], [1, 0]] := by decide +kernel

/-- stability: rows with equal keys keep their input order -/
theorem sortPerm_stable (keys : List (List Nat)) (i j : Nat) (hij : i < j)
    (hj : j < (sortPerm keys).length)
    (heq : keys.getD (sortPerm keys)[i] [] = keys.getD (sortPerm keys)[j] []) :
    (sortPerm keys)[i] < (sortPerm keys)[j] := by
  have h1 := List.pairwise_iff_getElem.mp (sortPerm_is_stable_sort keys).2 i j (by omega) hj hij
  rcases h1 with h1 | ⟨_, h1⟩
  · rw [heq, lexLt_irrefl] at h1; cases h1
  · exact h1

example : sortPerm [[1], [1], [0], [1], [0]] = [2, 4, 0, 1, 3] := by decide +kernel

/-- if `Sort` succeeds, every output column is the input column gathered by the one `sortPerm keys` -/
theorem sort_same_perm_every_column {α : Type} (keys : List (List Nat)) (cols out : List (List α))
    (h : sortColumns keys cols = some out) :
    out.length = cols.length ∧
      ∀ c (hc : c < cols.length), ∃ o, out[c]? = some o ∧ gather cols[c] (sortPerm keys) = some o := by
  have h1 := (allSome_eq_some _ _).mp h
  have hl : out.length = cols.length := by simpa using (congrArg List.length h1).symm
  refine ⟨hl, fun c hc => ⟨out[c]'(hl ▸ hc), List.getElem?_eq_getElem _, ?_⟩⟩
  have h2 := congrArg (·[c]?) h1
  simpa [List.getElem?_eq_getElem hc, List.getElem?_eq_getElem (hl ▸ hc)] using h2

example : sortColumns [[1], [0], [1], [0]] [[[10], [11], [12], [13]], [[1, 2], [3, 4], [5, 6], [7, 8]]] =
    some [[[11], [13], [10], [12]], [[3, 4], [7, 8], [1, 2], [5, 6]]] := by decide +kernel

/-- The radix loop of `RadixSortMPC` (stable counting sorts by chunk, least significant first, a
    first chunk of `b mod chunk` bits, composed as rank permutations, with arbitrary shuffles)
    yields the rank permutation of the stable order by the whole key: for every number of rows,
    key width `b`, chunk size and shuffles (chunk size 0 included, in the model only, where `b % 0 = b`
    makes the whole key one chunk). -/
theorem radixRank_eq_stableRank {b : Nat} {keys : List (List Nat)} (hw : KeysOk b keys) (chunk : Nat)
    (pis : List (List Nat)) (hpis : ∀ pi ∈ pis, pi.Perm (List.range keys.length)) :
    radixRank chunk b keys pis = some (stableRank keys) ∧
      (stableRank keys).Perm (List.range keys.length) ∧
      InvRel (sortPerm keys) (stableRank keys) := by
  have hp := sortPerm_is_stable_sort keys
  refine ⟨?_, rankOf_perm (keyLt_sto _) _,
    rankOf_invRel (keyLt_sto _) hp.1 (hp.2.imp (keyLt_iff_stableLt keys _ _).mpr)⟩
  have h := radixLoop_spec hw chunk ((b - step0Size chunk b) / chunk) pis hpis
  rw [step0_div] at h
  rw [radixRank, sigma0_congr hw]
  -- `stableRank keys` is `rankOf (keyLt (sufKey keys 0)) _` by unfolding (`List.drop 0`)
  exact h

/-- The secure sort on revealed values (radix rank, then Algorithm 13 per column, with arbitrary
    shuffles) returns exactly the columns of the plaintext `Sort`. -/
theorem radixSort_eq_sort {α : Type} {b : Nat} {keys : List (List Nat)} (hw : KeysOk b keys)
    (chunk : Nat) (pis : List (List Nat)) (hpis : ∀ pi ∈ pis, pi.Perm (List.range keys.length))
    (piLast : List Nat) (hpl : piLast.Perm (List.range keys.length))
    (cols : List (List α)) (hcols : ∀ c ∈ cols, c.length = keys.length) :
    radixSort chunk b keys pis piLast cols = sortColumns keys cols := by
  obtain ⟨h1, h2, h3⟩ := radixRank_eq_stableRank hw chunk pis hpis
  rw [radixSort, h1, sortColumns]
  show allSome _ = _
  congr 1
  apply List.map_congr_left
  intro c hc
  rw [applySorting_eq_invApply hpl h2 (hcols c hc),
    inversePerm_eq_of_invRel h2 (sortPerm_perm keys) h3, Option.bind_some]

example : radixSort 2 3 [[1, 0, 1], [0, 1, 1], [1, 0, 1], [0, 0, 0], [0, 1, 1]] [[2, 0, 1, 4, 3]] [4, 3, 2, 1, 0]
    [[0, 1, 2, 3, 4]] = some [[3, 1, 4, 0, 2]] ∧
    sortColumns [[1, 0, 1], [0, 1, 1], [1, 0, 1], [0, 0, 0], [0, 1, 1]] [[0, 1, 2, 3, 4]] = some [[3, 1, 4, 0, 2]] ∧
    KeysOk 3 [[1, 0, 1], [0, 1, 1], [1, 0, 1], [0, 0, 0], [0, 1, 1]] := by
  unfold KeysOk IsBits
  decide +kernel

/-- one round in isolation: stable sort by the low part, then stable counting sort by the next
    chunk = stable sort by (chunk, low part), for every strict total order `lt` of the rows -/
theorem radixRound_composes {n : Nat} {lt : Nat → Nat → Bool} (hs : IsSTO lt) {pi col : List Nat}
    (hpi : pi.Perm (List.range n)) (hcol : col.length = n) :
    radixRound pi (rankOf lt n) col = some (rankOf (lexStep (col.getD · 0) lt) n) :=
  radixRound_spec hs hpi hcol

/-- `integer_to_bits` is strictly order preserving (and injective) on the values of every scalar
    type: unsigned and signed of any width `w ≥ 1` (MSB flip), and `BIT` (`w = 0`) -/
theorem intKeyBits_order (signed : Bool) (w : Nat) (x y : Int) (hx : InRange signed w x)
    (hy : InRange signed w y) :
    (lexLt (intKeyBits signed w x) (intKeyBits signed w y) = true ↔ x < y) ∧
    (intKeyBits signed w x = intKeyBits signed w y ↔ x = y) := by
  obtain ⟨b1, l1, v1⟩ := intKeyBits_spec signed w x hx
  obtain ⟨b2, l2, v2⟩ := intKeyBits_spec signed w y hy
  obtain ⟨c1, c2⟩ := lexLt_iff_cv _ _ (by rw [l1, l2]) b1 b2
  rw [c1, c2]
  constructor <;> constructor <;> intro h <;> omega

example : intKeyBits true 8 (-1) = [0, 1, 1, 1, 1, 1, 1, 1] ∧ intKeyBits true 8 5 = [1, 0, 0, 0, 0, 1, 0, 1] ∧
    InRange true 8 (-1) ∧ InRange true 8 5 ∧ sortPermInt true 8 [-1, 5, -128, 127, 5] = [2, 0, 1, 4, 3] := by
  unfold InRange
  decide +kernel

/-- the validity test of `InversePermutation` (`sort; dedup; len` and the range check) accepts
    exactly the permutations of `0..n-1` -/
theorem isPerm_iff_perm (p : List Nat) : isPerm p = true ↔ p.Perm (List.range p.length) := by
  unfold isPerm
  rw [Bool.and_eq_true, noDupTest_iff, List.all_eq_true]
  constructor
  · rintro ⟨h1, h2⟩
    exact perm_range_of_nodup _ p h1 (fun x hx => by simpa using h2 x hx) rfl
  · intro h
    exact ⟨perm_range_nodup h, fun x hx => by simpa using perm_range_lt h x hx⟩

/-- `InversePermutation` succeeds exactly on permutations of `0..n-1` -/
theorem inversePerm_isSome_iff (p : List Nat) :
    (∃ q, inversePerm p = some q) ↔ p.Perm (List.range p.length) := by
  constructor
  · rintro ⟨q, h⟩; exact inversePerm_some h
  · intro h; obtain ⟨q, hq, _⟩ := inversePerm_spec h; exact ⟨q, hq⟩

/-- the validity test of `ApplyPermutation` accepts exactly the permutations of `0..n-1` -/
theorem isPermApply_iff_perm (n : Nat) (p : List Nat) (hl : p.length = n) :
    isPermApply n p = true ↔ p.Perm (List.range n) :=
  isPermApply_iff n p hl

example : isPerm [2, 0, 1] = true ∧ isPerm [2, 0, 0] = false ∧ isPerm [0, 1, 3] = false ∧
    isPermApply 3 [2, 0, 0] = false ∧ isPermApply 3 [0, 1, 3] = false ∧ isPermApply 3 [1, 2, 0] = true := by
  decide +kernel

/-- the result of `InversePermutation` is a permutation and a two-sided inverse -/
theorem inversePerm_inverts {n : Nat} {p : List Nat} (hp : p.Perm (List.range n)) :
    ∃ q, inversePerm p = some q ∧ q.Perm (List.range n) ∧ InvRel p q ∧ InvRel q p :=
  inversePerm_spec hp

/-- inverting a permutation twice gives it back (both inversions succeed) -/
theorem inversePerm_involutive {n : Nat} {p : List Nat} (hp : p.Perm (List.range n)) :
    (inversePerm p).bind inversePerm = some p := by
  obtain ⟨q, hq, hqp, h1, _⟩ := inversePerm_spec hp
  rw [hq, Option.bind_some, inversePerm_eq_of_invRel hqp hp h1]

example : (inversePerm [2, 0, 3, 1]).bind inversePerm = some [2, 0, 3, 1] ∧
    inversePerm [2, 0, 3, 1] = some [1, 3, 0, 2] := by decide +kernel

/-- `apply_inverse_permutation(apply_permutation(a, p), p) = a` for every permutation `p` and
    every array `a` (rows of any type) -/
theorem applyInverse_apply {α : Type} (p : List Nat) (a : List α) (hp : p.Perm (List.range a.length)) :
    (applyPerm p a).bind (applyInversePerm p) = some a := by
  obtain ⟨b, hb, hbl, hb2⟩ := gather_perm_spec hp rfl
  obtain ⟨c, hc, hcl, hc2⟩ := invApply_spec hp hbl
  rw [applyPerm, applyPermOp_eq hp, if_neg Bool.false_ne_true, hb, Option.bind_some, applyInversePerm,
    applyPermOp_eq (hbl ▸ hp), if_pos rfl, hc]
  exact congrArg some (ext_perm hp hcl rfl fun k v hk => by rw [hc2 k v hk, hb2 k v hk])

/-- `apply_permutation(apply_inverse_permutation(a, p), p) = a` -/
theorem apply_applyInverse {α : Type} (p : List Nat) (a : List α) (hp : p.Perm (List.range a.length)) :
    (applyInversePerm p a).bind (applyPerm p) = some a := by
  obtain ⟨b, hb, hbl, hb2⟩ := invApply_spec hp rfl
  obtain ⟨c, hc, hcl, hc2⟩ := gather_perm_spec hp hbl
  rw [applyInversePerm, applyPermOp_eq hp, if_pos rfl, hb, Option.bind_some, applyPerm,
    applyPermOp_eq (hbl ▸ hp), if_neg Bool.false_ne_true, hc]
  refine congrArg some (ext_lt hcl rfl fun k hk => ?_)
  have hpk := List.getElem?_eq_getElem (perm_range_length hp ▸ hk : k < p.length)
  rw [hc2 k _ hpk, hb2 k _ hpk]

/-- `ApplyPermutation` (plain or inverse) succeeds on a type-correct operand (`p.length = n`)
    exactly when the operand is a permutation of `0..n-1` -/
theorem applyPermOp_accepts_iff {α : Type} (inv : Bool) (p : List Nat) (a : List α)
    (hl : p.length = a.length) :
    (∃ b, applyPermOp inv a p = some b) ↔ p.Perm (List.range a.length) := by
  constructor
  · rintro ⟨b, h⟩; exact applyPermOp_some hl h
  · intro hp
    rw [applyPermOp_eq hp]
    cases inv with
    | false => obtain ⟨b, hb, _⟩ := gather_perm_spec hp rfl; exact ⟨b, hb⟩
    | true => obtain ⟨b, hb, _⟩ := invApply_spec hp rfl; exact ⟨b, hb⟩

example : applyPerm [2, 0, 1, 1] [10, 20, 30, 40] = none ∧
    applyPerm [2, 0, 3, 1] [10, 20, 10, 40] = some [10, 10, 40, 20] ∧
    applyInversePerm [2, 0, 3, 1] [10, 10, 40, 20] = some [10, 20, 10, 40] := by decide +kernel

end CCV.C18
