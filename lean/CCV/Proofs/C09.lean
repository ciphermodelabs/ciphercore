import CCV.Lemmas.TypeInfer
import CCV.Lemmas.BroadcastAssoc
/-
  C09 — type inference is sound for evaluation; well-typed programs never crash.

  Shape-level soundness of the model `CCV.TI.infer` (= `process_node`) against the documented
  semantics, for shapes of every rank, plus the two "evaluator loop stays in range" facts
  (broadcasting, slicing).  The value-level statements `∃ v, evalOp op tys vs = .ok v ∧ hasType t v` are in
  Proofs/C09Values.lean; the theorems here are about shapes — hence the names `…_shape_sound`.
-/
namespace CCV.C09
open CCV CCV.TV CCV.TI

/-! ### broadcasting (Add / Subtract / Multiply / MixedMultiply / Stack / batch dims of Matmul, Gemm) -/

/-- `broadcast_shapes` is commutative (result and acceptance). -/
theorem broadcast_comm (s1 s2 : List Nat) : broadcastShapes s1 s2 = broadcastShapes s2 s1 :=
  broadcastShapes_comm s1 s2

example : broadcastShapes [2, 1, 3] [4, 1] = .ok [2, 4, 3] ∧ broadcastShapes [4, 1] [2, 1, 3] = .ok [2, 4, 3] :=
  ⟨rfl, rfl⟩

/-- `broadcast_shapes` is idempotent. -/
theorem broadcast_idem (s : List Nat) : broadcastShapes s s = .ok s := broadcastShapes_idem s

example : broadcastShapes [7, 1, 2] [7, 1, 2] = .ok [7, 1, 2] := rfl

/-- documented rank of the result: the larger of the two ranks. -/
theorem broadcast_rank {s1 s2 r : List Nat} (h : broadcastShapes s1 s2 = .ok r) :
    r.length = (if s1.length ≤ s2.length then s2.length else s1.length) := broadcastShapes_length h

/-- documented NumPy rule, and the in-range half for the evaluator (`broadcast_to_shape` reads the
    operand at `index[i] % d`): the right-aligned operand dimension `d` (1 where the operand has no
    dimension) is either the result dimension — then every result digit is used unchanged — or `1` —
    then the digit maps to `0`; in both cases the operand digit `x % d` is in range. -/
theorem broadcast_index_in_range {s1 s2 r : List Nat} (h1 : ∀ d ∈ s1, 0 < d) (h2 : ∀ d ∈ s2, 0 < d)
    (h : broadcastShapes s1 s2 = .ok r) (j : Nat) (hj : j < r.length) (x : Nat) (hx : x < r[j]) :
    (x % dimAt s1 (r.length - s1.length) j < dimAt s1 (r.length - s1.length) j ∧
      (x % dimAt s1 (r.length - s1.length) j = x ∨ x % dimAt s1 (r.length - s1.length) j = 0)) ∧
    (x % dimAt s2 (r.length - s2.length) j < dimAt s2 (r.length - s2.length) j ∧
      (x % dimAt s2 (r.length - s2.length) j = x ∨ x % dimAt s2 (r.length - s2.length) j = 0)) := by
  obtain ⟨a, b, _⟩ := broadcastShapes_dims h1 h2 h j hj
  constructor
  · rcases a with a | a
    · rw [a]; exact ⟨Nat.mod_lt _ (by omega), Or.inl (Nat.mod_eq_of_lt hx)⟩
    · rw [a]; exact ⟨by omega, Or.inr (Nat.mod_one x)⟩
  · rcases b with b | b
    · rw [b]; exact ⟨Nat.mod_lt _ (by omega), Or.inl (Nat.mod_eq_of_lt hx)⟩
    · rw [b]; exact ⟨by omega, Or.inr (Nat.mod_one x)⟩

example : (∀ d ∈ [2, 1, 3], 0 < d) ∧ broadcastShapes [2, 1, 3] [4, 1] = .ok [2, 4, 3] ∧
    dimAt [4, 1] (3 - 2) 0 = 1 ∧ dimAt [4, 1] (3 - 2) 1 = 4 ∧ dimAt [2, 1, 3] 0 1 = 1 := by
  refine ⟨by decide, rfl, rfl, rfl, rfl⟩

/-- each padded operand dimension really is the operand's own dimension (right-aligned). -/
theorem broadcast_dim_is_operand_dim (s : List Nat) (off j : Nat) (h1 : off ≤ j) (h2 : j - off < s.length) :
    dimAt s off j = s[j - off] := dimAt_eq_getElem s off j h1 h2

/-- well-formedness preservation: positive operand dimensions give positive result dimensions, and
    the result is non-empty as soon as one operand is. -/
theorem broadcast_wf {s1 s2 r : List Nat} (h1 : ∀ d ∈ s1, 0 < d) (h2 : ∀ d ∈ s2, 0 < d)
    (h : broadcastShapes s1 s2 = .ok r) : (∀ d ∈ r, 0 < d) ∧ (s1 ≠ [] ∨ s2 ≠ [] → r ≠ []) := by
  refine ⟨broadcastShapes_pos h1 h2 h, ?_⟩
  intro hne
  have hl := broadcastShapes_length h
  unfold maxLen at hl
  intro hr
  rw [hr] at hl
  simp only [List.length_nil] at hl
  rcases hne with hne | hne
  · cases s1 with
    | nil => exact hne rfl
    | cons a as => simp only [List.length_cons] at hl; split at hl <;> omega
  · cases s2 with
    | nil => exact hne rfl
    | cons a as => simp only [List.length_cons] at hl; split at hl <;> omega

def broadcast_assoc_Statement : Prop :=
  ∀ a b c : List Nat, (∀ d ∈ a, 0 < d) → (∀ d ∈ b, 0 < d) → (∀ d ∈ c, 0 < d) →
    (match broadcastShapes a b with
      | .ok ab => (broadcastShapes ab c).toOption
      | .error _ => none) =
    (match broadcastShapes b c with
      | .ok bc => (broadcastShapes a bc).toOption
      | .error _ => none)

/-- **broadcasting is associative** (all ranks, all positive dimensions): `(a·b)·c` and `a·(b·c)` are
    accepted for the same triples and give the same shape — the type of `x + y + z` does not depend on
    the bracketing (and neither does acceptance). -/
theorem broadcast_assoc : broadcast_assoc_Statement := broadcastShapes_assoc

example : broadcastShapes [3, 1] [4] = .ok [3, 4] ∧ broadcastShapes [3, 4] [2, 1, 1] = .ok [2, 3, 4] ∧
    broadcastShapes [4] [2, 1, 1] = .ok [2, 1, 4] ∧ broadcastShapes [3, 1] [2, 1, 4] = .ok [2, 3, 4] := ⟨rfl, rfl, rfl, rfl⟩

/-- documented slice length and range: an accepted `SubArray(b, e, s)` on a dimension `dim` yields
    `c ≥ 1` elements with `c = ⌈(end − begin)/step⌉` (`⌈(begin − end)/(−step)⌉` for a negative step)
    for the normalised triple, and all `begin + step·j`, `j < c`, are inside `[0, dim)`. -/
theorem slice_length_formula {dim : Nat} {b e s : Option Int} {r : Option Nat}
    (h : sliceShape1d dim (.sub b e s) = .ok r) :
    ∃ bg en st c, normalizeSub dim b e s = .ok (bg, en, st) ∧ r = some c ∧ 0 < c ∧ st ≠ 0 ∧
      (∀ j : Nat, j < c → 0 ≤ bg + st * (j : Int) ∧ bg + st * (j : Int) < dim) ∧
      (0 < st → (c : Int) = (en - bg + st - 1) / st) ∧
      (st < 0 → (c : Int) = (bg - en + (-st) - 1) / (-st)) := sliceShape1d_sub_spec h

example : sliceShape1d 10 (.sub (some 8) (some 1) (some (-3))) = .ok (some 3) ∧
    normalizeSub 10 (some 8) (some 1) (some (-3)) = .ok (8, 1, -3) ∧ ((8 - 1 + 3 - 1) / 3 : Int) = 3 := by
  refine ⟨rfl, rfl, by decide⟩

/-- `slice_1d_index` of every result position of an accepted 1-d slice is in `[0, dim)`. -/
theorem slice_1d_index_in_range {dim : Nat} {b e s : Option Int} {c : Nat}
    (h : sliceShape1d dim (.sub b e s) = .ok (some c)) (j : Nat) (hj : j < c) :
    ∃ x, slice1dIndex dim b e s j = .ok x ∧ x < dim := slice1dIndex_in_range h j hj

example : slice1dIndex 10 (some 8) (some 1) (some (-3)) 2 = .ok 2 := rfl

/-- `register_result`: whatever `process_node` accepts (for every operation that registers its
    result) is a valid type (`Type::is_valid`, including unique field names and the u64 size bound). -/
theorem infer_valid {op : Op} {tys : List Ty} {t : Ty} (h : infer op tys = .ok t) (hr : registers op = true) :
    t.isValid = true := (infer_ok h).2.2 hr

example : infer (.zeros (.array [2, 0] .u8)) [] = .error "Invalid type" ∧
    infer (.reshape (.array [] .u8)) [.scalar .u8] = .error "Trying to register invalid type" ∧
    infer (.repeat_ 2) [.array [3] .bit] = .ok (.vector 2 (.array [3] .bit)) := ⟨rfl, rfl, rfl⟩

/-- every index of the result of an accepted `GetSlice` (all ranks, negative indices / steps,
    ellipsis) maps through `slice_index` to an in-range index of the operand: the evaluator's
    `dependency_value[j]` never goes out of range. -/
theorem sliceIndex_in_range {shape : List Nat} {sl : List SliceEl} {rs : List Nat}
    (h : getSliceShape shape sl = .ok rs) (index : List Nat) (hlen : index.length = rs.length)
    (hi : ∀ i (h : i < rs.length), index.getD i 0 < rs[i]) :
    ∃ src, sliceIndex shape sl index = .ok src ∧ src.length = shape.length ∧
      ∀ i (h : i < src.length), src[i] < shape.getD i 0 :=
  sliceIndex_of_shape h index (.inl hlen) hi

example : getSliceShape [10, 4, 3] [.sub (some (-1)) (some 1) (some (-3)), .ellipsis, .single (-1)] = .ok [3, 4] ∧
    sliceIndex [10, 4, 3] [.sub (some (-1)) (some 1) (some (-3)), .ellipsis, .single (-1)] [2, 3] = .ok [3, 3, 2] := ⟨rfl, rfl⟩

/-- the same when the result is a scalar (the evaluator then uses the single index `[0]`). -/
theorem sliceIndex_scalar_in_range {shape : List Nat} {sl : List SliceEl}
    (h : getSliceShape shape sl = .ok []) :
    ∃ src, sliceIndex shape sl [0] = .ok src ∧ src.length = shape.length ∧
      ∀ i (h : i < src.length), src[i] < shape.getD i 0 :=
  sliceIndex_of_shape h [0] (.inr ⟨rfl, rfl⟩) fun _ hh => nomatch hh

example : getSliceShape [5, 2] [.single (-5), .single 1] = .ok [] ∧
    sliceIndex [5, 2] [.single (-5), .single 1] [0] = .ok [0, 1] := ⟨rfl, rfl⟩

/-! ### per-operation shape soundness: `infer op tys = ok t → t` = the documented result type -/

/-- CumSum keeps the type; the axis is in range. -/
theorem cumSum_shape_sound {ax : Nat} {s : List Nat} {st : ST} {t : Ty}
    (h : infer (.cumSum ax) [.array s st] = .ok t) : t = .array s st ∧ ax < s.length := by
  obtain ⟨_, _, e, hax, rfl⟩ := inferCumSum_ok (axis := ax) (tys := [.array s st]) (infer_ok_raw h)
  cases e
  exact ⟨rfl, hax⟩

example : infer (.cumSum 2) [.array [2, 1, 3] .i64] = .ok (.array [2, 1, 3] .i64) := rfl

/-- Sum: accepted only for distinct in-range axes; the result keeps the dimensions that are not
    summed, in order (a scalar when none is left). -/
theorem sum_shape_sound {axes s : List Nat} {st : ST} {t : Ty}
    (h : infer (.sum axes) [.array s st] = .ok t) :
    hasDup axes = false ∧ (∀ a ∈ axes, a < s.length) ∧
    t = arrOrScalar (((s.zipIdx 0).filter (fun p => !axes.contains p.2)).map (·.1)) st := by
  obtain ⟨_, _, e, hd, hlt, rfl⟩ := inferSum_ok (tys := [.array s st]) (infer_ok_raw h)
  cases e
  exact ⟨hd, hlt, by rw [dropAxes_spec]⟩

example : infer (.sum [2, 0]) [.array [2, 5, 3] .u16] = .ok (.array [5] .u16) ∧
    infer (.sum [1, 0]) [.array [2, 5] .u16] = .ok (.scalar .u16) := ⟨rfl, rfl⟩

/-- Sum over no axis returns the operand's type unchanged. -/
theorem sum_empty_axes {s : List Nat} {st : ST} {t : Ty}
    (h : infer (.sum []) [.array s st] = .ok t) (hs : s ≠ []) : t = .array s st := by
  obtain ⟨_, _, e, _, _, rfl⟩ := inferSum_ok (axes := []) (tys := [.array s st]) (infer_ok_raw h)
  cases e
  rw [dropAxes_nil]
  exact arrOrScalar_ne st hs

example : infer (.sum []) [.array [2, 5] .bit] = .ok (.array [2, 5] .bit) := rfl

/-- PermuteAxes: `axes` is a permutation of the axes, result dimension `i` is operand dimension `axes[i]`. -/
theorem permuteAxes_shape_sound {axes s : List Nat} {st : ST} {t : Ty}
    (h : infer (.permuteAxes axes) [.array s st] = .ok t) :
    hasDup axes = false ∧ (∀ a ∈ axes, a < s.length) ∧ axes.length = s.length ∧
    t = .array (axes.map (fun i => s.getD i 0)) st := by
  obtain ⟨_, _, e, hd, hlt, hl, rfl⟩ := inferPermuteAxes_ok (tys := [.array s st]) (infer_ok_raw h)
  cases e
  exact ⟨hd, hlt, hl, rfl⟩

example : infer (.permuteAxes [2, 0, 1]) [.array [2, 5, 3] .u8] = .ok (.array [3, 2, 5] .u8) := rfl

/-- Get: the index is a prefix of in-range positions, the result drops that many leading dimensions. -/
theorem get_shape_sound {idx s : List Nat} {st : ST} {t : Ty}
    (h : infer (.get idx) [.array s st] = .ok t) :
    idx.length ≤ s.length ∧ allLt idx s = true ∧
    t = (if idx.length = s.length then .scalar st else .array (s.drop idx.length) st) := by
  obtain ⟨_, _, e, hle, hlt, rfl⟩ := inferGet_ok (tys := [.array s st]) (infer_ok_raw h)
  cases e
  exact ⟨hle, hlt, rfl⟩

example : infer (.get [1]) [.array [2, 5, 3] .u8] = .ok (.array [5, 3] .u8) ∧
    infer (.get [1, 4, 2]) [.array [2, 5, 3] .u8] = .ok (.scalar .u8) := ⟨rfl, rfl⟩

/-- GetSlice: the result shape is `get_slice_shape` (scalar when no dimension is left). -/
theorem getSlice_shape_sound {sl : List SliceEl} {s : List Nat} {st : ST} {t : Ty}
    (h : infer (.getSlice sl) [.array s st] = .ok t) :
    ∃ rs, getSliceShape s sl = .ok rs ∧ t = arrOrScalar rs st := by
  obtain ⟨_, _, rs, e, hrs, rfl⟩ := inferGetSlice_ok (tys := [.array s st]) (infer_ok_raw h)
  cases e
  exact ⟨rs, hrs, rfl⟩

example : infer (.getSlice [.sub none none (some (-2))]) [.array [5, 2] .i8] = .ok (.array [3, 2] .i8) := rfl

/-- documented result of `matmul` for operands of rank ≥ 2: batch dimensions broadcast, the inner
    dimensions agree, the result is `batch ++ [n, m]` — for batch prefixes of every rank. -/
theorem matmul_shape_sound {ba bb : List Nat} {n k k' m : Nat} {st : ST} {t : Ty}
    (h : infer .matmul [.array (ba ++ [n, k]) st, .array (bb ++ [k', m]) st] = .ok t) :
    k = k' ∧ ∃ bc, broadcastShapes ba bb = .ok bc ∧ t = .array (bc ++ [n, m]) st := by
  have h : matmulInfer (.array (ba ++ [n, k]) st) (.array (bb ++ [k', m]) st) = .ok t := infer_ok_raw h
  obtain ⟨t0, g2, g0, l0⟩ := append_two ba n k
  obtain ⟨t1, g1, g3, l1⟩ := append_two bb k' m
  unfold matmulInfer at h
  simp only [if_neg l0, if_neg l1, t0, t1, g0, g1, g2, g3] at h
  replace h := of_ite_error (of_ite_error h).2
  refine ⟨Decidable.of_not_not h.1, ?_⟩
  replace h := h.2
  split at h
  · cases h
  · rename_i bc hb
    cases h
    exact ⟨bc, hb, (arrOrScalar_ne st (List.append_ne_nil_of_right_ne_nil _ (List.cons_ne_nil _ _))).trans
      (by rw [List.append_assoc]; rfl)⟩

example : infer .matmul [.array [2, 1, 3, 4] .i32, .array [5, 4, 2] .i32] = .ok (.array [2, 5, 3, 2] .i32) ∧
    infer .matmul [.array [4] .i32, .array [5, 4, 2] .i32] = .ok (.array [5, 2] .i32) ∧
    infer .matmul [.array [4] .i32, .array [4] .i32] = .ok (.scalar .i32) := ⟨rfl, rfl, rfl⟩

/-- documented result of `gemm(ta, tb)`: transpose the last two dimensions of an operand when its
    flag is set, then matmul: `batch ++ [n, m]`; holds for all four flag combinations and all
    batch ranks (batch dimensions of 1 broadcast). -/
theorem gemm_shape_sound {ba bb : List Nat} {x0 y0 x1 y1 : Nat} {ta tb : Bool} {st : ST} {t : Ty}
    (h : infer (.gemm ta tb) [.array (ba ++ [x0, y0]) st, .array (bb ++ [x1, y1]) st] = .ok t) :
    (if ta then x0 else y0) = (if tb then y1 else x1) ∧
    ∃ bc, broadcastShapes ba bb = .ok bc ∧
      t = .array (bc ++ [if ta then y0 else x0, if tb then x1 else y1]) st := by
  have h : gemmInfer (.array (ba ++ [x0, y0]) st) (.array (bb ++ [x1, y1]) st) ta tb = .ok t := infer_ok_raw h
  unfold gemmInfer at h
  replace h := (of_ite_error (of_ite_error h).2).2
  rw [transposeShape_append, transposeShape_append] at h
  obtain ⟨t0, g2, g0, _⟩ := append_two ba (if ta then y0 else x0) (if ta then x0 else y0)
  obtain ⟨t1, g1, g3, _⟩ := append_two bb (if tb then y1 else x1) (if tb then x1 else y1)
  have e0 : (if ta = true then [y0, x0] else [x0, y0]) = [if ta then y0 else x0, if ta then x0 else y0] := by
    cases ta <;> rfl
  have e1 : (if tb = true then [y1, x1] else [x1, y1]) = [if tb then y1 else x1, if tb then x1 else y1] := by
    cases tb <;> rfl
  simp only [e0, e1, t0, t1, g0, g1, g2, g3] at h
  replace h := of_ite_error h
  refine ⟨Decidable.of_not_not h.1, ?_⟩
  replace h := h.2
  split at h
  · cases h
  · rename_i bc hb
    cases h
    exact ⟨bc, hb, rfl⟩

example : infer (.gemm true false) [.array [1, 4, 3] .u64, .array [5, 4, 2] .u64] = .ok (.array [5, 3, 2] .u64) ∧
    infer (.gemm false true) [.array [1, 3, 4] .u64, .array [2, 4] .u64] = .ok (.array [1, 3, 2] .u64) := ⟨rfl, rfl⟩

end CCV.C09
