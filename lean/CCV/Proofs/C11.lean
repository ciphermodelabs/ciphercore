import CCV.Lemmas.ContextInv
/-
  C11 — the graph-building API keeps contexts well-formed; failed calls have no effect.

  All theorems are about `CCV.Context.step` / `run`, the functions the model driver executes
  (`CCV.Drv.C11.handle`).  `Inv` (CCV/Lemmas/ContextInv.lean) says: graph and node ids are their
  positions (dense, creation order); every node dependency is an earlier node of the same graph;
  every graph dependency is an older finalized graph of the same context; every stored node passed
  the type verdict; output nodes exist; finalized graphs have an output; the main graph is
  finalized; a finalized context has a main graph and only finalized graphs; both pairs of name
  tables are mutually inverse; table keys refer to existing objects and are duplicate-free; the size
  counter stays within `MAX_TOTAL_SIZE_NODES`.
-/
namespace CCV.C11
open CCV.Context

theorem inv_init : Inv init := by
  refine ⟨?_, ?_, ?_, ?_, ?_, ?_, ?_, ?_, ?_, ?_, ?_⟩ <;> simp [init, tget, keys, maxTotal]

example : init.graphs = [] ∧ init.finalized = false := by decide +kernel

/-- every API call, with any arguments and any type verdict, fails without effect or succeeds into
    a well-formed context (`Outcome`, CCV/Lemmas/ContextInv.lean) -/
theorem step_outcome {s : State} (h : Inv s) (c : Call) : Outcome s (step s c) := by
  cases c
  · exact createGraph_outcome h
  · exact addNodeInternal_outcome h
  · exact addNodeInternal_outcome h
  · exact setGraphName_outcome h
  · exact setNodeName_outcome h
  · exact addNodeAnnotation_outcome h
  · exact addGraphAnnotation_outcome h
  · exact setOutput_outcome h
  · exact finalizeGraph_outcome h
  · exact setMain_outcome h
  · exact finalizeContext_outcome h
  all_goals exact .same h _

/-- every API call keeps the context well formed -/
theorem step_inv {s : State} (c : Call) (h : Inv s) : Inv (step s c).1 :=
  (step_outcome h c).inv h

/-- … hence every call history -/
theorem run_inv {s : State} (cs : List Call) (h : Inv s) : Inv (run s cs) := by
  induction cs generalizing s with
  | nil => exact h
  | cons c cs ih => exact ih (step_inv c h)

/-- every reachable context is well formed -/
theorem reachable_inv (cs : List Call) : Inv (run init cs) := run_inv cs inv_init

/-- a two-graph history with a rolled-back node, names, a Call node, both graphs finalized and a
    main graph; the context itself is left open -/
def demo : List Call :=
  [.createGraph,
   .addNode 0 1 [] [] true (some 33),
   .addNode 0 2 [⟨0, 0, 0⟩, ⟨0, 0, 0⟩] [] false none,          -- ill-typed: rolled back
   .setNodeName ⟨0, 0, 0⟩ 3,
   .addNode 0 5 [⟨0, 0, 0⟩] [] true none,
   .setOutput 0 ⟨0, 0, 1⟩,
   .finalizeGraph 0,
   .createGraph,
   .addNode 1 1 [] [] true (some 33),
   .addNode 1 8 [⟨0, 1, 0⟩] [⟨0, 0⟩] true none,                -- Call of graph 0
   .addNodeAnnotation ⟨0, 1, 1⟩ 1,
   .setGraphName ⟨0, 1⟩ 0,
   .setOutput 1 ⟨0, 1, 1⟩,
   .finalizeGraph 1,
   .setMain ⟨0, 1⟩]

example : (run init demo).graphs.length = 2 ∧ ((run init demo).graphs.map (·.nodes.length)) = [2, 2] ∧
    (run init demo).main = some 1 ∧ (run init demo).total = 66 := by decide +kernel

/-- **failure atomicity**: from a well-formed state, a call that returns an error leaves the whole
    state unchanged -/
theorem failed_call_state {s : State} (c : Call) (h : Inv s) (he : (step s c).2 = .err) :
    (step s c).1 = s :=
  (step_outcome h c).unchanged he

/-- … a fortiori everything the getters and the serializer can see -/
theorem failed_call_no_effect {s : State} (c : Call) (h : Inv s) (he : (step s c).2 = .err) :
    observe (step s c).1 = observe s := by
  rw [failed_call_state c h he]

/-- the roll-back really runs: after a named input, an ill-typed `Add`, an oversize input and an
    `add_node_with_type` whose type is refused all answer `Err`; for the first the state is checked
    to be the one before the call -/
example :
    let s := run init [.createGraph, .addNode 0 1 [] [] true (some 33), .setNodeName ⟨0, 0, 0⟩ 3]
    (step s (.addNode 0 2 [⟨0, 0, 0⟩, ⟨0, 0, 0⟩] [] false none)).2 = .err ∧
    (step s (.addNode 0 1 [] [] true (some (2 ^ 64 - 10)))).2 = .err ∧
    (step s (.addNodeWithType 0 5 [⟨0, 0, 0⟩] [] false none)).2 = .err ∧
    (step s (.addNode 0 2 [⟨0, 0, 0⟩, ⟨0, 0, 0⟩] [] false none)).1 = s := by decide +kernel

/-- stored names resolve back, in both directions (graphs) -/
theorem graph_names_inverse (cs : List Call) (id nm : Nat) :
    tget (run init cs).gnames id = some nm ↔ tget (run init cs).gnamesInv nm = some id :=
  (reachable_inv cs).gnames id nm

/-- stored names resolve back, in both directions (nodes, per graph) -/
theorem node_names_inverse (cs : List Call) (g n nm : Nat) :
    tget (run init cs).nnames (g, n) = some nm ↔ tget (run init cs).nnamesInv (g, nm) = some n :=
  (reachable_inv cs).nnames g n nm

/-- names are unique within a graph -/
theorem node_names_unique (cs : List Call) (g n n' nm : Nat)
    (h1 : tget (run init cs).nnames (g, n) = some nm) (h2 : tget (run init cs).nnames (g, n') = some nm) :
    n = n' := by
  have a := (node_names_inverse cs g n nm).1 h1
  have b := (node_names_inverse cs g n' nm).1 h2
  rw [a] at b; exact Option.some.inj b

/-- graph names are unique within a context -/
theorem graph_names_unique (cs : List Call) (g g' nm : Nat)
    (h1 : tget (run init cs).gnames g = some nm) (h2 : tget (run init cs).gnames g' = some nm) :
    g = g' := by
  have a := (graph_names_inverse cs g nm).1 h1
  have b := (graph_names_inverse cs g' nm).1 h2
  rw [a] at b; exact Option.some.inj b

example : tget (run init demo).nnames (0, 0) = some 3 ∧ tget (run init demo).nnamesInv (0, 3) = some 0 ∧
    tget (run init demo).gnames 1 = some 0 ∧ tget (run init demo).gnamesInv 0 = some 1 := by decide +kernel

/-- a finalized graph rejects `add_node` / `add_node_with_type` -/
theorem finalized_graph_rejects_add_node {s : State} {g : Nat} {gr : Graph}
    (hg : s.graphs[g]? = some gr) (hf : gr.finalized = true)
    (op : Nat) (deps : List NRef) (gdeps : List GRef) (tv : Bool) (sz : Option Nat) :
    step s (.addNode g op deps gdeps tv sz) = (s, .err) ∧
    step s (.addNodeWithType g op deps gdeps tv sz) = (s, .err) := by
  have e : addNodeInternal s g op deps gdeps tv sz = (s, .err) := by
    unfold addNodeInternal
    rw [hg]
    exact if_pos hf
  exact ⟨e, e⟩

/-- a finalized graph rejects `set_output_node` -/
theorem finalized_graph_rejects_set_output {s : State} (h : Inv s) {g : Nat} {gr : Graph}
    (hg : s.graphs[g]? = some gr) (hf : gr.finalized = true) (r : NRef) :
    step s (.setOutput g r) = (s, .err) := by
  cases ho : gr.output with
  | none => exact absurd hf ((h.graphs g gr hg).not_fin ho)
  | some o =>
    show setOutput s g r = _
    unfold setOutput
    rw [hg]
    dsimp only
    rw [ho]

/-- no call whatsoever changes a finalized graph (its node list, output, flag);
    `Graph::finalize` on it succeeds without effect -/
theorem finalized_graph_frozen {s : State} (h : Inv s) {g : Nat} {gr : Graph}
    (hg : s.graphs[g]? = some gr) (hf : gr.finalized = true) (c : Call) :
    (step s c).1.graphs[g]? = some gr :=
  (step_outcome h c).frozen g gr hg hf

/-- a finalized context is frozen: no call changes anything -/
theorem finalized_context_frozen {s : State} (h : Inv s) (hf : s.finalized = true) (c : Call) :
    (step s c).1 = s :=
  (step_outcome h c).fixed hf

/-- … and every mutator guarded by context finalization answers `Err` -/
theorem finalized_context_rejects {s : State} (h : Inv s) (hf : s.finalized = true) :
    (step s .createGraph).2 = .err ∧
    (∀ g op deps gdeps tv sz, (step s (.addNode g op deps gdeps tv sz)).2 = .err) ∧
    (∀ g op deps gdeps tv sz, (step s (.addNodeWithType g op deps gdeps tv sz)).2 = .err) ∧
    (∀ r nm, (step s (.setGraphName r nm)).2 = .err) ∧
    (∀ r nm, (step s (.setNodeName r nm)).2 = .err) ∧
    (∀ r a, (step s (.addNodeAnnotation r a)).2 = .err) ∧
    (∀ r a, (step s (.addGraphAnnotation r a)).2 = .err) ∧
    (∀ g r, (step s (.setOutput g r)).2 = .err) ∧
    (∀ r, (step s (.setMain r)).2 = .err) := by
  obtain ⟨hmain, hall⟩ := h.fin hf
  -- the four table mutators test the context tag first and `s.finalized` second
  have flag {c : Prop} [Decidable c] {a b : State × Result} :
      (if c then a else if s.finalized = true then a else b) = a := by
    rw [if_pos hf, ite_self]
  have add g op deps gdeps tv sz : (addNodeInternal s g op deps gdeps tv sz).2 = .err := by
    unfold addNodeInternal
    cases hg : s.graphs[g]? with
    | none => rfl
    | some gr => exact congrArg Prod.snd (if_pos (hall g gr hg))
  refine ⟨congrArg Prod.snd (if_pos hf), add, add, fun r nm => congrArg Prod.snd flag,
    fun r nm => congrArg Prod.snd flag, fun r a => congrArg Prod.snd flag,
    fun r a => congrArg Prod.snd flag, fun g r => ?_, fun r => ?_⟩
  · cases hg : s.graphs[g]? with
    | none =>
      show (setOutput s g r).2 = _
      unfold setOutput
      rw [hg]
    | some gr => rw [finalized_graph_rejects_set_output h hg (hall g gr hg) r]
  · cases hm : s.main with
    | none => exact nomatch hm ▸ hmain
    | some m =>
      show (setMain s r).2 = _
      unfold setMain
      rw [hm]

/-- the demo history, finalized: the context is frozen and graph 0 rejects a new node -/
example :
    let s := run init (demo ++ [.finalizeContext])
    s.finalized = true ∧ (step s .createGraph) = (s, .err) ∧
    (step s (.setNodeName ⟨0, 1, 0⟩ 4)) = (s, .err) ∧
    (step s (.addNode 0 1 [] [] true (some 33))).2 = .err ∧
    (step s (.finalizeGraph 0)) = (s, .ok []) := by decide +kernel

/-- names and annotations are guarded by the *context* flag only: a node of a finalized graph
    can still be named while the context is open (DESIGN §7a) -/
example :
    (step (run init demo) (.setNodeName ⟨0, 0, 1⟩ 4)).2 = .ok [] ∧
    (step (run init demo) (.addNode 0 5 [⟨0, 0, 0⟩] [] true none)).2 = .err := by decide +kernel

end CCV.C11
