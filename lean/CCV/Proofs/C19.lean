import CCV.Lemmas.Join
/-
  C19 — the plaintext relational join (`evaluators/join.rs`).
  Lemmas about the model that are not properties of the join are in CCV/Lemmas/Join.lean.
  Model: CCV/Model/Join.lean.  `impl*` mirrors the algorithm (hash map of the live keys of the
  second table with replacing insert, one walk over the first table, for union a second walk,
  full = union(a, left(b, a))); `spec*` is written from the documentation (`findMatch` = first live
  row with the same row key; full join described directly).
  A row is *live* (`live ks r`) when its null flag is one and every key mask is one;
  `UniqueLive ks T` = the live rows of `T` have pairwise different row keys (documented precondition).
  Non-vacuity instances use `exP`, `exA`, `exB` (CCV/Lemmas/Join.lean): overlapping tables with a null
  row on each side, a masked key on each side and a masked data entry.
  Each statement assumes those of `P.ok`, `WellFormed P.w0 A`, `WellFormed P.w1 B`, `UniqueLive P.k0 A`,
  `UniqueLive P.k1 B` that its proof uses; `P.ok` is taken whole where a part of it would do
  (`full_eq_union_left` uses the equal number of keys and the range of `P.k1` only), and of
  `WellFormed` only the number of cells per row is ever used.
-/
namespace CCV.C19
open CCV CCV.Join

/-- `row_has_empty_entries` is the negation of "takes part in matching". -/
theorem hasEmpty_eq_not_live (ks : List Nat) (r : Row) : hasEmpty ks r = !live ks r := by
  rw [hasEmpty, live, Bool.not_and, List.all_eq_not_any_not, Bool.not_not]

example : hasEmpty exP.k0 exA[2] = true ∧ live exP.k0 exA[2] = false ∧ live exP.k0 exA[3] = true := by
  decide +kernel

/-- **Key lemma.**  When the live rows of `B` have unique keys, the hash map built by
    `get_hashmap_from_key_columns` (replacing insert, rows with empty entries skipped) returns for
    every key exactly the first live row of `B` with that key. -/
theorem lookup_buildMap (ks : List Nat) (B : Table) (k : List Int) (h : UniqueLive ks B) :
    lookup (buildMap ks B) k = findMatch ks B k := by
  unfold buildMap
  simp only [hasEmpty_eq_not_live]
  exact lookup_foldl (live ks) (rowKey ks) k B [] (fun _ _ _ => rfl) h

example : UniqueLive exP.k1 exB ∧ lookup (buildMap exP.k1 exB) [1] = some exB[0] ∧
    lookup (buildMap exP.k1 exB) [3] = none := by decide +kernel

/-- **Inner join: implementation = specification** under the documented precondition on the
    second table. -/
theorem impl_eq_spec_inner (P : Plan) (A B : Table) (h : UniqueLive P.k1 B) :
    implInner P A B = specInner P A B := by
  unfold implInner specInner
  apply List.map_congr_left
  intro a _
  rw [hasEmpty_eq_not_live, lookup_buildMap _ _ _ h, matchOf]
  cases hl : live P.k0 a
  · rfl
  · rw [live_null hl]
    cases findMatch P.k1 B (rowKey P.k0 a) <;> rfl

example : UniqueLive exP.k1 exB ∧ (specInner exP exA exB).map (·.null) = [true, false, false, false] := by
  decide +kernel

/-- **The precondition is needed**: with two live rows of `B` carrying the same key the hash map
    keeps the last one, the specification takes the first. -/
theorem impl_ne_spec_without_unique :
    ∃ P A B, P.ok ∧ WellFormed P.w0 A ∧ WellFormed P.w1 B ∧ UniqueLive P.k0 A ∧
      ¬ UniqueLive P.k1 B ∧ implInner P A B ≠ specInner P A B :=
  ⟨exP, exA, exBdup, by unfold Plan.ok WellFormed; decide +kernel⟩

/-- **Left join: implementation = specification.** -/
theorem impl_eq_spec_left (P : Plan) (A B : Table) (h : UniqueLive P.k1 B) :
    implLeft P A B = specLeft P A B := by
  unfold implLeft specLeft
  apply List.map_congr_left
  intro a _
  rw [hasEmpty_eq_not_live, lookup_buildMap _ _ _ h, matchOf]
  cases a.null
  · rfl
  · cases live P.k0 a
    · rfl
    · cases findMatch P.k1 B (rowKey P.k0 a) <;> rfl

example : UniqueLive exP.k1 exB ∧ (specLeft exP exA exB).map (·.null) = [true, false, true, true] ∧
    (specLeft exP exA exB)[0]? = some ⟨true, [⟨true, [1]⟩, ⟨true, [10, 11]⟩, ⟨true, [7]⟩]⟩ := by
  decide +kernel

/-- **Union join: implementation = specification**, in both forms of `get_union_columns`
    (`s = false`: the union join proper; `s = true`: the call made by `evaluate_full_join`). -/
theorem impl_eq_spec_union (P : Plan) (s : Bool) (A B : Table) (h : UniqueLive P.k1 B) :
    implUnionG P s A B = specUnionG P s A B := by
  unfold implUnionG specUnionG notInInner
  dsimp only
  congr 1
  · apply List.map_congr_left
    intro a _
    rw [hasEmpty_eq_not_live, lookup_buildMap _ _ _ h, matchOf]
    cases a.null
    · rfl
    · cases live P.k0 a
      · rfl
      · cases findMatch P.k1 B (rowKey P.k0 a) <;> rfl
  · apply List.map_congr_left
    intro b _
    cases b.null <;> rfl

example : UniqueLive exP.k1 exB ∧
    (specUnionG exP false exA exB).map (·.null) = [false, false, true, true, true, false, true, true] := by
  decide +kernel

/-- **The specification returns the inferred number of rows** (`join_inference`): `n0` for inner
    and left, `n0 + n1` for union and full. -/
theorem spec_length (t : JoinType) (P : Plan) (A B : Table) :
    (spec t P A B).length = inferredRows t A.length B.length := by
  cases t <;> simp only [spec, specInner, specLeft, specUnion, specUnionG, specFull, notInInner,
    inferredRows, List.length_append, List.length_map]

/-- **The implementation returns the inferred number of rows**, with no precondition. -/
theorem impl_length (t : JoinType) (P : Plan) (A B : Table) :
    (impl t P A B).length = inferredRows t A.length B.length := by
  cases t <;> simp only [impl, implInner, implLeft, implUnion, implUnionG, implFull,
    inferredRows, List.length_append, List.length_map]

example : (impl .full exP exA exBdup).length = 6 ∧ (spec .inner exP exA exB).length = 4 := by decide +kernel

/-- **Left join keeps the live keys of the first table** (the same list, in the order of `A`). -/
theorem liveKeys_left (P : Plan) (A B : Table) (hk : ∀ j ∈ P.k0, j < P.w0.length)
    (hA : WellFormed P.w0 A) : liveKeys P.k0 (specLeft P A B) = liveKeys P.k0 A := by
  rw [← liveKeys_filter_null P.k0 A]
  refine liveKeys_map_filter _ _ _ _ _ (fun a ha hn => ?_) (fun a _ hn => ?_)
  · simp only [hn, if_true]
    cases matchOf P B a <;> exact sameKey_copyRow P.k0 P.w0 a _ hk (wf_length hA ha) hn
  · simp only [hn]; rfl

example : liveKeys exP.swap.k0 (specLeft exP.swap exB exA) = [[1], [5]] := by decide +kernel

/-- **The union (both forms of `get_union_columns`) has unique live keys** at the positions `P.k0`
    when both tables have; no shape condition on the second table. -/
theorem union_unique_live (P : Plan) (s : Bool) (A L : Table) (hP : P.ok)
    (hA : WellFormed P.w0 A) (hu0 : UniqueLive P.k0 A) (hu1 : UniqueLive P.k1 L) :
    UniqueLive P.k0 (specUnionG P s A L) :=
  uniqueLive_notInInner_append P A L _ hP.2.1 hA
    (fun b _ hn => sameKey_fromB P hP b _ _ (fun j i hp => by simp only [src0, hp]) hn) hu0 hu1

example : UniqueLive exP.k1 (specLeft exP.swap exB exA) ∧
    liveKeys exP.k0 (specUnionG exP true exA (specLeft exP.swap exB exA)) = [[3], [1], [5]] := by
  decide +kernel

/-- **The result of every join has unique live keys** at the key positions `P.k0` (the columns of
    the first table come first in the result).  That the result is well formed, which a following
    join would need as well, is not stated. -/
theorem result_unique_live (t : JoinType) (P : Plan) (A B : Table) (hP : P.ok)
    (hA : WellFormed P.w0 A) (hu0 : UniqueLive P.k0 A) (hu1 : UniqueLive P.k1 B) :
    UniqueLive P.k0 (spec t P A B) := by
  cases t
  · show (liveKeys P.k0 (specInner P A B)).Nodup
    rw [specInner, liveKeys_map_filter P.k0 P.k0 _ (fun a => (matchOf P B a).isSome) A]
    · exact (liveKeys_filter_sublist _ _ _).nodup hu0
    · intro a ha hc
      cases hl : live P.k0 a
      · rw [matchOf, hl] at hc; cases hc
      · cases hm : matchOf P B a with
        | none => rw [hm] at hc; cases hc
        | some b => exact sameKey_copyRow P.k0 P.w0 a _ hP.2.1 (wf_length hA ha) (live_null hl)
    · intro a _ hc
      cases hm : matchOf P B a with
      | none => rfl
      | some b => rw [hm] at hc; cases hc
  · show (liveKeys P.k0 (specLeft P A B)).Nodup
    rw [liveKeys_left P A B hP.2.1 hA]
    exact hu0
  · exact union_unique_live P false A B hP hA hu0 hu1
  · exact uniqueLive_notInInner_append P A B _ hP.2.1 hA
      (fun b _ hn => sameKey_fromB P hP b _ _ (fun j i hp => by simp only [hp]) hn) hu0 hu1

example : liveKeys exP.k0 (spec .full exP exA exB) = [[3], [1], [5]] ∧
    liveKeys exP.k0 (spec .left exP exA exB) = [[1], [3]] := by decide +kernel

/-- **The documented identity**: the directly described full join equals the union (in the shared
    form used by `evaluate_full_join`, where the second table carries the non-key columns of `a`
    behind the columns of `b`) of `a` and `left_join(b, a)`. -/
theorem full_eq_union_left (P : Plan) (A B : Table) (hP : P.ok) (hB : WellFormed P.w1 B) :
    specFull P A B = specUnionG P true A (specLeft P.swap B A) := by
  unfold specFull specUnionG
  rw [notInInner_congr A (liveKeys_left P.swap B A hP.2.2.1 hB), specLeft, List.map_map]
  refine congrArg (notInInner P A B ++ ·) ?_
  apply List.map_congr_left
  intro b hb
  simp only [Function.comp]
  cases b.null
  · rfl
  · cases matchOf P.swap A b
    · exact (liftRow_left_eq P hP b (wf_length hB hb) none).symm
    · exact (liftRow_left_eq P hP b (wf_length hB hb) (some _)).symm

example : exP.ok ∧ WellFormed exP.w1 exB ∧
    (specLeft exP.swap exB exA)[0]? = some ⟨true, [⟨true, [7]⟩, ⟨true, [1]⟩, ⟨true, [10, 11]⟩]⟩ := by
  refine ⟨ex_hyps.1, ex_hyps.2.2.1, by decide +kernel⟩

/-- **The identity is false for the plain union** (`shared = false`), witnessed by the example
    tables: there the matched row loses the non-key data of the first table. -/
theorem full_ne_plain_union_left :
    ∃ P A B, P.ok ∧ WellFormed P.w0 A ∧ WellFormed P.w1 B ∧ UniqueLive P.k0 A ∧ UniqueLive P.k1 B ∧
      specFull P A B ≠ specUnionG P false A (specLeft P.swap B A) :=
  ⟨exP, exA, exB, by unfold Plan.ok WellFormed; decide +kernel⟩

/-- **Full join: implementation = specification.**  The implementation computes
    `union(a, left(b, a))`; the hash map of the union is built from the rows of `left(b, a)`, whose
    live keys are those of `b` (`liveKeys_left`), and the union in its shared form reassembles the
    directly described full join (`full_eq_union_left`). -/
theorem impl_eq_spec_full (P : Plan) (A B : Table) (hP : P.ok) (hB : WellFormed P.w1 B)
    (hu0 : UniqueLive P.k0 A) (hu1 : UniqueLive P.k1 B) : implFull P A B = specFull P A B := by
  unfold implFull
  rw [impl_eq_spec_left P.swap B A hu0, full_eq_union_left P A B hP hB]
  apply impl_eq_spec_union
  show (liveKeys P.swap.k0 (specLeft P.swap B A)).Nodup
  rw [liveKeys_left P.swap B A hP.2.2.1 hB]
  exact hu1

example : exP.ok ∧ WellFormed exP.w1 exB ∧ UniqueLive exP.k0 exA ∧ UniqueLive exP.k1 exB ∧
    (specFull exP exA exB)[4]? = some ⟨true, [⟨true, [1]⟩, ⟨true, [10, 11]⟩, ⟨true, [7]⟩]⟩ := by
  refine ⟨ex_hyps.1, ex_hyps.2.2.1, ex_hyps.2.2.2.1, ex_hyps.2.2.2.2, by decide +kernel⟩

/-- **All four join types: implementation = specification** when the plan is well formed, the
    second table has the declared shape and the live rows of both tables have unique keys. -/
theorem impl_eq_spec (t : JoinType) (P : Plan) (A B : Table) (hP : P.ok) (hB : WellFormed P.w1 B)
    (hu0 : UniqueLive P.k0 A) (hu1 : UniqueLive P.k1 B) : impl t P A B = spec t P A B := by
  cases t
  · exact impl_eq_spec_inner P A B hu1
  · exact impl_eq_spec_left P A B hu1
  · exact impl_eq_spec_union P false A B hu1
  · exact impl_eq_spec_full P A B hP hB hu0 hu1

example : impl .full exP exA exB = spec .full exP exA exB ∧
    impl .union exP exA exB = spec .union exP exA exB := by decide +kernel

/-- **Inner join, live rows**: the rows of the result with null flag one are the rows of `A` that
    have a live match in `B`, in the order of `A`, merged with their match. -/
theorem inner_live_rows (P : Plan) (A B : Table) :
    (specInner P A B).filter (·.null) = A.filterMap (fun a => (matchOf P B a).map (merged P a)) := by
  rw [specInner, ← List.filterMap_eq_filter, List.filterMap_map]
  congr 1
  funext a
  simp only [Function.comp]
  cases matchOf P B a <;> rfl

example : (specInner exP exA exB).filter (·.null) =
    [⟨true, [⟨true, [1]⟩, ⟨true, [10, 11]⟩, ⟨true, [7]⟩]⟩] := by decide +kernel

/-- **Inner join, null column**: row `i` of the result is present iff row `i` of `A` has a match. -/
theorem inner_null (P : Plan) (A B : Table) :
    (specInner P A B).map (·.null) = A.map (fun a => (matchOf P B a).isSome) := by
  rw [specInner, List.map_map]
  apply List.map_congr_left
  intro a _
  simp only [Function.comp]
  cases matchOf P B a <;> rfl

example : exA.map (fun a => (matchOf exP exB a).isSome) = [true, false, false, false] := by decide +kernel

/-- **Left join: the null column of the result is the null column of `A`.** -/
theorem left_null (P : Plan) (A B : Table) : (specLeft P A B).map (·.null) = A.map (·.null) := by
  rw [specLeft, List.map_map]
  apply List.map_congr_left
  intro a _
  simp only [Function.comp]
  cases hn : a.null
  · rfl
  · cases matchOf P B a <;> rfl

example : exA.map (·.null) = [true, false, true, true] := by decide +kernel

/-- **Left join, row by row**: a present row of `A` starts with its own (mask-cleaned) columns,
    followed by the non-key columns of its match, or by zero entries when there is no match; an
    absent row is a zero row. -/
theorem left_row (P : Plan) (A B : Table) (i : Nat) :
    (specLeft P A B)[i]? = A[i]?.map (fun a =>
      if a.null then
        (⟨true, copyRow P.w0 a ++
          (match matchOf P B a with | some b => copyNonkey P b | none => zerosExtra P)⟩ : Row)
      else zeroRow (resW P)) := by
  rw [specLeft, List.getElem?_map]
  cases A[i]? with
  | none => rfl
  | some a =>
    rw [Option.map_some, Option.map_some]
    cases a.null
    · rfl
    · cases matchOf P B a <;> rfl

example : (specLeft exP exA exB)[3]? = some ⟨true, [⟨true, [3]⟩, ⟨false, [0, 0]⟩, ⟨false, [0]⟩]⟩ := by
  decide +kernel

/-- **Union join, first part, live rows**: the present rows of `A` without a match, padded. -/
theorem union_first_live_rows (P : Plan) (A B : Table) :
    (notInInner P A B).filter (·.null) =
      (A.filter (fun a => a.null && (matchOf P B a).isNone)).map (padded P) := by
  induction A with
  | nil => rfl
  | cons a A ih =>
    rw [notInInner, List.map_cons, List.filter_cons, List.filter_cons, ← notInInner, ih]
    cases (a.null && (matchOf P B a).isNone) <;> rfl

example : (exA.filter (fun a => a.null && (matchOf exP exB a).isNone)) = [exA[2], exA[3]] := by decide +kernel

/-- **Union join layout** (by definition): first part as above, then one row per row of `B`. -/
theorem union_layout (P : Plan) (A B : Table) :
    specUnion P A B =
      notInInner P A B ++ B.map fun b => if b.null then liftRow P false b else zeroRow (resW P) := rfl

/-- **Union join: a matched row of `A` is emptied** in the first part. -/
theorem union_matched_zero (P : Plan) (A B : Table) (i : Nat) (a b : Row)
    (ha : A[i]? = some a) (hm : matchOf P B a = some b) :
    (notInInner P A B)[i]? = some (zeroRow (resW P)) := by
  rw [notInInner, List.getElem?_map, ha, Option.map_some, hm, Option.isNone_some, Bool.and_false]
  rfl

example : exA[0]? = some exA[0] ∧ matchOf exP exB exA[0] = some exB[0] := by decide +kernel

/-- **Null rows and rows with a masked key of the second table are ignored by matching.** -/
theorem findMatch_filter_live (ks : List Nat) (T : Table) (k : List Int) :
    findMatch ks (T.filter (live ks)) k = findMatch ks T k := by
  simp [findMatch, List.find?_filter]

example : exB.filter (live exP.k1) = [exB[0], exB[2]] := by decide +kernel

/-- Inner join does not depend on the rows of `B` that are not live. -/
theorem inner_filter_live (P : Plan) (A B : Table) :
    specInner P A (B.filter (live P.k1)) = specInner P A B := by
  simp only [specInner, matchOf, findMatch_filter_live]

/-- Left join does not depend on the rows of `B` that are not live. -/
theorem left_filter_live (P : Plan) (A B : Table) :
    specLeft P A (B.filter (live P.k1)) = specLeft P A B := by
  simp only [specLeft, matchOf, findMatch_filter_live]

example : specLeft exP exA [exB[0], exB[2]] = specLeft exP exA exB := by decide +kernel

/-- **A row of `A` that is not live never matches.** -/
theorem not_live_no_match (P : Plan) (B : Table) (a : Row) (h : live P.k0 a = false) :
    matchOf P B a = none := by
  rw [matchOf, h]; rfl

example : live exP.k0 exA[2] = false ∧ rowKey exP.k0 exA[2] = rowKey exP.k1 exB[0] := by decide +kernel

/-- **Null markers**: zero-filled rows are absent, merged / padded / lifted rows are present, and a
    zero row never takes part in matching. -/
theorem null_markers (P : Plan) (s : Bool) (a b : Row) (oa : Option Row) (ws ks : List Nat) :
    (zeroRow ws).null = false ∧ (merged P a b).null = true ∧ (padded P a).null = true ∧
      (liftRow P s b).null = true ∧ (mergedB P b oa).null = true ∧ live ks (zeroRow ws) = false :=
  ⟨zeroRow_null ws, merged_null P a b, padded_null P a, liftRow_null P s b, mergedB_null P b oa,
    live_zeroRow ks ws⟩

example : zeroRow [1, 2] = ⟨false, [⟨false, [0]⟩, ⟨false, [0, 0]⟩]⟩ := by decide +kernel

end CCV.C19
