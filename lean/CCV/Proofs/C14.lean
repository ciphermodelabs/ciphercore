import CCV.Lemmas.Sharing
/-
  C14 — secret sharing reconstructs, with the documented per-party layout.  The theorems are about
  the functions of CCV/Model/Sharing.lean: `share`, `reveal`, `shareVector`, `party` model the Rust
  code; `pick`, `recon`, `held`, `unheld` are specification devices that state what two parties can
  compute and what one party sees.

  Throughout: `wf x = true` — every element of the tree `x` is a residue `< 2^bits` of its scalar
  type; `like v x = true` — `x` has the type of `v` (same tree, scalar types, element counts).
  The statements hold for all trees (all 11 scalar types, any nesting, any lengths), all values and
  all randomness `r0 r1`.
-/
namespace CCV.C14
open CCV CCV.Sharing

/-- **Reveal ∘ share = id**, for every value tree and all randomness. -/
theorem reveal_share (v r0 r1 : Val) (hv : wf v = true) (h0 : wf r0 = true) (h1 : wf r1 = true)
    (l0 : like v r0 = true) (l1 : like v r1 = true) :
    reveal (share v r0 r1) = v :=
  tm_ext (.add (.add .y .z) (.sub (.sub .x .y) .z)) .x v r0 r1 ⟨hv, h0, h1, l0, l1⟩
    fun st p q r hp hq hr => by
      show addRes st (addRes st q r) (subRes st (subRes st p q) r) = p
      rw [subRes_subRes hp hq hr, addRes_subRes_cancel hp (addRes_lt ..)]

/-- shares 0 and 1 are the drawn randomness (by definition), and the third share is again a
    well-formed value of the type of `v`: the 3-tuple is a valid value of the tuple type the code
    declares. -/
theorem share_ok (v r0 r1 : Val) (hv : wf v = true) (h0 : wf r0 = true) (h1 : wf r1 = true)
    (l0 : like v r0 = true) (l1 : like v r1 = true) :
    (share v r0 r1).x0 = r0 ∧ (share v r0 r1).x1 = r1 ∧
      wf (share v r0 r1).x2 = true ∧ like v (share v r0 r1).x2 = true :=
  ⟨rfl, rfl, tm_ok (.sub (.sub .x .y) .z) v r0 r1 ⟨hv, h0, h1, l0, l1⟩⟩

/-- the checked entry point the driver calls answers, and answers `share`. -/
theorem share?_eq (v r0 r1 : Val) (l0 : like v r0 = true) (l1 : like v r1 = true) :
    share? v r0 r1 = some (share v r0 r1) := by
  simp [share?, l0, l1]

/-- `share_vector` (mpc/utils.rs, flat arrays, `r2 = data − (r0 + r1)`) reconstructs as well. -/
theorem reveal_shareVector (st : ST) (xs r0 r1 : List Nat)
    (hx : ∀ x ∈ xs, x < 2 ^ st.bits) (h0 : ∀ x ∈ r0, x < 2 ^ st.bits) (h1 : ∀ x ∈ r1, x < 2 ^ st.bits)
    (l0 : xs.length = r0.length) (l1 : xs.length = r1.length) :
    reveal (shareVector st xs r0 r1) = .leaf st xs := by
  have ok : Ok3 (.leaf st xs) (.leaf st r0) (.leaf st r1) := by
    simp only [Ok3, wf, like, List.all_eq_true, decide_eq_true_eq, Bool.and_eq_true, true_and]
    exact ⟨hx, h0, h1, l0, l1⟩
  rw [shareVector_eq]
  exact tm_ext (.add (.add .y .z) (.sub .x (.add .y .z))) .x _ _ _ ok
    fun st p q r hp _ _ => addRes_subRes_cancel hp (addRes_lt st q r)

/-- non-vacuity: a nested value with i8, bit (one padded byte), u128 and i64 leaves and an empty tuple -/
private def exV : Val := .node [.leaf .i8 [200, 5], .node [.leaf .bit [1, 0, 1, 0, 0, 0, 0, 0],
  .leaf .u128 [2 ^ 128 - 1]], .node [], .leaf .i64 [2 ^ 63]]
private def exR0 : Val := .node [.leaf .i8 [77, 255], .node [.leaf .bit [1, 1, 0, 0, 0, 0, 0, 0],
  .leaf .u128 [12345678901234567890123456789]], .node [], .leaf .i64 [2 ^ 64 - 1]]
private def exR1 : Val := .node [.leaf .i8 [128, 1], .node [.leaf .bit [0, 1, 1, 0, 0, 0, 0, 0],
  .leaf .u128 [2 ^ 127 + 3]], .node [], .leaf .i64 [17]]
private def exG : T3 := ⟨.leaf .u8 [1], .leaf .u8 [2], .leaf .u8 [3]⟩

example : wf exV = true ∧ wf exR0 = true ∧ wf exR1 = true ∧ like exV exR0 = true ∧ like exV exR1 = true := by
  decide
example : (share exV exR0 exR1).x2 = .node [.leaf .i8 [251, 5], .node [.leaf .bit [0, 0, 0, 0, 0, 0, 0, 0],
    .leaf .u128 [170141183448123552830452735825760648935]], .node [], .leaf .i64 [2 ^ 63 - 16]] := by
  rfl
example : reveal (share exV exR0 exR1) = exV := by rfl
example : reveal (shareVector .i16 [40000, 7] [65535, 1] [32768, 9]) = .leaf .i16 [40000, 7] := by
  rfl

/-- **Layout.** Party `i`'s tuple carries share `i` in slot `i`, share `i+1` in slot `i+1`
    (indices mod 3) and the garbage value in the remaining slot `i+2` — never the third share. -/
theorem layout (i : Nat) (s g : T3) :
    (party i s g).slot i = s.slot i ∧ (party i s g).slot (i + 1) = s.slot (i + 1) ∧
      (party i s g).slot (i + 2) = g.slot (i + 2) := by
  refine ⟨?_, ?_, ?_⟩ <;> rw [party_slot]
  · exact if_pos (Or.inl rfl)
  · exact if_pos (Or.inr rfl)
  · exact if_neg (by omega)

/-- the three tuples, spelled out as the three code paths build them -/
theorem parties_eq (s g : T3) :
    parties s g = [⟨s.x0, s.x1, g.x2⟩, ⟨g.x0, s.x1, s.x2⟩, ⟨s.x0, g.x1, s.x2⟩] := rfl

/-- neighbouring parties agree on the share they both hold. -/
theorem neighbours_agree (i : Nat) (s g g' : T3) :
    (party i s g).slot (i + 1) = (party (i + 1) s g').slot (i + 1) := by
  rw [(layout i s g).2.1, (layout (i + 1) s g').1]

example : (party 2 (share exV exR0 exR1) exG).slot 2 = (share exV exR0 exR1).x2 ∧
    (party 2 (share exV exR0 exR1) exG).slot 3 = exR0 ∧
    (party 2 (share exV exR0 exR1) exG).slot 4 = .leaf .u8 [2] :=
  ⟨rfl, rfl, rfl⟩

/-- reconstruction from the tuples of two different parties reads exactly the three shares,
    whatever garbage either tuple carries -/
theorem recon_eq_reveal (i j : Nat) (hij : i % 3 ≠ j % 3) (s gi gj : T3) :
    recon i j (party i s gi) (party j s gj) = reveal s := by
  have hp : ∀ k, pick i (party i s gi) (party j s gj) k = s.slot k := by
    intro k
    unfold pick
    rw [party_slot, party_slot]
    split
    · rfl
    · exact if_pos (by omega)
  simp only [recon, hp]
  rfl

/-- **Any two parties determine the secret.** -/
theorem two_parties_reconstruct (i j : Nat) (hij : i % 3 ≠ j % 3) (v r0 r1 : Val) (gi gj : T3)
    (hv : wf v = true) (h0 : wf r0 = true) (h1 : wf r1 = true)
    (l0 : like v r0 = true) (l1 : like v r1 = true) :
    recon i j (party i (share v r0 r1) gi) (party j (share v r0 r1) gj) = v := by
  rw [recon_eq_reveal i j hij, reveal_share v r0 r1 hv h0 h1 l0 l1]

example : recon 2 1 (party 2 (share exV exR0 exR1) exG) (party 1 (share exV exR0 exR1) ⟨exV, exV, exV⟩) = exV := by
  rfl

/-- the domain: pairs of well-formed values of the type of `v` -/
def OkPair (v : Val) (r : Val × Val) : Prop :=
  wf r.1 = true ∧ wf r.2 = true ∧ like v r.1 = true ∧ like v r.2 = true

theorem OkPair.ok3 {v : Val} {r : Val × Val} (hv : wf v = true) (hr : OkPair v r) : Ok3 v r.1 r.2 :=
  ⟨hv, hr⟩

theorem OkPair.swap {v : Val} {r : Val × Val} (hr : OkPair v r) : OkPair v (r.2, r.1) :=
  ⟨hr.2.1, hr.1, hr.2.2.2, hr.2.2.1⟩

theorem held_eq (i : Nat) (v : Val) (g : T3) (r : Val × Val) :
    held i v g r = ((share v r.1 r.2).slot i, (share v r.1 r.2).slot (i + 1)) := by
  simp only [held, (layout i _ g).1, (layout i _ g).2.1]

theorem held_ok (i : Nat) (v : Val) (g : T3) (r : Val × Val) (hv : wf v = true) (hr : OkPair v r) :
    OkPair v (held i v g r) := by
  obtain ⟨h0, h1, l0, l1⟩ := hr
  have h2 := (share_ok v r.1 r.2 hv h0 h1 l0 l1).2.2
  rw [held_eq]
  rcases mod3_cases i with ⟨hi, h'⟩ | ⟨hi, h'⟩ | ⟨hi, h'⟩
  · simp only [OkPair, T3.slot, hi, h']; exact ⟨h0, h1, l0, l1⟩
  · simp only [OkPair, T3.slot, hi, h']; exact ⟨h1, h2.1, l1, h2.2⟩
  · simp only [OkPair, T3.slot, hi, h']; exact ⟨h2.1, h0, h2.2, l0⟩

theorem unheld_ok (i : Nat) (v : Val) (h : Val × Val) (hv : wf v = true) (hh : OkPair v h) :
    OkPair v (unheld i v h) := by
  have ok := hh.ok3 hv
  obtain ⟨h0, h1, l0, l1⟩ := hh
  have hi : i % 3 = 0 ∨ i % 3 = 1 ∨ i % 3 = 2 := by omega
  rcases hi with hi | hi | hi
  · simp only [OkPair, unheld, hi]; exact ⟨h0, h1, l0, l1⟩
  · have := tm_ok (.sub (.sub .x .y) .z) v h.1 h.2 ok
    simp only [OkPair, unheld, hi]; exact ⟨this.1, h0, this.2, l0⟩
  · have := tm_ok (.sub (.sub .x .z) .y) v h.1 h.2 ok
    simp only [OkPair, unheld, hi]; exact ⟨h1, this.1, l1, this.2⟩

/-- **Left inverse:** the randomness is recovered from `v` and what party `i` holds. -/
theorem unheld_held (i : Nat) (v : Val) (g : T3) (r : Val × Val) (hv : wf v = true) (hr : OkPair v r) :
    unheld i v (held i v g r) = r := by
  have ok := hr.ok3 hv
  rw [held_eq]
  rcases mod3_cases i with ⟨hi, h'⟩ | ⟨hi, h'⟩ | ⟨hi, h'⟩
  · simp only [unheld, T3.slot, hi, h', share]
  · simp only [unheld, T3.slot, hi, h', share, gsub_gsub_left v r.1 r.2 ok]
  · simp only [unheld, T3.slot, hi, h', share, gsub_gsub_self v r.1 r.2 ok]

/-- **Right inverse:** every pair of well-formed values of the type of `v` is what party `i` holds
    for the randomness `unheld i v h`. -/
theorem held_unheld (i : Nat) (v : Val) (g : T3) (h : Val × Val) (hv : wf v = true) (hh : OkPair v h) :
    held i v g (unheld i v h) = h := by
  rw [held_eq]
  rcases mod3_cases i with ⟨hi, h'⟩ | ⟨hi, h'⟩ | ⟨hi, h'⟩
  · simp only [unheld, T3.slot, hi, h', share]
  · simp only [unheld, T3.slot, hi, h', share, gsub_gsub_mid v h.1 h.2 (hh.ok3 hv)]
  · simp only [unheld, T3.slot, hi, h', share, gsub_gsub_self v h.2 h.1 (hh.swap.ok3 hv)]

/-- **The view of one party is a bijective image of the randomness.** For every secret `v`, party
    `i` and target pair `h` of well-formed values of the type of `v` there is exactly one choice of
    randomness `(r0, r1)` of that type for which party `i` holds `h`.  (That a bijective image of
    uniform randomness is uniform, whatever `v`, is the reading intended; no distribution is
    formalised.) -/
theorem held_bijective (i : Nat) (v : Val) (g : T3) (hv : wf v = true) (h : Val × Val) (hh : OkPair v h) :
    ∃ r, (OkPair v r ∧ held i v g r = h) ∧ ∀ r', OkPair v r' ∧ held i v g r' = h → r' = r := by
  refine ⟨unheld i v h, ⟨unheld_ok i v h hv hh, held_unheld i v g h hv hh⟩, ?_⟩
  rintro r' ⟨hr', e⟩
  rw [← e, unheld_held i v g r' hv hr']

example : OkPair exV (exR0, exR1) := by simp only [OkPair]; decide
example : held 1 exV exG (exR0, exR1) = (exR1, (share exV exR0 exR1).x2) := by rfl
example : unheld 1 exV (held 1 exV exG (exR0, exR1)) = (exR0, exR1) := by rfl
example : unheld 2 exV (held 2 exV exG (exR0, exR1)) = (exR0, exR1) := by rfl
example : held 2 exV exG (unheld 2 exV (exR1, exR0)) = (exR1, exR0) := by rfl

end CCV.C14
