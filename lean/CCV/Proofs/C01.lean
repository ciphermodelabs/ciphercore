import Mathlib.Tactic.Ring
import Mathlib.Tactic.Abel
/-
  C01 — the compiled protocol computes the source function.

  Hand-written share algebra of the ABY3-style translations of mpc_compiler.rs / mpc_arithmetic.rs /
  resharing.rs, stated in an ARBITRARY commutative ring `R` (so for ℤ/2^w of every width, for bits,
  and pointwise for arrays of any shape at once).  These theorems explain why the generated
  per-graph obligations (CCV/Generated/C01_*.lean: the graph `compile_context` emits, printed
  as a let-chain, equals the source polynomial `by ring`) hold; the obligations are what ties the
  statement to the code.
-/
namespace CCV.C01
variable {R : Type} [CommRing R]

/-- zero sharing from three PRF outputs: α_i = f_i − f_{i+1} (recursively_generate_node_shares) -/
theorem zero_sharing (f0 f1 f2 : R) : (f0 - f1) + (f1 - f2) + (f2 - f0) = 0 := by ring

/-- T1 input sharing: the owner p ∈ {0,1,2} adds its input to its own share -/
theorem input_sharing (x f0 f1 f2 : R) :
    ((f0 - f1) + x) + (f1 - f2) + (f2 - f0) = x ∧
    (f0 - f1) + ((f1 - f2) + x) + (f2 - f0) = x ∧
    (f0 - f1) + (f1 - f2) + ((f2 - f0) + x) = x := by
  refine ⟨?_, ?_, ?_⟩ <;> ring

/-- T2 addition / subtraction of private values is share-wise -/
theorem add_shares (x0 x1 x2 y0 y1 y2 : R) :
    (x0 + y0) + (x1 + y1) + (x2 + y2) = (x0 + x1 + x2) + (y0 + y1 + y2) ∧
    (x0 - y0) + (x1 - y1) + (x2 - y2) = (x0 + x1 + x2) - (y0 + y1 + y2) := by
  constructor <;> ring

/-- T2' a public value enters a private sum through ONE share only -/
theorem add_public (x0 x1 x2 c : R) : (x0 + c) + x1 + x2 = (x0 + x1 + x2) + c := by ring

/-- T2'' multiplication by a public value is share-wise -/
theorem mul_public (x0 x1 x2 c : R) : x0 * c + x1 * c + x2 * c = (x0 + x1 + x2) * c := by ring

/-- T3 the ABY3 product: party i computes z_i = x_i·y_i + x_i·y_{i+1} + x_{i+1}·y_i from the two
    replicated shares it holds; the z_i form a 3-out-of-3 sharing of the product -/
theorem product_shares (x0 x1 x2 y0 y1 y2 : R) :
    (x0 * y0 + x0 * y1 + x1 * y0) + (x1 * y1 + x1 * y2 + x2 * y1) + (x2 * y2 + x2 * y0 + x0 * y2)
      = (x0 + x1 + x2) * (y0 + y1 + y2) := by ring

/-- the same with the factoring the compiler actually emits: x_i·(y_i + y_{i+1}) + x_{i+1}·y_i -/
theorem product_shares_factored (x0 x1 x2 y0 y1 y2 : R) :
    (x0 * (y0 + y1) + x1 * y0) + (x1 * (y1 + y2) + x2 * y1) + (x2 * (y2 + y0) + x0 * y2)
      = (x0 + x1 + x2) * (y0 + y1 + y2) := by ring

/-- T4 resharing: adding a fresh zero sharing preserves the secret -/
theorem reshare (z0 z1 z2 f0 f1 f2 : R) :
    (z0 + (f0 - f1)) + (z1 + (f1 - f2)) + (z2 + (f2 - f0)) = z0 + z1 + z2 := by ring

/-- T5 every additive map (Get, GetSlice, Reshape, PermuteAxes, Sum, CumSum, Stack, Concatenate,
    Repeat, tuple plumbing, multiplication by a public matrix …) commutes with revealing -/
theorem linear_shares {S : Type} [AddCommGroup S] (L : R → S)
    (hadd : ∀ a b, L (a + b) = L a + L b) (x0 x1 x2 : R) :
    L x0 + L x1 + L x2 = L (x0 + x1 + x2) := by
  rw [hadd, hadd]

/-- T3' any bi-additive operation (Dot, Matmul, Gemm) with the ABY3 cross terms -/
theorem bilinear_shares {S : Type} [AddCommGroup S] (B : R → R → S)
    (hl : ∀ a b c, B (a + b) c = B a c + B b c) (hr : ∀ a b c, B a (b + c) = B a b + B a c)
    (x0 x1 x2 y0 y1 y2 : R) :
    (B x0 y0 + B x0 y1 + B x1 y0) + (B x1 y1 + B x1 y2 + B x2 y1) + (B x2 y2 + B x2 y0 + B x0 y2)
      = B (x0 + x1 + x2) (y0 + y1 + y2) := by
  simp only [hl, hr]
  abel

/-- reveal: the missing share is sent to the output party, which adds the two it holds -/
theorem reveal (s0 s1 s2 : R) : (s0 + s1) + s2 = s0 + s1 + s2 ∧ (s1 + s2) + s0 = s0 + s1 + s2 ∧ (s2 + s0) + s1 = s0 + s1 + s2 := by
  refine ⟨?_, ?_, ?_⟩ <;> ring

/-- T6 selection by a bit, as used by the oblivious transfer of mpc/utils.rs: `m0 + b·(m1 − m0)` is
    `(1 − b)·m0 + b·m1`, i.e. `m0` for b = 0 and `m1` for b = 1 (no masks here; see
    `mixed_multiply_shares` for the masked protocol) -/
theorem ot_select (b m0 m1 : R) :
    m0 + b * (m1 - m0) = (1 - b) * m0 + b * m1 ∧ (b = 0 → m0 + b * (m1 - m0) = m0) ∧ (b = 1 → m0 + b * (m1 - m0) = m1) := by
  refine ⟨by ring, ?_, ?_⟩
  · intro h; rw [h]; ring
  · intro h; rw [h]; ring

/-- T6' bit-by-integer product (`multiply_bits_by_public_integers`, mpc_arithmetic.rs): the integer
    owner S forms `m0 = u·c − r_s − r_h` and `m1 = (c − u·c) − r_s − r_h` with `u = b_s ⊕ b_h`; the
    receiver R obtains `m_{b_r}` by oblivious transfer; `(m_{b_r}, r_s, r_h)` is a sharing of `b·c`
    where `b = b_s ⊕ b_h ⊕ b_r`. -/
theorem mixed_multiply_shares (c rs rh : R) (bs bh br : Bool) :
    let u : R := if xor bs bh then 1 else 0
    let m0 := u * c - rs - rh
    let m1 := (c - u * c) - rs - rh
    (if br then m1 else m0) + rs + rh = (if xor (xor bs bh) br then c else 0) := by
  -- the two masks cancel whatever message was selected; what remains is `u·c` or `c − u·c`
  have key : ∀ m : R, m - rs - rh + rs + rh = m := fun m => by rw [sub_sub, add_assoc, sub_add_cancel]
  generalize xor bs bh = b
  cases b <;> cases br <;>
    simp only [Bool.false_eq_true, if_false, if_true, Bool.xor_false, Bool.xor_true, Bool.not_false,
      Bool.not_true, zero_mul, one_mul, sub_zero, sub_self]
  · exact key 0
  · exact key c
  · exact key c
  · exact key 0

/-- a test vector: in ℤ, concrete shares of 7 and of 5 reveal 35 after product + resharing -/
example : ((3 * 1 + 3 * 6 + 9 * 1 + (11 - 4)) + (9 * 6 + 9 * (-2) + (-5) * 6 + (4 - 20)) + ((-5) * (-2) + (-5) * 1 + 3 * (-2) + (20 - 11)) : Int) = 7 * 5 := by
  decide

end CCV.C01
