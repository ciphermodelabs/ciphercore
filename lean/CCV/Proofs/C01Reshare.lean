import CCV.Lemmas.Reshare
/-
  C01, item T9 — safety of the resharing planner (ciphercore-base/src/mpc/resharing.rs).

  The MPC compiler translates a private×private product (Multiply/Dot/Matmul/Gemm) into the ABY3
  product, whose result is a 3-out-of-3 sharing; share-wise (local) translations keep that state;
  interactive protocols (products, A2B, B2A, Truncate, Sort, Join, MixedMultiply / ApplyPermutation
  with private bits / permutation) read REPLICATED (2-out-of-3) operands, and the output must be
  replicated before it is revealed.  `get_nodes_to_reshare` decides where a `reshare` is appended.

  `CCV.Reshare.plan` (Model/Reshare.lean) mirrors `compute_graph_resharing` + `sanity_pass` on an abstract
  graph (class of the operation, broadcasting flag, private flag, size in bits, operand list); the
  harness compares it node set for node set with the hook on generated graphs.

  Definitions (Lemmas/Reshare.lean):
    `Unres g P i`        — INDUCTIVELY FROM THE PLAN P: node i is private, not in P, and is a product of
                           private operands or has an operand d with `Unres g P d`;
    `NeedsReplicated g n` — the translation of n reads replicated operands;
    `WF g`                — operands precede the node, inputs have no operands;
    `PosSizes g`          — operands of broadcasting operations have a positive size in bits
                           (the harness checks both hypotheses on every real graph).
  All theorems are for every graph, every private set (also inconsistent ones) and every output node.
-/
namespace CCV.C01
open CCV.Reshare

theorem unres_iff (g : Graph) (P : List Nat) (i : Nat) :
    Unres g P i ↔ ∃ n, g.nodes[i]? = some n ∧ n.priv = true ∧ i ∉ P ∧
      (AllPrivProduct g n ∨ ∃ d ∈ n.deps, Unres g P d) := unres_unfold g P i

/-- the executable `unresAll` (what the driver prints for `unres`, compared by the harness with its
    native recomputation on the real graph) decides `Unres` -/
theorem unresAll_decides {g : Graph} (wf : WF g) (P : List Nat) (i : Nat) :
    (unresAll g P).getD i false = true ↔ Unres g P i := by
  have sp := unresList_spec wf P g.nodes [] 0 [] (by simp) rfl rfl (fun j hj => by omega)
  by_cases h : i < g.nodes.length
  · exact sp.2 i h
  · constructor
    · intro hb
      have hlen : (unresAll g P).length ≤ i := by unfold unresAll; rw [sp.1]; omega
      rw [List.getD_eq_getElem?_getD, List.getElem?_eq_none hlen] at hb
      cases hb
    · intro u; exact absurd (unres_lt u) h

theorem plan_eq {g : Graph} {P : List Nat} (h : plan g = some P) :
    ∃ s, compute g = some s ∧ P = s.toReshare := by
  unfold plan at h
  cases hc : compute g with
  | none => rw [hc] at h; cases h
  | some s => rw [hc] at h; cases h; exact ⟨s, rfl, rfl⟩

/-- (a) a node whose translation reads replicated shares never gets a 3-out-of-3, un-reshared
    operand — including the interleavings that `ensure_dependencies_are_reshared` leaves to be
    "fixed later in sanity_check" -/
theorem planner_replicated_operands {g : Graph} {P : List Nat} (wf : WF g) (ps : PosSizes g)
    (h : plan g = some P) :
    ∀ (i : Nat) (n : Node), g.nodes[i]? = some n → NeedsReplicated g n →
      ∀ d ∈ n.deps, ¬ Unres g P d := by
  obtain ⟨s, hc, rfl⟩ := plan_eq h
  obtain ⟨s1, m1, back, hsub, _⟩ := compute_spec wf ps hc
  intro i n hn hnr d hd u
  exact m1.safe i n (List.getElem?_eq_some_iff.1 hn).1 hn hnr d hd (unres_mono hsub (back d u))

/-- (b) the output node is never left 3-out-of-3 -/
theorem planner_output_reshared {g : Graph} {P : List Nat} (wf : WF g) (ps : PosSizes g)
    (h : plan g = some P) : ¬ Unres g P g.out := by
  obtain ⟨s, hc, rfl⟩ := plan_eq h
  obtain ⟨s1, m1, back, hsub, hout⟩ := compute_spec wf ps hc
  intro u
  have u2 := back _ u
  have : g.out ∈ s1.unreshared := m1.recd _ (unres_lt u2) (unres_mono hsub u2)
  exact unres_not_mem u2 (hout this)

/-- (c) only private nodes of the graph are reshared -/
theorem planner_plan_private {g : Graph} {P : List Nat} (h : plan g = some P) :
    ∀ i ∈ P, privAt g i = true ∧ i < g.nodes.length := by
  obtain ⟨s, hc, rfl⟩ := plan_eq h
  exact fun i hi => ⟨(compute_priv hc).1 i hi, lt_of_privAt ((compute_priv hc).1 i hi)⟩

/-- (d) minimality as `sanity_pass` intends it — full statement: every reshared node would be
    3-out-of-3 without its resharing (it is a product of private operands or has an unreshared operand) -/
def PlanMinimalStatement (g : Graph) : Prop :=
  ∀ P, plan g = some P → ∀ i ∈ P, Needed g P i

/-- (d) proved when no node uses the output node as an operand (e.g. the output is the last node).
    Missing for the full statement: `compute_graph_resharing` inserts the output node into
    `nodes_to_reshare` WITHOUT removing it from `unreshared_nodes`, so `sanity_pass` keeps the
    resharing of a node BEHIND the output whose only 3-out-of-3 operand was the output itself
    (`planMinimal_fails_behind_output` below).  Such nodes are dead code; the extra resharing costs
    PRF calls and a round but cannot change a result. -/
theorem planner_minimal_partial {g : Graph} (wf : WF g) (hu : OutputUnused g) : PlanMinimalStatement g := by
  intro P h i hi
  obtain ⟨s, hc, rfl⟩ := plan_eq h
  exact compute_needed wf hu hc i hi

/- examples: concrete graphs, all inputs private, 64-bit scalars -/

private def inp : Node := ⟨.input, false, true, 64, []⟩

/-- `(a*b + a) * b` : nodes 0 a, 1 b, 2 a*b, 3 (a*b)+a, 4 (…)*b = output -/
def exArith : Graph :=
  ⟨[inp, inp, ⟨.product, true, true, 64, [0, 1]⟩, ⟨.loc, true, true, 64, [2, 0]⟩,
    ⟨.product, true, true, 64, [3, 1]⟩], 4⟩

/-- `create_tuple(a*b, a)` revealed : nodes 0 a, 1 b, 2 a*b, 3 tuple = output -/
def exTuple : Graph :=
  ⟨[inp, inp, ⟨.product, true, true, 64, [0, 1]⟩, ⟨.loc, false, true, 128, [2, 0]⟩], 3⟩

/-- a product feeding MixedMultiply with private bits : 0 a, 1 b, 2 bits, 3 a*b, 4 mixed_multiply(a*b, bits) -/
def exMixed : Graph :=
  ⟨[inp, inp, ⟨.input, false, true, 1, []⟩, ⟨.product, true, true, 64, [0, 1]⟩,
    ⟨.cond1, true, true, 64, [3, 2]⟩], 4⟩

/-- the same with PUBLIC bits: MixedMultiply is local, the product stays 3-out-of-3 and the output is reshared -/
def exMixedPub : Graph :=
  ⟨[inp, inp, ⟨.input, false, false, 1, []⟩, ⟨.product, true, true, 64, [0, 1]⟩,
    ⟨.cond1, true, true, 64, [3, 2]⟩], 4⟩

example : plan exArith = some [4, 3] := by decide +kernel
example : plan exTuple = some [3] := by decide +kernel
example : plan exMixed = some [3] := by decide +kernel
example : plan exMixedPub = some [4] := by decide +kernel

/-- in `(a*b + a) * b` the first product is NOT reshared: it is really left 3-out-of-3 … -/
example : Unres exArith [4, 3] 2 :=
  .prod (n := ⟨.product, true, true, 64, [0, 1]⟩) rfl rfl (by decide) ⟨rfl, by decide⟩

/-- … and without resharing the sum, the second product would read a 3-out-of-3 operand
    (so statement (a) is not vacuous: a wrong plan violates it) -/
example : Unres exArith [4] 3 :=
  .prop (n := ⟨.loc, true, true, 64, [2, 0]⟩) (d := 2) rfl rfl (by decide) (by decide)
    (.prod (n := ⟨.product, true, true, 64, [0, 1]⟩) rfl rfl (by decide) ⟨rfl, by decide⟩)

theorem forall_nodes (g : Graph) (P : Nat → Node → Prop)
    (h : ∀ i (hi : i < g.nodes.length), P i g.nodes[i]) : ∀ i n, g.nodes[i]? = some n → P i n := by
  intro i n hn
  obtain ⟨hi, e⟩ := List.getElem?_eq_some_iff.1 hn
  exact e ▸ h i hi

theorem wf_exArith : WF exArith :=
  ⟨forall_nodes _ _ (by decide), forall_nodes _ _ (by decide)⟩

theorem ps_exArith : PosSizes exArith := forall_nodes _ _ (by decide)

/-- (a) instantiated: the second product of `(a*b + a) * b` needs replicated operands, and gets them -/
example : ¬ Unres exArith [4, 3] 3 :=
  planner_replicated_operands wf_exArith ps_exArith (by decide) 4 ⟨.product, true, true, 64, [3, 1]⟩ rfl
    ⟨rfl, Or.inr (Or.inl ⟨rfl, by decide⟩)⟩ 3 (by decide)

example : ¬ Unres exArith [4, 3] 4 := planner_output_reshared wf_exArith ps_exArith (by decide)

/-- the revealed tuple `create_tuple(a*b, a)` would be 3-out-of-3 without the plan -/
example : Unres exTuple [] 3 :=
  .prop (n := ⟨.loc, false, true, 128, [2, 0]⟩) (d := 2) rfl rfl (by decide) (by decide)
    (.prod (n := ⟨.product, true, true, 64, [0, 1]⟩) rfl rfl (by decide) ⟨rfl, by decide⟩)

/-- MixedMultiply with private bits needs replicated operands (hypothesis of (a) is met) -/
example : NeedsReplicated exMixed ⟨.cond1, true, true, 64, [3, 2]⟩ :=
  ⟨rfl, Or.inr (Or.inr ⟨rfl, 3, 2, [], rfl, by decide⟩)⟩

/-- with public bits the product feeding MixedMultiply stays 3-out-of-3 -/
example : Unres exMixedPub [4] 3 :=
  .prod (n := ⟨.product, true, true, 64, [0, 1]⟩) rfl rfl (by decide) ⟨rfl, by decide⟩

/-- (d) instantiated on `(a*b + a) * b`: both reshared nodes are needed -/
example : Needed exArith [4, 3] 3 ∧ Needed exArith [4, 3] 4 :=
  have h := planner_minimal_partial wf_exArith (forall_nodes _ _ (by decide))
    [4, 3] (by decide)
  ⟨h 3 (by decide), h 4 (by decide)⟩

/-- output in the middle: 0 a, 1 b, 2 a*b = OUTPUT, 3 (a*b)+a, 4 truncate(3) (dead code behind the output) -/
def exDead : Graph :=
  ⟨[inp, inp, ⟨.product, true, true, 64, [0, 1]⟩, ⟨.loc, true, true, 64, [2, 0]⟩,
    ⟨.need2, false, true, 64, [3]⟩], 2⟩

example : plan exDead = some [2, 3] := by decide +kernel

/-- the full minimality statement fails behind the output node: node 3 is reshared although its
    operands (the reshared output 2 and the input 0) are both replicated -/
theorem planMinimal_fails_behind_output : ¬ PlanMinimalStatement exDead := by
  intro h
  obtain ⟨n, hn, hx⟩ := h [2, 3] (by decide) 3 (by decide)
  cases hn
  rcases hx with ⟨hc, _⟩ | ⟨d, hd, hu⟩
  · cases hc
  · have hd' : d = 2 ∨ d = 0 := by simpa using hd
    rcases hd' with rfl | rfl
    · exact unres_not_mem hu (by decide)
    · obtain ⟨_, _, hy⟩ := unres_inv (n := inp) rfl hu
      rcases hy with ⟨hc, _⟩ | ⟨e, he, _⟩
      · cases hc
      · cases he

end CCV.C01
