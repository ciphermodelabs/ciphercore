import CCV.Lemmas.InlineFresh
/-
  C07, fresh randomness: every inlined copy of a body gets its own Random nodes.
  Model: CCV.Model.InlineFresh (mirror of inline_ops.rs / simple_iterate_inliner.rs); the functions
  below (`inlineCall`, `inlineIterateSimple`) run inside `inlineOperations`, which the driver executes.
  Notation: `stepRename g base init i` is the renaming of copy i (closed form), `InCopy g base i x`
  says that x is one of the nodes created for copy i, `stepBlocks` is the closed form of the
  appended nodes (Lemmas/InlineFresh.lean).
-/
namespace CCV.C07
open CCV.InlineFresh

/-- One assign / inline / unassign cycle (`inline_call`, one Iterate step, one combine call)
    appends exactly one renamed copy of the body's non-Input nodes at the END of the output graph
    (so all its nodes, in particular its Random nodes, are new), returns the image of the output
    node and leaves the ephemeral mapping clean, whatever `context_mapping` contains (first copy or
    a later one). -/
theorem call_copy (gid : Nat) (g : Graph) (outId : Nat) (args : List Nat) (s : St)
    (hwf : WF g) (hargs : inCount g ≤ args.length) (hclean : Clean gid s.2) :
    (inlineCall gid g outId args s).1.1 = s.1 ++ copySpec (rename g s.1.length args) g ∧
    (outId < g.length → (inlineCall gid g outId args s).2 = rename g s.1.length args outId) ∧
    Clean gid (inlineCall gid g outId args s).1.2 ∧
    (∀ k nd, g[k]? = some nd → nd.tag ≠ .input →
      s.1.length ≤ rename g s.1.length args k ∧
      (inlineCall gid g outId args s).1.1[rename g s.1.length args k]?
        = some ⟨nd.tag, nd.deps.map (rename g s.1.length args)⟩) := by
  obtain ⟨c', r, e, e2, e3⟩ := inlineCall_spec gid g outId args s hwf hargs hclean
  rw [e]
  refine ⟨rfl, e2, e3, fun k nd hk hn => ?_⟩
  rw [rename_nonInput hk hn]
  refine ⟨Nat.le_add_right _ _, ?_⟩
  rw [List.getElem?_append_right (Nat.le_add_right _ _), Nat.add_sub_cancel_left]
  exact copySpec_get (rename g s.1.length args) hk hn

example : (inlineCall 1 exBody 5 [0, 1] exStart).1.1 =
    exStart.1 ++ [⟨.random, []⟩, ⟨.op 0, [0, 2]⟩, ⟨.op 2, [1, 2]⟩, ⟨.createTuple, [3, 4]⟩] := by
  decide +kernel

/-- The statement for the loop over the MAIN graph (`inlineMainNodes`, which computes each argument
    list with `get_node`): every Call node adds the Random nodes of the body once.  It is stated only,
    not proved (the context `c` is unconstrained); the driver executes `inlineMainNodes` and compares it
    with the implementation. -/
def CallChainStatement : Prop :=
  ∀ (mode : Mode) (es : Bool) (body : Graph) (bodyOut : Nat) (main : Graph) (out : Graph) (c : ICtx),
    WF body → (∀ nd ∈ main, nd.tag ≠ .random ∧ (∀ n, nd.tag ≠ .iterate n)) →
    randomCount (inlineMainNodes mode es body bodyOut main 0 (out, c)).1
      = randomCount out + (main.filter (fun nd => nd.tag = .call)).length * randomCount body

/-- n successive `inline_call`s of the same body, with arbitrary argument lists, add exactly
    n * #Random(body) Random nodes, all at fresh positions (each copy is appended after the previous
    graph, by `call_copy`); this is about `callSeq`, not about the loop over the main graph. -/
theorem call_chain_partial (gid : Nat) (g : Graph) (outId : Nat) (hwf : WF g) :
    ∀ (argss : List (List Nat)) (s : St), (∀ a ∈ argss, inCount g ≤ a.length) → Clean gid s.2 →
      randomCount (callSeq gid g outId argss s).1 = randomCount s.1 + argss.length * randomCount g ∧
      s.1.length ≤ (callSeq gid g outId argss s).1.length ∧
      Clean gid (callSeq gid g outId argss s).2 := by
  intro argss
  induction argss with
  | nil => exact fun s _ hc => ⟨(Nat.add_zero _).symm.trans (congrArg _ (Nat.zero_mul _).symm), Nat.le_refl _, hc⟩
  | cons a as ih =>
    intro s ha hc
    obtain ⟨c', r, e, _, e3⟩ := inlineCall_spec gid g outId a s hwf (ha a List.mem_cons_self) hc
    rw [callSeq_cons, e]
    obtain ⟨f1, f2, f3⟩ := ih (s.1 ++ copySpec (rename g s.1.length a) g, c')
      (fun b hb => ha b (List.mem_cons_of_mem a hb)) e3
    refine ⟨?_, Nat.le_trans ?_ f2, f3⟩
    · rw [f1, randomCount_append, randomCount_copySpec, List.length_cons, Nat.succ_mul, Nat.add_assoc,
        Nat.add_comm (randomCount g)]
    · rw [List.length_append]
      exact Nat.le_add_right _ _

example : randomCount (callSeq 1 exBody 5 [[0, 1], [5, 1], [9, 1]] exStart).1 = 3 :=
  (call_chain_partial 1 exBody 5 exBody_wf [[0, 1], [5, 1], [9, 1]] exStart (by decide) exStart_clean).1

/-- Structure of `inline_iterate_simple`: for every body and every n the loop appends exactly
    `stepBlocks` (per step: Constant(i), VectorGet, the renamed copy, TupleGet(0), TupleGet(1)),
    the final state is TupleGet(0) of the last step (the initial state for n = 0), the outputs are
    the TupleGet(1) nodes, and the ephemeral mapping is clean afterwards. -/
theorem iterate_simple_structure (gid : Nat) (g : Graph) (outId init inp n : Nat) (s : St)
    (hwf : WF g) (h2 : inCount g ≤ 2) (ho : outId < g.length) (hc : Clean gid s.2) :
    (inlineIterateSimple gid g outId init inp n s).1.1
      = s.1 ++ stepBlocks g outId inp s.1.length init n 0 ∧
    (inlineIterateSimple gid g outId init inp n s).2.1 = stateAt g s.1.length init n ∧
    (inlineIterateSimple gid g outId init inp n s).2.2
      = (List.range' 0 n).map (fun j => s.1.length + j * stepLen g + 3 + rank g) ∧
    Clean gid (inlineIterateSimple gid g outId init inp n s).1.2 := by
  obtain ⟨c', hc', e⟩ := iterSimpleLoop_spec gid g outId inp s.1.length init hwf h2 ho n 0 [] s.1 s.2
    (by rw [Nat.zero_mul]; rfl) hc
  rw [show stateAt g s.1.length init 0 = init from rfl] at e
  rw [inlineIterateSimple, show s = (s.1, s.2) from rfl, e, Nat.zero_add]
  exact ⟨rfl, rfl, rfl, hc'⟩

example : (inlineIterateSimple 1 exBody 5 0 1 2 exStart).1.1 = exStart.1 ++
    [⟨.const 0, []⟩, ⟨.vectorGet, [1, 2]⟩, ⟨.random, []⟩, ⟨.op 0, [0, 4]⟩, ⟨.op 2, [3, 4]⟩,
     ⟨.createTuple, [5, 6]⟩, ⟨.tupleGet 0, [7]⟩, ⟨.tupleGet 1, [7]⟩,
     ⟨.const 1, []⟩, ⟨.vectorGet, [1, 10]⟩, ⟨.random, []⟩, ⟨.op 0, [8, 12]⟩, ⟨.op 2, [11, 12]⟩,
     ⟨.createTuple, [13, 14]⟩, ⟨.tupleGet 0, [15]⟩, ⟨.tupleGet 1, [15]⟩] := by decide +kernel

/-- Isomorphism: in the output graph, the image under copy i's renaming of every non-Input body
    node carries the same operation and the renamed dependencies; the renaming is injective on
    the non-Input nodes. -/
theorem iterate_simple_copy_isomorphic (gid : Nat) (g : Graph) (outId init inp n : Nat) (s : St)
    (hwf : WF g) (h2 : inCount g ≤ 2) (ho : outId < g.length) (hc : Clean gid s.2)
    (i : Nat) (hi : i < n) :
    (∀ k nd, g[k]? = some nd → nd.tag ≠ .input →
      (inlineIterateSimple gid g outId init inp n s).1.1[stepRename g s.1.length init i k]?
        = some ⟨nd.tag, nd.deps.map (stepRename g s.1.length init i)⟩) ∧
    (∀ k k' nd nd', g[k]? = some nd → g[k']? = some nd' → nd.tag ≠ .input → nd'.tag ≠ .input →
      stepRename g s.1.length init i k = stepRename g s.1.length init i k' → k = k') := by
  refine ⟨fun k nd hk hn => ?_, fun k k' nd nd' hk hk' hn hn' heq => ?_⟩
  · have hr := rank_take_lt hk hn
    rw [(iterate_simple_structure gid g outId init inp n s hwf h2 ho hc).1, stepRename,
      rename_nonInput hk hn, Nat.add_assoc, Nat.add_assoc,
      List.getElem?_append_right (Nat.le_add_right _ _), Nat.add_sub_cancel_left,
      stepBlocks_get g outId inp s.1.length init n 0 i _ hi (by unfold stepLen; omega),
      Nat.zero_add, stepBlock_get g outId inp s.1.length init i _ hr]
    exact copySpec_get _ hk hn
  · unfold stepRename at heq
    rw [rename_nonInput hk hn, rename_nonInput hk' hn'] at heq
    have heq := Nat.add_left_cancel heq
    rcases Nat.lt_trichotomy k k' with h | h | h
    · exact absurd heq (Nat.ne_of_lt (rank_take_strict hk hn h))
    · exact h
    · exact absurd heq.symm (Nat.ne_of_lt (rank_take_strict hk' hn' h))

example : (inlineIterateSimple 1 exBody 5 0 1 2 exStart).1.1[stepRename exBody 2 0 1 4]?
    = some ⟨.op 2, [11, 12]⟩ := by decide +kernel

/-- Fresh randomness: for every Random node r of the body and copies i ≠ j of an n-step Iterate,
    the images of r are two distinct nodes of the output graph, both Random nodes; more generally
    the node sets of different copies are disjoint. -/
theorem iterate_simple_fresh_random (gid : Nat) (g : Graph) (outId init inp n : Nat) (s : St)
    (hwf : WF g) (h2 : inCount g ≤ 2) (ho : outId < g.length) (hc : Clean gid s.2)
    (i j : Nat) (hi : i < n) (hj : j < n) (hij : i ≠ j) :
    (∀ r nd, g[r]? = some nd → nd.tag = .random →
      stepRename g s.1.length init i r ≠ stepRename g s.1.length init j r ∧
      (∃ ds, (inlineIterateSimple gid g outId init inp n s).1.1[stepRename g s.1.length init i r]?
        = some ⟨.random, ds⟩) ∧
      (∃ ds, (inlineIterateSimple gid g outId init inp n s).1.1[stepRename g s.1.length init j r]?
        = some ⟨.random, ds⟩)) ∧
    (∀ k k' nd nd', g[k]? = some nd → g[k']? = some nd' → nd.tag ≠ .input → nd'.tag ≠ .input →
      stepRename g s.1.length init i k ≠ stepRename g s.1.length init j k') := by
  have hiso := fun i hi => (iterate_simple_copy_isomorphic gid g outId init inp n s hwf h2 ho hc i hi).1
  refine ⟨fun r nd hr ht => ?_, fun k k' nd nd' hk hk' hn hn' => stepRename_ne hij hk hn hk' hn'⟩
  have hn : nd.tag ≠ .input := ht ▸ Tag.noConfusion
  exact ⟨stepRename_ne hij hr hn hr hn, ⟨_, ht ▸ hiso i hi r nd hr hn⟩, ⟨_, ht ▸ hiso j hj r nd hr hn⟩⟩

example : stepRename exBody 2 0 0 2 = 4 ∧ stepRename exBody 2 0 1 2 = 12 ∧ stepRename exBody 2 0 2 2 = 20 := by
  decide +kernel

/-- Counting: n steps add exactly n * #Random(body) Random nodes to those already present. -/
theorem iterate_simple_random_count (gid : Nat) (g : Graph) (outId init inp n : Nat) (s : St)
    (hwf : WF g) (h2 : inCount g ≤ 2) (ho : outId < g.length) (hc : Clean gid s.2) :
    randomCount (inlineIterateSimple gid g outId init inp n s).1.1
      = randomCount s.1 + n * randomCount g := by
  rw [(iterate_simple_structure gid g outId init inp n s hwf h2 ho hc).1, randomCount_append,
    randomCount_stepBlocks]

example : randomCount (inlineIterateSimple 1 exBody 5 0 1 3 exStart).1.1 = 3 :=
  iterate_simple_random_count 1 exBody 5 0 1 3 exStart exBody_wf (by decide) (by decide) exStart_clean

/-- The image (under copy i's renaming) of a non-Input body node is a node of copy i itself, the
    image of an Input node is one of the copy's assigned inputs (the state of step i or the
    VectorGet of step i), which belong to NO copy. -/
theorem iterate_simple_image (g : Graph) (base init : Nat) (h2 : inCount g ≤ 2)
    (hinit : init < base) (i d : Nat) (hd : d < g.length) :
    InCopy g base i (stepRename g base init i d) ∨
      ((stepRename g base init i d = stateAt g base init i ∨
        stepRename g base init i d = base + i * stepLen g + 1) ∧
       ∀ j, ¬ InCopy g base j (stepRename g base init i d)) := by
  have hgd : g[d]? = some g[d] := List.getElem?_eq_getElem hd
  by_cases hdi : g[d].tag = .input
  · have hval := stepRename_input (base := base) (init := init) (i := i) h2 hgd hdi
    refine Or.inr ⟨hval, fun j => ?_⟩
    rcases hval with h | h
    · rw [h]
      exact stateAt_not_inCopy hinit i j
    · rw [h]
      exact vget_not_inCopy i j
  · exact Or.inl (stepRename_inCopy hgd hdi)

/-- Locality: every dependency of a node of copy i is the image of a body node (`WF`), so by
    `iterate_simple_image` it is a node of copy i or an assigned input: no node of copy i refers
    to a node (in particular a Random node) of a copy j ≠ i. -/
theorem iterate_simple_copy_local (g : Graph) (base init : Nat)
    (hwf : WF g) (h2 : inCount g ≤ 2) (hinit : init < base)
    (i k : Nat) (nd : Node) (hk : g[k]? = some nd) (d : Nat) (hd : d ∈ nd.deps) :
    (InCopy g base i (stepRename g base init i d) ∨
      ((stepRename g base init i d = stateAt g base init i ∨
        stepRename g base init i d = base + i * stepLen g + 1) ∧
       ∀ j, ¬ InCopy g base j (stepRename g base init i d))) ∧
    (∀ j, j ≠ i → ¬ InCopy g base j (stepRename g base init i d)) := by
  have h := iterate_simple_image g base init h2 hinit i d
    (Nat.lt_trans (hwf k nd hk d hd) (List.getElem?_eq_some_iff.1 hk).1)
  exact ⟨h, fun j hj hb => h.elim (fun a => hj (inCopy_disjoint hb a)) (fun a => a.2 j hb)⟩

example : stepRename exBody 2 0 1 0 = stateAt exBody 2 0 1 ∧ stateAt exBody 2 0 1 = 8 ∧
    stepRename exBody 2 0 1 1 = 11 ∧ ¬ InCopy exBody 2 0 8 ∧ InCopy exBody 2 1 12 := by
  unfold InCopy; decide +kernel

end CCV.C07
