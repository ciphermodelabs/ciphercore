import CCV.Lemmas.InstNames
import CCV.Lemmas.InstPass
/-
  C08 — custom-operation instantiation is total and meaning-preserving.
  The property theorems; the lemmas they rest on are in CCV/Lemmas/InstNames.lean (names) and
  CCV/Lemmas/InstPass.lean (pass).  Model: CCV/Model/Instantiate.lean — `opName`,
  `instNameChars`, `showTys`, `instantiate` are what the driver (CCV/Drv/C08.lean) executes.

  Names are `List Char` rendered from the pieces of each Rust `format!` string (`opSpec`), numbers
  by `Nat.toDigits 10` (= `Nat.repr`, core `Nat.toList_repr`), so the injectivity statements are
  about decimal printing itself, not about an assumed printer.
  The pass is generic in the operation type, the type type (cache keys need decidable equality),
  the payload `P` of plain nodes and the values `V`.
-/
namespace CCV.C08
open CCV CCV.Instantiate

/-- **Reported names are prefix-free before `::<`.**  `Instantiation::get_name` continues the
    reported name with `::<`; if `name a ++ ':' ++ r = name b ++ ':' ++ r'` then the operations
    (constructor and every parameter: all naturals, booleans, strings) and the rests coincide. -/
theorem opName_prefix_free (a b : LibOp) (r r' : List Char)
    (h : opNameChars a ++ ':' :: r = opNameChars b ++ ':' :: r') : a = b ∧ r = r' :=
  Instantiate.opNameChars_prefix_free a b r r' h

/-- the `:` is needed: without it the names are not prefix-free ("Not" begins "NotEqual") -/
example : opNameChars .not ++ "Equal".toList = opNameChars .notEqual ++ [] := by decide +kernel

/-- **`get_name()` is injective**: two different operations or two parameterisations of one
    operation never report the same name. -/
theorem opName_injective {a b : LibOp} (h : opName a = opName b) : a = b :=
  opNameChars_injective (String.ofList_injective h)

example : opName (.clip2K 10) = "Clip(10)" := by decide +kernel
example : opName (.sortByIntegerKey "a".toList) ≠ opName (.sortByIntegerKey "b".toList) :=
  fun h => absurd (LibOp.sortByIntegerKey.inj (opName_injective h)) (by decide +kernel)
example : opName (.fixedMultiply 10 false) ≠ opName (.fixedMultiply 10 true) :=
  fun h => by cases opName_injective h
example : opName (.clip2K 1) ≠ opName (.clip2K 65) := fun h => by cases opName_injective h
example : opName (.lessThan true) ≠ opName (.lessThanEqualTo true) := fun h => by
  cases opName_injective h

/-- Instantiation names are injective, given that printing a list of argument types is.  For the
    model's own `showTys` the hypothesis `hty` is false (see the two examples below:
    `Tuple([])`/`NamedTuple([])` and the two one-bit scalar types print alike), so this statement
    has no instance; the content is in `instName_injective_flat` (flat types) and
    `libName_injective` (any type representation with an injective printer). -/
theorem instName_injective (hty : ∀ ts ts' : List Ty, showTys ts = showTys ts' → ts = ts')
    {a b : LibOp} {ts ts' : List Ty} (h : instName a ts = instName b ts') : a = b ∧ ts = ts' := by
  obtain ⟨hab, h2⟩ := instNameChars_inj (String.ofList_injective h)
  exact ⟨hab, hty _ _ h2⟩

example : instNameChars (opNameChars (.min false)) (showTys [.scalar ⟨false, 1⟩, .array [2, 3] ⟨true, 32⟩])
    = "__Min(signed_comparison=false)::<bit, i32[2, 3]>".toList := by decide +kernel

/-- **Instantiation names are injective on scalar and array argument types** (what almost all
    library operations take): decimal dimensions, `bit` / `u<n>` / `i<n>`, brackets and `, ` parse back uniquely.
    `Ty.okFlat`: a scalar or array type whose scalar type is not the impossible "signed 1-bit". -/
theorem instName_injective_flat {a b : LibOp} {ts ts' : List Ty}
    (h0 : ∀ t ∈ ts, t.okFlat) (h' : ∀ t ∈ ts', t.okFlat)
    (h : instName a ts = instName b ts') : a = b ∧ ts = ts' := by
  obtain ⟨hab, h2⟩ := instNameChars_inj (String.ofList_injective h)
  exact ⟨hab, showTys_inj_flat _ _ h0 h' h2⟩

example : (Ty.array [2, 3] ⟨true, 32⟩).okFlat ∧ (Ty.scalar ⟨false, 1⟩).okFlat := by
  constructor <;> simp [Ty.okFlat, ScalarT.ok]

/-- printing of argument types is not injective: the printer of `Type` maps the empty tuple and
    the empty named tuple to the same text, and every one-bit scalar type to `bit` -/
example : showTys [.tuple []] = showTys [.named []] := by decide +kernel

/-- the name `run_instantiation_pass` gives to the graph of an instantiation, for any
    representation `Ty'` of types with a printer `pr` of argument lists
    (`instName op tys = libName showTys ⟨op, tys⟩`) -/
def libName {Ty' : Type} (pr : List Ty' → List Char) (i : Inst LibOp Ty') : String :=
  String.ofList (instNameChars (opNameChars i.op) (pr i.tys))

example (op : LibOp) (tys : List Ty) : instName op tys = libName showTys ⟨op, tys⟩ := rfl

theorem libName_injective {Ty' : Type} (pr : List Ty' → List Char)
    (hpr : ∀ x y, pr x = pr y → x = y) {i j : Inst LibOp Ty'} (h : libName pr i = libName pr j) :
    i = j := by
  obtain ⟨h1, h2⟩ := Instantiate.instNameChars_inj (String.ofList_injective h)
  cases i; cases j
  simp only [Inst.mk.injEq]
  exact ⟨h1, hpr _ _ h2⟩

section Pass
variable {Op Ty' P : Type} [DecidableEq Op] [DecidableEq Ty']

/-- **The pass is total on acyclic dependency graphs.**  `S` is a set of instantiations that can
    be instantiated, whose bodies are well formed and use only members of `S` of smaller `rank`
    (`Acyclic`), named injectively; the context is well formed, its custom nodes are in `S` and
    the fuel exceeds their ranks.  Then no step fails: no instantiation is missing from the cache
    when it is needed ("Should not be here"), no name clashes ("Graph names must be unique"), no
    cycle error. -/
theorem instantiate_total (callP : P) (nameOf : Inst Op Ty' → String)
    (lib : Inst Op Ty' → Except String (Ctx Op Ty' P)) (S : Inst Op Ty' → Prop)
    (rank : Inst Op Ty' → Nat) (fuel : Nat) (c : Ctx Op Ty' P)
    (hac : Acyclic lib S rank) (hc : WfCtx c) (hS : ∀ j ∈ c.uses, S j)
    (hinj : ∀ i j, S i → S j → nameOf i = nameOf j → i = j)
    (hfuel : ∀ j ∈ c.uses, rank j < fuel) :
    ∃ r, instantiate callP nameOf lib fuel c = .ok r := by
  obtain ⟨order, e1, hsorted, _, huses, _⟩ :=
    visitAll_post (visit_post hac fuel) c.uses [] .nil
      (fun j hj => ⟨hS j hj, hfuel j hj⟩)
  obtain ⟨res, cache, e2, hcache⟩ := glueInsts_total callP nameOf hac hinj hsorted
  obtain ⟨e3, e4⟩ := glueGraphs_wf callP res hc fun j hj => hcache j (huses j hj)
  refine ⟨(⟨res ++ c.graphs.map (gluedGraph callP cache res.length), res.length + c.main⟩,
    cache), ?_⟩
  simp only [instantiate, e1, e2, e3, e4]

/-- the hypotheses can be met: `Or` (three nested `Not`) and `Not` used in a two-graph context -/
example : ∃ r, instantiate 99 exName exLib 2 exCtx = .ok r :=
  instantiate_total 99 exName exLib exS exRank 2 exCtx ex_acyclic (WfCtx_of_check _ rfl)
    (by decide) ex_inj (by decide)

example : ∃ r, instantiate 99 exName exLib 2 exCtx = .ok r := ⟨_, ex_run⟩

/-- **The pass is total with the library's names**: for the public library operations, named by
    `Instantiation::get_name` over any representation `Ty'` of types with an injective printing
    `pr` of argument lists, the uniqueness check of `set_name` never fires — `hinj` of
    `instantiate_total` is a theorem, not a hypothesis.  (Not applicable to the model's `Ty` with
    `showTys`, which is not injective.) -/
theorem instantiate_total_lib (pr : List Ty' → List Char) (hpr : ∀ x y, pr x = pr y → x = y)
    (callP : P) (lib : Inst LibOp Ty' → Except String (Ctx LibOp Ty' P))
    (S : Inst LibOp Ty' → Prop) (rank : Inst LibOp Ty' → Nat) (fuel : Nat) (c : Ctx LibOp Ty' P)
    (hac : Acyclic lib S rank) (hc : WfCtx c) (hS : ∀ j ∈ c.uses, S j)
    (hfuel : ∀ j ∈ c.uses, rank j < fuel) :
    ∃ r, instantiate callP (libName pr) lib fuel c = .ok r :=
  instantiate_total callP (libName pr) lib S rank fuel c hac hc hS
    (fun _ _ _ _ h => libName_injective pr hpr h) hfuel

/-- a run with the library's names: two sorts with different keys and two clips with different
    `k` on one type (types are naturals printed in decimal); the bodies are plain -/
example : ∃ r, instantiate (0 : Nat) (libName (Ty' := Nat) fun ts => List.intercalate [','] (ts.map (Nat.toDigits 10)))
    (fun _ => .ok ⟨[⟨[.plain 1 [] []], 0⟩], 0⟩) 1
    ⟨[⟨[.custom ⟨.sortByIntegerKey ['a'], [5]⟩ [], .custom ⟨.sortByIntegerKey ['b'], [5]⟩ [],
        .custom ⟨.clip2K 1, [5]⟩ [], .custom ⟨.clip2K 2, [5]⟩ []], 0⟩], 0⟩ = .ok r := ⟨_, by rfl⟩

/-- **Every custom node is replaced by a `Call` of the graph the cache holds for its
    (operation, types).**  The result context is the instantiated graphs `pre` followed by the
    graphs of the original context, node for node; the called graph is named `nameOf i` (that it
    computes the instantiation is `instantiate_eval`). -/
theorem instantiate_replaces {callP : P} {nameOf : Inst Op Ty' → String}
    {lib : Inst Op Ty' → Except String (Ctx Op Ty' P)} {fuel : Nat} {c : Ctx Op Ty' P}
    {r : RCtx P} {cache : List (Inst Op Ty' × Nat)}
    (h : instantiate callP nameOf lib fuel c = .ok (r, cache)) :
    ∃ pre tail, r.graphs = pre ++ tail ∧ tail.length = c.graphs.length ∧
      r.main = pre.length + c.main ∧
      ∀ (k : Nat) g, c.graphs[k]? = some g → ∃ rg, tail[k]? = some rg ∧ rg.name = none ∧
        rg.out = g.out ∧ rg.nodes.length = g.nodes.length ∧
        (∀ (n : Nat) i ds, g.nodes[n]? = some (.custom i ds) →
          ∃ gi cg, rg.nodes[n]? = some ⟨callP, [gi], ds⟩ ∧ cacheGet cache i = some gi ∧
            pre[gi]? = some cg ∧ cg.name = some (nameOf i)) ∧
        (∀ (n : Nat) p gd ds, g.nodes[n]? = some (.plain p gd ds) →
          ∃ gd', rg.nodes[n]? = some ⟨p, gd', ds⟩ ∧ gd'.length = gd.length ∧
            ∀ x ∈ gd', pre.length ≤ x) := by
  obtain ⟨order, res, hgi, hok, rfl⟩ := instantiate_ok h
  have hcn := glueInsts_cacheNamed hgi
  refine ⟨res, _, rfl, List.length_map _, rfl, fun k g hk => ?_⟩
  refine ⟨_, by rw [List.getElem?_map, hk]; rfl, rfl, rfl, List.length_map _, ?_, ?_⟩
  · intro n i ds hn
    obtain ⟨gi, hc⟩ := hok k g hk _ (List.mem_of_getElem? hn)
    obtain ⟨cg, h1, h2⟩ := hcn i gi hc
    exact ⟨gi, cg, by simp [gluedGraph, gluedNode, hn, hc], hc, h1, h2⟩
  · intro n p gd ds hn
    refine ⟨_, by simp only [gluedGraph, List.getElem?_map, hn]; rfl, List.length_map _,
      fun x hx => ?_⟩
    obtain ⟨y, _, rfl⟩ := List.mem_map.1 hx
    exact Nat.le_add_right _ _

example := instantiate_replaces ex_run

/-- in the example the `Or` node of graph 0 became a call of graph 1, named "Or" -/
example : (exResult.1.graphs[2]?.bind (·.nodes[2]?)) = some ⟨99, [1], [0, 1]⟩ ∧
    (exResult.1.graphs[1]?.bind (·.name)) = some (exName ⟨1, [7, 7]⟩) := by decide +kernel

/-- **Graph names in the result are pairwise distinct.** -/
theorem instantiate_names_nodup {callP : P} {nameOf : Inst Op Ty' → String}
    {lib : Inst Op Ty' → Except String (Ctx Op Ty' P)} {fuel : Nat} {c : Ctx Op Ty' P}
    {r : RCtx P} {cache : List (Inst Op Ty' × Nat)}
    (h : instantiate callP nameOf lib fuel c = .ok (r, cache)) :
    (r.graphs.filterMap (·.name)).Nodup := by
  obtain ⟨order, res, hgi, _, rfl⟩ := instantiate_ok h
  have happ : ∀ (res rgs : List (RGraph P)), (∀ rg ∈ rgs, rg.name = none) →
      (res ++ rgs).filterMap (·.name) = res.filterMap (·.name) := by
    intro res rgs hun
    rw [List.filterMap_append, List.filterMap_eq_nil_iff.2 hun, List.append_nil]
  have hres : (res.filterMap (·.name)).Nodup := by
    refine glueInsts_induct (fun res _ => (res.filterMap (·.name)).Nodup) ?_ (by simp) hgi
    intro i body res cache hinv _ _ hlt hfresh
    rw [names_glued_modify hlt, List.nodup_append]
    refine ⟨hinv, by simp, fun a ha b hb hab => ?_⟩
    obtain ⟨g, hg, e⟩ := List.mem_filterMap.1 ha
    rw [List.mem_singleton] at hb
    exact hfresh g hg (by rw [e, hab, hb])
  show ((res ++ _).filterMap (·.name)).Nodup
  rw [happ res _ gluedGraph_unnamed]; exact hres

example : (exResult.1.graphs.filterMap (·.name)).Nodup := instantiate_names_nodup ex_run
example : exResult.1.graphs.filterMap (·.name) = ["Not", "Or"] := by decide +kernel

/-- a name that does not determine the parameters makes the pass fail, as in the code before the
    repair: constant name, two keys, one type -/
example : instantiate (0 : Nat) (fun _ : Inst LibOp Nat => "__SortIntegers::<t>")
    (fun _ => .ok ⟨[⟨[.plain 1 [] []], 0⟩], 0⟩) 1
    ⟨[⟨[.custom ⟨.sortByIntegerKey ['a'], [5]⟩ [], .custom ⟨.sortByIntegerKey ['b'], [5]⟩ []], 0⟩], 0⟩
    = .error "Graph names must be unique" := by rfl

/-- **The pass preserves the meaning** — generic in the semantics.  `sem` gives the value of a
    plain node from the functions of its graph dependencies, the arguments of the enclosing graph
    and the values of its dependencies; the only requirement is that `Call` applies the callee.
    `cust` is the library's definition of each instantiation: the function computed by the context
    `op.instantiate(types)` builds, nested custom nodes evaluated the same way (`hcust`: on-the-fly
    instantiation).  Then the result context computes the same function as the original context
    with every custom node evaluated by `cust`. -/
theorem instantiate_eval {V : Type} (sem : P → List (Fn V) → List V → List V → Option V)
    (cust : Inst Op Ty' → Fn V) {callP : P} {nameOf : Inst Op Ty' → String}
    {lib : Inst Op Ty' → Except String (Ctx Op Ty' P)} {fuel : Nat} {c : Ctx Op Ty' P}
    {r : RCtx P} {cache : List (Inst Op Ty' × Nat)}
    (hcall : ∀ f args ds, sem callP [f] args ds = f ds)
    (hcust : ∀ i body, lib i = .ok body → cust i = evalCtx sem cust body)
    (h : instantiate callP nameOf lib fuel c = .ok (r, cache)) :
    evalRCtx sem r = evalCtx sem cust c :=
  Instantiate.instantiate_eval sem cust hcall hcust h

/-- the hypotheses can be met: Boolean semantics (not / and / call / inputs), `Or` defined through
    three `Not` -/
example : evalRCtx exSem exResult.1 = evalCtx exSem exCust exCtx :=
  instantiate_eval exSem exCust ex_hcall ex_hcust ex_run

example : evalRCtx exSem exResult.1 [false, false] = some true ∧
    evalRCtx exSem exResult.1 [true, false] = some false := by decide +kernel

end Pass

end CCV.C08
