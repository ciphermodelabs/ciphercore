import CCV.Lemmas.Serde
/-
  C12 — contexts survive serialisation; malformed input is an error, not a crash.
  Model: CCV/Model/Serde.lean (`toSer` = `Context::make_serializable`, `recover` =
  `SerializableContextBody::recover_original_context`); definitions of `WF`, `DeepEq`, `canon`,
  `SortedBy` and all helper lemmas in CCV/Lemmas/Serde.lean.  Operations are opaque tags: the
  type-inference verdict that the replay re-computes is outside the model (covered by the
  correspondence run only).

  The examples use `exCtx` (CCV/Lemmas/Serde.lean): two finalized graphs, node 2 of graph 1 is
  Call-like (`gdeps = [0]`), main graph 1, names and annotations listed NOT in key order; `exCtx'`
  is the same context with `graphNames`, `nodeNames` and `nodeAnns` listed in yet another order
  (`graphAnns` has a single entry).
-/
namespace CCV.C12
open CCV CCV.Serde

/-- **Round trip.** Every well-formed context is recovered from its serialisation, exactly, with its
    tables listed in key order … -/
theorem roundtrip (c : Ctx) (h : WF c) : recover (toSer c) = .ok (canon c) :=
  recover_asSer.2 (h.of_deepEq (deepEq_canon c))

-- the hypothesis is satisfiable, the conclusion is what evaluation gives, and `canon` is not the
-- identity on the instance (the tables really are reordered)
example : WF exCtx := exCtx_wf
example : recover (toSer exCtx) = .ok (canon exCtx) := eq_ok_of_toOption (by decide +kernel)
example : canon exCtx ≠ exCtx := by decide +kernel
example : (canon exCtx).nodeNames = [((0,0), 5), ((1,0), 9), ((1,2), 5)] := by decide +kernel

/-- … which is deeply equal (`contexts_deep_equal`) to the original … -/
theorem canon_deepEq (c : Ctx) : DeepEq c (canon c) :=
  deepEq_canon c

-- `DeepEq` is not equality (it relates `exCtx` to a different value) and not trivial (changing one
-- name breaks it)
example : DeepEq exCtx exCtx' ∧ exCtx ≠ exCtx' := ⟨by constructor <;> decide +kernel, by decide +kernel⟩
example : ¬ DeepEq exCtx { exCtx with graphNames := [(1, 7), (0, 4)] } :=
  fun h => absurd h.graphNames (by decide +kernel)

/-- … and identical to it when the hash maps are listed in key order. -/
theorem roundtrip_sorted (c : Ctx) (h : WF c) (hs : TablesSorted c) : recover (toSer c) = .ok c := by
  rw [roundtrip c h, canon_of_sorted hs]

-- both hypotheses hold of `canon exCtx`; the sortedness hypothesis fails for `exCtx`, and so does
-- the conclusion
example : WF (canon exCtx) ∧ TablesSorted (canon exCtx) :=
  ⟨exCtx_wf.of_deepEq (deepEq_canon _), canon_sorted exCtx_wf⟩
example : ¬ TablesSorted exCtx := by unfold TablesSorted SortedBy; decide +kernel
example : recover (toSer exCtx) ≠ .ok exCtx := by
  rw [roundtrip exCtx exCtx_wf]; intro h; injection h with h; revert h; decide +kernel

/-- **Re-serialisation gives the identical value** (hence identical text). -/
theorem reserialize (c c' : Ctx) (h : WF c) (hr : recover (toSer c) = .ok c') : toSer c' = toSer c := by
  cases (roundtrip c h).symm.trans hr
  exact congrArg Ctx.asSer (canon_of_sorted (canon_sorted h))

example : toSer (canon exCtx) = toSer exCtx := by decide +kernel
example : encSer (toSer (canon exCtx)) = encSer (toSer exCtx) := congrArg encSer (by decide +kernel)
-- (the recovered context differs from the original although it serialises identically)
example : toSer (canon exCtx) = toSer exCtx ∧ canon exCtx ≠ exCtx := by decide +kernel

/-- **Canonical tables.** The serialised tables of a well-formed context are strictly increasing
    in their keys (sorted and duplicate-free) … -/
theorem toSer_sorted (c : Ctx) (h : WF c) :
    SortedBy ltNat (toSer c).graphNames ∧ SortedBy ltPair (toSer c).nodeNames ∧
    SortedBy ltNat (toSer c).graphAnns ∧ SortedBy ltPair (toSer c).nodeAnns :=
  canon_sorted h

example : (toSer exCtx).graphNames = [(0, 3), (1, 7)] ∧
    (toSer exCtx).nodeNames = [((0,0), 5), ((1,0), 9), ((1,2), 5)] ∧
    (toSer exCtx).graphAnns = [(1, [2,0])] ∧
    (toSer exCtx).nodeAnns = [((0,2), [1,1]), ((1,3), [4])] := by decide +kernel
-- `SortedBy` is violated by the unsorted listings and by a duplicate key
example : ¬ SortedBy ltNat exCtx.graphNames := by unfold SortedBy; decide +kernel
example : ¬ SortedBy ltPair exCtx.nodeAnns := by unfold SortedBy; decide +kernel
example : ¬ SortedBy ltNat [(0, 3), (0, 7)] := by unfold SortedBy; decide +kernel
-- without the unique-key part of `WF` the conclusion fails
example : ¬ SortedBy ltNat (toSer { exCtx with graphNames := [(1, 7), (1, 3)] }).graphNames := by
  unfold SortedBy; decide +kernel

/-- … so the serialisation does not depend on the iteration order of the hash maps: deeply equal
    well-formed contexts serialise to the same value. -/
theorem toSer_canonical (c d : Ctx) (hc : WF c) (hd : WF d) (h : DeepEq c d) : toSer c = toSer d := by
  have _ := hd -- not needed: unique keys of `d` follow from those of `c` and `h`
  obtain ⟨h1, h2, h3, h4, h5, h6, h7⟩ := h
  simp only [toSer, h1, h2, h3, sortBy_eq_of_perm strictTotal_ltNat h4 hc.gnKeys,
    sortBy_eq_of_perm strictTotal_ltPair h5 hc.nnKeys, sortBy_eq_of_perm strictTotal_ltNat h6 hc.gaKeys,
    sortBy_eq_of_perm strictTotal_ltPair h7 hc.naKeys]

example : WF exCtx' := exCtx'_wf
example : exCtx ≠ exCtx' ∧ toSer exCtx = toSer exCtx' := by decide +kernel
example : toSer exCtx ≠ exCtx.asSer := by decide +kernel
-- a context that is not deeply equal serialises differently
example : toSer exCtx ≠ toSer { exCtx with graphNames := [(1, 7), (0, 4)] } := by decide +kernel

/-- **Recovery never yields an ill-formed context** (whatever the input). -/
theorem recover_wf (s : SerCtx) (c : Ctx) (h : recover s = .ok c) : WF c :=
  (recover_ok h).1

-- the hypothesis is satisfiable, also for a listing that is not in key order …
example : isOk (recover (toSer exCtx)) = true := by decide +kernel
example : recover exCtx.asSer = .ok exCtx := eq_ok_of_toOption (by decide +kernel)
-- … and ill-formed inputs are rejected: forward node dependency (node 2 of graph 0 uses node 3),
example : isOk (recover { toSer exCtx with graphs :=
    [ ⟨true, [⟨1,[],[]⟩, ⟨1,[],[]⟩, ⟨2,[0,3],[]⟩], some 2⟩,
      ⟨true, [⟨1,[],[]⟩, ⟨1,[],[]⟩, ⟨5,[0,1],[0]⟩, ⟨4,[2,0],[]⟩], some 3⟩ ] }) = false := by decide +kernel
-- self dependency,
example : isOk (recover { toSer exCtx with graphs :=
    [ ⟨true, [⟨1,[],[]⟩, ⟨1,[],[]⟩, ⟨2,[0,2],[]⟩], some 2⟩,
      ⟨true, [⟨1,[],[]⟩, ⟨1,[],[]⟩, ⟨5,[0,1],[0]⟩, ⟨4,[2,0],[]⟩], some 3⟩ ] }) = false := by decide +kernel
-- forward graph dependency (graph 0 calls graph 1), dependency on the graph itself, on a graph
-- that does not exist, on a graph that is not finalized,
example : isOk (recover { toSer exCtx with graphs :=
    [ ⟨true, [⟨1,[],[]⟩, ⟨1,[],[]⟩, ⟨5,[0,1],[1]⟩], some 2⟩,
      ⟨true, [⟨1,[],[]⟩, ⟨1,[],[]⟩, ⟨5,[0,1],[0]⟩, ⟨4,[2,0],[]⟩], some 3⟩ ] }) = false := by decide +kernel
example : isOk (recover { toSer exCtx with graphs :=
    [ ⟨true, [⟨1,[],[]⟩, ⟨1,[],[]⟩, ⟨2,[0,1],[]⟩], some 2⟩,
      ⟨true, [⟨1,[],[]⟩, ⟨1,[],[]⟩, ⟨5,[0,1],[1]⟩, ⟨4,[2,0],[]⟩], some 3⟩ ] }) = false := by decide +kernel
example : isOk (recover { toSer exCtx with graphs :=
    [ ⟨true, [⟨1,[],[]⟩, ⟨1,[],[]⟩, ⟨2,[0,1],[]⟩], some 2⟩,
      ⟨true, [⟨1,[],[]⟩, ⟨1,[],[]⟩, ⟨5,[0,1],[7]⟩, ⟨4,[2,0],[]⟩], some 3⟩ ] }) = false := by decide +kernel
example : isOk (recover { toSer exCtx with finalized := false, graphs :=
    [ ⟨false, [⟨1,[],[]⟩, ⟨1,[],[]⟩, ⟨2,[0,1],[]⟩], some 2⟩,
      ⟨true, [⟨1,[],[]⟩, ⟨1,[],[]⟩, ⟨5,[0,1],[0]⟩, ⟨4,[2,0],[]⟩], some 3⟩ ] }) = false := by decide +kernel
-- output node out of range, finalized graph without output, main graph out of range, finalized
-- context without main graph,
example : isOk (recover { toSer exCtx with graphs :=
    [ ⟨true, [⟨1,[],[]⟩, ⟨1,[],[]⟩, ⟨2,[0,1],[]⟩], some 3⟩,
      ⟨true, [⟨1,[],[]⟩, ⟨1,[],[]⟩, ⟨5,[0,1],[0]⟩, ⟨4,[2,0],[]⟩], some 3⟩ ] }) = false := by decide +kernel
example : isOk (recover { toSer exCtx with graphs :=
    [ ⟨true, [⟨1,[],[]⟩, ⟨1,[],[]⟩, ⟨2,[0,1],[]⟩], none⟩,
      ⟨true, [⟨1,[],[]⟩, ⟨1,[],[]⟩, ⟨5,[0,1],[0]⟩, ⟨4,[2,0],[]⟩], some 3⟩ ] }) = false := by decide +kernel
example : isOk (recover { toSer exCtx with main := some 2 }) = false := by decide +kernel
example : isOk (recover { toSer exCtx with main := none }) = false := by decide +kernel
-- name / annotation ids out of range (the last three are the bounds checks of the annotation loops
-- of `recover_original_context`, graphs.rs after commit b14b34b),
example : isOk (recover { toSer exCtx with graphNames := [(0, 3), (2, 7)] }) = false := by decide +kernel
example : isOk (recover { toSer exCtx with nodeNames := [((0,3), 5)] }) = false := by decide +kernel
example : isOk (recover { toSer exCtx with graphAnns := [(2, [1])] }) = false := by decide +kernel
example : isOk (recover { toSer exCtx with nodeAnns := [((1,4), [1])] }) = false := by decide +kernel
example : isOk (recover { toSer exCtx with nodeAnns := [((2,0), [1])] }) = false := by decide +kernel
-- a graph named twice, a duplicate graph name, a duplicate node name within a graph (the same
-- node name in two graphs is fine: `exCtx` has it).
example : isOk (recover { toSer exCtx with graphNames := [(0, 3), (0, 7)] }) = false := by decide +kernel
example : isOk (recover { toSer exCtx with graphNames := [(0, 3), (1, 3)] }) = false := by decide +kernel
example : isOk (recover { toSer exCtx with nodeNames := [((1,0), 9), ((1,2), 9)] }) = false := by
  decide +kernel
example : isOk (recover { toSer exCtx with nodeNames := [((0,0), 9), ((1,2), 9)] }) = true := by
  decide +kernel

/-- what is recovered has exactly the serialised graphs, main graph and flag (so e.g. a forward or
    dangling dependency in `s` makes `recover s` an error, by `recover_wf`) -/
theorem recover_shape (s : SerCtx) (c : Ctx) (h : recover s = .ok c) :
    c.graphs = s.graphs ∧ c.main = s.main ∧ c.finalized = s.finalized :=
  (recover_ok h).2

example : ∃ c, recover (toSer exCtx) = .ok c ∧ c.graphs = exCtx.graphs ∧ c.main = some 1 ∧
    c.finalized = true := ⟨canon exCtx, roundtrip exCtx exCtx_wf, by decide +kernel⟩

/-- **Totality**: on every input `recover` returns a context or an error. The statement holds of any
    function into `Except`; it stands for the fact that the model `recover` is a total Lean function
    in which every index is guarded, as in `recover_original_context` (graphs.rs after commit
    b14b34b). The `expect()` on the inner payload (graphs.rs, data_values.rs) is at the text level,
    outside this model, and covered by the mutational correspondence stream. -/
theorem recover_total (s : SerCtx) : (∃ c, recover s = .ok c) ∨ (∃ e, recover s = .error e) := by
  cases recover s with
  | ok c => exact .inl ⟨c, rfl⟩
  | error e => exact .inr ⟨e, rfl⟩

-- both alternatives occur
example : ∃ c, recover (toSer exCtx) = .ok c := ⟨_, roundtrip exCtx exCtx_wf⟩
example : ∃ e, recover { toSer exCtx with graphAnns := [(2, [1])] } = .error e := ⟨_, by rfl⟩

end CCV.C12
