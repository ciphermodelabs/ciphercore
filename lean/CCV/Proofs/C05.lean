import CCV.Lemmas.Truncate
/-
  C05 — secure truncation stays within its documented error.

  Notation: `s` = bit width of the scalar type, `M = 2^s`; a sharing `(x0, x1, x2)` has the secret
  `reveal s (x0, x1, x2) = (x0 + x1 + x2) mod M`; `sint s v` is the two's complement reading;
  `ofInt s z = z mod M`.  `Int` division `/` by a positive number is the floor quotient.

  Guards.  The code itself only enforces `scale ≠ 0` and, on signed types, `scale ≤ i128::MAX`
  (type_inference.rs:806-818); `TruncateMPC2K` computes `1 << (s-2-k)` (signed) and `1 << (s-1-k)`
  (unsigned), so it is meaningful for `k ≤ s-2` resp. `k ≤ s-1` — the theorems assume exactly that.
  Documented input range (mpc_truncate.rs:137-138): signed `[-M/4, M/4)`, unsigned `[0, M/2)`.
-/
namespace CCV.C05
open CCV.Truncate

/-- **Unsigned, all widths, all `1 ≤ k ≤ s-1`, every input below `M/2`, every sharing, every mask
    tape** (only `r < 2^s`, which holds for every PRF output of the type): the revealed output is
    `⌊x/2^k⌋ + w` exactly (no reduction needed), where `w ∈ {0,1}` and `w = 1` iff the low `k` bits
    of `x` and of the mask `r` carry. -/
theorem trunc2k_unsigned (s k : Nat) (hk1 : 1 ≤ k) (hks : k + 1 ≤ s) (x0 x1 x2 : Nat) (m : Masks2K)
    (hr : m.r < 2 ^ s) (hx : reveal s (x0, x1, x2) < 2 ^ (s - 1)) :
    reveal s (trunc2k s k false x0 x1 x2 m).shares =
      reveal s (x0, x1, x2) / 2 ^ k
        + (if 2 ^ k ≤ reveal s (x0, x1, x2) % 2 ^ k + m.r % 2 ^ k then 1 else 0) := by
  have hsh : shifted s false x0 x1 x2 = reveal s (x0, x1, x2) := by
    simp [shifted, reveal]
  have h := reveal_trunc2k_shifted s k hk1 hks false x0 x1 x2 m hr (by rw [hsh]; exact hx)
  rw [hsh] at h
  generalize reveal s (x0, x1, x2) = x at *
  simp only [Bool.false_eq_true, if_false, sub_zero] at h
  have h2 := (ZMod.natCast_eq_natCast_iff' _ _ _).mp h
  have hlt : reveal s (trunc2k s k false x0 x1 x2 m).shares < 2 ^ s := Nat.mod_lt _ (Nat.two_pow_pos s)
  rw [Nat.mod_eq_of_lt hlt] at h2
  rw [h2]
  apply Nat.mod_eq_of_lt
  have h3 : x / 2 ^ k ≤ x := Nat.div_le_self _ _
  have h4 := two_pow_pred s (by omega)
  split <;> omega

/-- non-vacuity: u8, k = 3, x = 127 (top of the documented range) shared as (200, 100, 83),
    mask r = 0xB5 (low bits 5, carry with 7): result 15 + 1 -/
example : reveal 8 (trunc2k 8 3 false 200 100 83 ⟨0xB5, 17, 250, 3, 99, 201⟩).shares = 16 := by decide +kernel
/-- x = 0 and an exact multiple (x = 120 = 15·8) come out exact whatever the mask -/
example : reveal 8 (trunc2k 8 3 false 0 0 0 ⟨0xFF, 1, 2, 3, 4, 5⟩).shares = 0 := by decide +kernel
example : reveal 8 (trunc2k 8 3 false 120 0 0 ⟨0xFF, 1, 2, 3, 4, 5⟩).shares = 15 := by decide +kernel
/-- largest admissible k = s-1 on u8, x = 127: ⌊127/128⌋ = 0, +1 because 127 + 1 carries -/
example : reveal 8 (trunc2k 8 7 false 127 0 0 ⟨0x81, 1, 2, 3, 4, 5⟩).shares = 1 := by decide +kernel

/-- **Signed, all widths, all `1 ≤ k ≤ s-2`, every input in `[-M/4, M/4)`, every sharing, every
    mask tape**: the revealed output is the residue of `⌊x/2^k⌋ + w`, `w ∈ {0,1}`, with the same
    carry condition (`x % 2^k` is the non-negative remainder).  The protocol floors — it does not
    round toward zero like the plaintext operation. -/
theorem trunc2k_signed (s k : Nat) (hk1 : 1 ≤ k) (hks : k + 2 ≤ s) (x0 x1 x2 : Nat) (m : Masks2K)
    (hr : m.r < 2 ^ s)
    (hlo : -((2 ^ (s - 2) : Nat) : Int) ≤ sint s (reveal s (x0, x1, x2)))
    (hhi : sint s (reveal s (x0, x1, x2)) < ((2 ^ (s - 2) : Nat) : Int)) :
    reveal s (trunc2k s k true x0 x1 x2 m).shares =
      ofInt s (sint s (reveal s (x0, x1, x2)) / ((2 ^ k : Nat) : Int)
        + (if ((2 ^ k : Nat) : Int) ≤ sint s (reveal s (x0, x1, x2)) % ((2 ^ k : Nat) : Int) + ((m.r % 2 ^ k : Nat) : Int)
            then 1 else 0)) := by
  have hQ : 2 ^ (s - 1) = 2 * 2 ^ (s - 2) := by
    rw [← Nat.pow_succ', show (s - 2).succ = s - 1 by omega]
  have hM : 2 ^ s = 2 * 2 ^ (s - 1) := two_pow_pred s (by omega)
  have hS : 2 ^ (s - 2) = 2 ^ (s - 2 - k) * 2 ^ k := by
    rw [← Nat.pow_add, Nat.sub_add_cancel (by omega)]
  have hKpos : 0 < 2 ^ k := Nat.two_pow_pos k
  have hsh : shifted s true x0 x1 x2 = (reveal s (x0, x1, x2) + 2 ^ (s - 2)) % 2 ^ s := by
    simp only [shifted, reveal, addm, if_true]
    rw [Nat.add_assoc, Nat.mod_add_mod, Nat.mod_add_mod]
    congr 1; omega
  have hxs : reveal s (x0, x1, x2) < 2 ^ s := Nat.mod_lt _ (Nat.two_pow_pos s)
  generalize hxv : reveal s (x0, x1, x2) = xs at *
  -- `xs` and its signed reading agree modulo `2^s`, and `sint s xs + M/4` is already reduced
  have hX : ((shifted s true x0 x1 x2 : Nat) : Int) = sint s xs + ((2 ^ (s - 2) : Nat) : Int) := by
    rw [hsh, Int.natCast_mod, Nat.cast_add, ← Int.emod_add_emod, ← Int.bmod_emod (x := (xs : Int)),
      ← sint_eq_bmod s xs (by omega) hxs, Int.emod_add_emod, Int.emod_eq_of_lt (by omega) (by omega)]
  have hXlt : shifted s true x0 x1 x2 < 2 ^ (s - 1) := by omega
  have h := reveal_trunc2k_shifted s k hk1 (by omega) true x0 x1 x2 m hr hXlt
  generalize shifted s true x0 x1 x2 = X at *
  -- quotient and remainder of `x = X − S·2^k` are those of `X`, the quotient less `S`
  have hx : sint s xs = (X : Int) + -((2 ^ (s - 2 - k) : Nat) : Int) * ((2 ^ k : Nat) : Int) := by
    rw [hX, hS, Nat.cast_mul, Int.neg_mul, Int.add_neg_cancel_right]
  apply eq_ofInt_of_zmod
  refine h.trans ?_
  rw [hx, Int.add_mul_ediv_right _ _ (by omega), Int.add_mul_emod_self_right, ← Int.natCast_ediv,
    ← Int.natCast_mod]
  -- the carry condition read in `Nat`, then both sides in `ZMod (2^s)`
  simp only [← Nat.cast_add, Nat.cast_le, if_true]
  simp only [Int.cast_add, Int.cast_neg, Int.cast_natCast, Int.cast_ite, Int.cast_one, Int.cast_zero,
    Nat.cast_add, Nat.cast_ite, Nat.cast_one, Nat.cast_zero]
  ring

/-- non-vacuity: i8, k = 2. x = -32 (lower end of the documented range) shared as (200, 100, 180):
    ⌊-32/4⌋ = -8 = 248 exactly, since -32 is a multiple of 4 -/
example : reveal 8 (trunc2k 8 2 true 200 100 180 ⟨0xB7, 17, 250, 3, 99, 201⟩).shares = 248 := by decide +kernel
/-- x = -1 = 255: ⌊-1/4⌋ = -1 (plaintext would give 0); low bits 3 + mask low bits 1 carry → 0 -/
example : reveal 8 (trunc2k 8 2 true 255 0 0 ⟨0x81, 1, 2, 3, 4, 5⟩).shares = 0 := by decide +kernel
example : reveal 8 (trunc2k 8 2 true 255 0 0 ⟨0x80, 1, 2, 3, 4, 5⟩).shares = 255 := by decide +kernel
/-- x = 31 (upper end), largest k = s-2 = 6: ⌊31/64⌋ = 0, + 1 with mask low bits 33 -/
example : reveal 8 (trunc2k 8 6 true 31 0 0 ⟨0xE1, 1, 2, 3, 4, 5⟩).shares = 1 := by decide +kernel
example : reveal 8 (trunc2k 8 6 true 0 0 0 ⟨0xFF, 1, 2, 3, 4, 5⟩).shares = 0 := by decide +kernel

/-- **The property's statement for `2^k`, both signednesses at once**: for inputs in the documented
    range the revealed output is the residue of the exact floor quotient or of that quotient plus
    one, never anything else. -/
theorem trunc2k_floor_or_floor_plus_one (s k : Nat) (signed : Bool) (hk1 : 1 ≤ k)
    (hks : k + (if signed = true then 2 else 1) ≤ s) (x0 x1 x2 : Nat) (m : Masks2K) (hr : m.r < 2 ^ s)
    (hrange : if signed = true
      then -((2 ^ (s - 2) : Nat) : Int) ≤ sint s (reveal s (x0, x1, x2)) ∧
            sint s (reveal s (x0, x1, x2)) < ((2 ^ (s - 2) : Nat) : Int)
      else reveal s (x0, x1, x2) < 2 ^ (s - 1)) :
    reveal s (trunc2k s k signed x0 x1 x2 m).shares
        = ofInt s (toInt s signed (reveal s (x0, x1, x2)) / ((2 ^ k : Nat) : Int)) ∨
    reveal s (trunc2k s k signed x0 x1 x2 m).shares
        = ofInt s (toInt s signed (reveal s (x0, x1, x2)) / ((2 ^ k : Nat) : Int) + 1) := by
  cases signed
  · simp only [Bool.false_eq_true, if_false] at hks hrange
    have h := trunc2k_unsigned s k hk1 hks x0 x1 x2 m hr hrange
    have hlt : reveal s (trunc2k s k false x0 x1 x2 m).shares < 2 ^ s := Nat.mod_lt _ (Nat.two_pow_pos s)
    rw [← Nat.mod_eq_of_lt hlt, h]
    simp only [toInt, Bool.false_eq_true, if_false, ← Int.natCast_ediv, ← Nat.cast_succ, ofInt_natCast]
    split
    · exact .inr rfl
    · exact .inl rfl
  · simp only [if_true] at hks hrange
    have h := trunc2k_signed s k hk1 hks x0 x1 x2 m hr hrange.1 hrange.2
    simp only [toInt, if_true]
    split at h
    · right; exact h
    · left; rw [Int.add_zero] at h; exact h

/-- exact multiples of `2^k` are never rounded up (signed case; `w = 1` needs a non-zero remainder) -/
theorem trunc2k_signed_exact_multiple (s k : Nat) (hk1 : 1 ≤ k) (hks : k + 2 ≤ s) (x0 x1 x2 : Nat) (m : Masks2K)
    (hr : m.r < 2 ^ s)
    (hlo : -((2 ^ (s - 2) : Nat) : Int) ≤ sint s (reveal s (x0, x1, x2)))
    (hhi : sint s (reveal s (x0, x1, x2)) < ((2 ^ (s - 2) : Nat) : Int))
    (hmul : sint s (reveal s (x0, x1, x2)) % ((2 ^ k : Nat) : Int) = 0) :
    reveal s (trunc2k s k true x0 x1 x2 m).shares
      = ofInt s (sint s (reveal s (x0, x1, x2)) / ((2 ^ k : Nat) : Int)) := by
  rw [trunc2k_signed s k hk1 hks x0 x1 x2 m hr hlo hhi, hmul]
  have : m.r % 2 ^ k < 2 ^ k := Nat.mod_lt _ (Nat.two_pow_pos k)
  rw [if_neg (by omega), Int.add_zero]

/-- `k = 0` (scale 1): the sharing is returned unchanged -/
theorem trunc2k_zero (s : Nat) (signed : Bool) (x0 x1 x2 : Nat) (m : Masks2K) :
    (trunc2k s 0 signed x0 x1 x2 m).shares = (x0, x1, x2) := by
  simp [trunc2k, Out2K.shares]

/-- **What the protocol computes**: the revealed output is the residue of
    `tdiv a d + tdiv b d` where `a` is the signed reading of share 0 and `b` the signed reading of
    `(share 1 + share 2) mod M`; the re-masking value `r` cancels. -/
theorem truncGeneral_reveal (s d : Nat) (hs : 1 ≤ s) (hd : 2 ≤ d) (x0 x1 x2 r : Nat) (hx0 : x0 < 2 ^ s) :
    reveal s (truncGeneral s d x0 x1 x2 r) =
      ofInt s (Int.tdiv (sint s x0) (d : Int) + Int.tdiv (sint s ((x1 + x2) % 2 ^ s)) (d : Int)) := by
  have hM : 0 < 2 ^ s := Nat.two_pow_pos s
  have hb : (x1 + x2) % 2 ^ s < 2 ^ s := Nat.mod_lt _ hM
  simp only [truncGeneral, if_neg (show d ≠ 1 by omega), reveal, addm]
  apply eq_ofInt_of_zmod
  rw [truncPlain_signed s d x0 hs hx0 (by omega), truncPlain_signed s d _ hs hb (by omega)]
  push_cast [ZMod.natCast_mod, zmod_subm _ _ _ hM, zmod_ofInt]
  ring

/-- the three possible relations between the share-wise sum and the secret, and the **exact
    characterisation of the documented wrap-around event** in terms of the first share:
    with `x` the secret, `a` the first share (signed readings), the integer sum `a + b` differs
    from `x` iff `a ≤ x − M/2` or `a > x + M/2`.  (Counting the first shares `a ∈ [−M/2, M/2)` in
    these two intervals gives the documented probabilities `(x+1)/M` for `x ≥ 0` and `(|x|−1)/M`
    for `x < 0`; the count itself is not stated here.) -/
theorem truncGeneral_wrap_iff (s : Nat) (hs : 1 ≤ s) (x0 x1 x2 : Nat) (hx0 : x0 < 2 ^ s) :
    let a := sint s x0
    let b := sint s ((x1 + x2) % 2 ^ s)
    let x := sint s (reveal s (x0, x1, x2))
    (a + b = x ∨ a + b = x + ((2 ^ s : Nat) : Int) ∨ a + b = x - ((2 ^ s : Nat) : Int)) ∧
    (a + b ≠ x ↔ (a ≤ x - ((2 ^ (s - 1) : Nat) : Int) ∨ x + ((2 ^ (s - 1) : Nat) : Int) < a)) ∧
    (a + b = x ↔ (-((2 ^ (s - 1) : Nat) : Int) ≤ a + b ∧ a + b < ((2 ^ (s - 1) : Nat) : Int))) := by
  intro a b x
  have hM := two_pow_pred s hs
  have hpos := Nat.two_pow_pos s
  have hu : (x1 + x2) % 2 ^ s < 2 ^ s := Nat.mod_lt _ hpos
  have ha : _ ≤ a ∧ a < _ := sint_bounds s x0 hs hx0
  have hb : _ ≤ b ∧ b < _ := sint_bounds s _ hs hu
  -- all three readings are balanced residues, so `x` is the balanced residue of `a + b`
  have hx : x = Int.bmod (a + b) (2 ^ s) := by
    show sint s ((x0 + x1 + x2) % 2 ^ s) = Int.bmod (sint s x0 + sint s ((x1 + x2) % 2 ^ s)) (2 ^ s)
    rw [sint_eq_bmod s _ hs (Nat.mod_lt _ hpos), sint_eq_bmod s x0 hs hx0, sint_eq_bmod s _ hs hu,
      ← Int.add_bmod, Int.natCast_mod, Int.emod_bmod, Int.natCast_mod, Int.add_emod_bmod,
      Nat.add_assoc, Int.natCast_add x0]
  rw [hM, bmod_of_small _ _ (by omega) (by omega)] at hx
  rw [hM]
  clear_value a b x
  split at hx
  · omega
  · split at hx <;> omega

/-- **Error bound without wrap**: if the integer sum of the signed share readings does not leave
    `[−M/2, M/2)`, the revealed output is the plaintext quotient `tdiv x d` (rounding toward zero)
    plus an error `e ∈ {−1, 0, 1}`. -/
theorem truncGeneral_within_one (s d : Nat) (hs : 1 ≤ s) (hd : 2 ≤ d) (x0 x1 x2 r : Nat) (hx0 : x0 < 2 ^ s)
    (hnowrap : -((2 ^ (s - 1) : Nat) : Int) ≤ sint s x0 + sint s ((x1 + x2) % 2 ^ s) ∧
      sint s x0 + sint s ((x1 + x2) % 2 ^ s) < ((2 ^ (s - 1) : Nat) : Int)) :
    ∃ e : Int, -1 ≤ e ∧ e ≤ 1 ∧
      reveal s (truncGeneral s d x0 x1 x2 r)
        = ofInt s (Int.tdiv (sint s (reveal s (x0, x1, x2))) (d : Int) + e) := by
  obtain ⟨_, _, h3⟩ := truncGeneral_wrap_iff s hs x0 x1 x2 hx0
  have hsum := h3.mpr hnowrap
  have hb := tdiv_add_bound (sint s x0) (sint s ((x1 + x2) % 2 ^ s)) (d : Int) (by omega)
  -- the error is the defect of `tdiv` on the two addends
  refine ⟨_, hb.2, hb.1, ?_⟩
  rw [truncGeneral_reveal s d hs hd x0 x1 x2 r hx0, ← hsum]
  congr 1; omega

/-- non-vacuity (i8, d = 10): x = -77 shared as a = -100 (156), b = 23 → -10 + 2 = -8 = 248,
    plaintext tdiv(-77, 10) = -7: error -1 -/
example : reveal 8 (truncGeneral 8 10 156 20 3 77) = 248 := by decide +kernel
/-- exact multiple, no error: x = 50 = 20 + 30 -/
example : reveal 8 (truncGeneral 8 10 20 25 5 200) = 5 := by decide +kernel
/-- wrap: x = 100 shared as a = -128 (128), b = -28 (228): a + b = x − 256; result -12 − 2 = -14 -/
example : reveal 8 (truncGeneral 8 10 128 228 0 9) = 242 := by decide +kernel
example : sint 8 128 ≤ sint 8 (reveal 8 (128, 228, 0)) - 128 := by decide +kernel

theorem truncGeneral_one (s x0 x1 x2 r : Nat) : truncGeneral s 1 x0 x1 x2 r = (x0, x1, x2) := by
  simp [truncGeneral]

/-- plaintext `Truncate` on a signed type is `Int.tdiv` (round toward zero) of the two's complement
    readings — for every width, divisor and stored value, including the most negative one. -/
theorem plain_signed_is_tdiv (s d v : Nat) (hs : 1 ≤ s) (hv : v < 2 ^ s) (hd : 1 ≤ d) :
    sint s (truncPlain s true d v) = Int.tdiv (sint s v) (d : Int) := by
  obtain ⟨hlo, hhi⟩ := sint_bounds s v hs hv
  have hq := tdiv_between (sint s v) d (by omega)
  rw [truncPlain_signed s d v hs hv hd, sint_ofInt s _ hs (by omega) (by omega)]

theorem plain_unsigned_is_floor (s d v : Nat) : truncPlain s false d v = v / d :=
  truncPlain_unsigned s d v

/-- -7 / 2 = -3 toward zero (253 = -3), whereas the floor would be -4 -/
example : truncPlain 8 true 2 249 = 253 := by decide +kernel
/-- most negative value: -128 / 1 = -128, -128 / 128 = -1 -/
example : truncPlain 8 true 1 128 = 128 ∧ truncPlain 8 true 128 128 = 255 := by decide +kernel

/-- **Truncation of a public value is exact**: whenever the compiler accepts the node, the compiled
    operation on a public input is the plaintext function (identity for scale 1). -/
theorem public_is_plain (s : Nat) (signed : Bool) (scale x : Nat) (y : Nat)
    (h : truncPublic s signed scale x = .ok y) :
    y = if scale = 1 then x else truncPlain s signed scale x := by
  unfold truncPublic choose at h
  split_ifs at h with _ _ h2
  · -- a power of two: `scale = 2 ^ scale.log2`
    simp only [isPow2, Bool.and_eq_true, beq_iff_eq] at h2
    generalize scale.log2 = n at h h2
    obtain ⟨_, rfl⟩ := h2
    cases n with
    | zero => injection h with h; simp [h]
    | succ k =>
      injection h with h
      have := Nat.one_lt_two_pow (n := k + 1) (by omega)
      rw [if_neg (by omega), h]
  · injection h with h
    exact h.symm

example : truncPublic 8 true 4 249 = .ok 255 := by decide +kernel
example : truncPublic 8 false 10 200 = .error "rejected" := by decide +kernel

/-- link to what the driver executes: for a power of two the compiled private operation *is*
    `trunc2k`.  The code's only guard is `2^(k+1) ≤ i128::MAX = 2^127 − 1` on signed types, that is
    `k + 1 ≤ 126` (`hk127`). -/
theorem truncPrivate_pow2 (s k : Nat) (signed : Bool) (hk127 : signed = true → k + 1 ≤ 126)
    (x0 x1 x2 r r0 rmsb0 rtr0 y0 y2 : Nat) :
    truncPrivate s signed (2 ^ (k + 1)) x0 x1 x2 [r, r0, rmsb0, rtr0, y0, y2]
      = .ok (trunc2k s (k + 1) signed x0 x1 x2 ⟨r, r0, rmsb0, rtr0, y0, y2⟩).shares := by
  have h1 : signed = true → 2 ^ (k + 1) ≤ 2 ^ 127 - 1 := fun hs => by
    have := Nat.pow_le_pow_right (n := 2) (by omega) (hk127 hs)
    omega
  have hc : choose signed (2 ^ (k + 1)) = .pow2 (k + 1) := by
    simpa [choose, isPow2, Nat.log2_two_pow] using h1
  unfold truncPrivate
  rw [hc]

/-- link to what the driver executes: for a non-power-of-two scale (`≤ i128::MAX`) the compiled
    private operation *is* `truncGeneral` on a signed type; on an unsigned type the compiler
    rejects it (`TruncateMPC` supports signed types only). -/
theorem truncPrivate_general (s d : Nat) (signed : Bool) (hd0 : d ≠ 0) (hmax : d ≤ 2 ^ 127 - 1)
    (hnp : isPow2 d = false) (x0 x1 x2 r : Nat) :
    truncPrivate s signed d x0 x1 x2 [r]
      = if signed = true then .ok (truncGeneral s d x0 x1 x2 r) else .error "rejected" := by
  have hc : choose signed d = if signed = true then .general d else .reject := by
    unfold choose
    rw [if_neg hd0, if_neg (by omega), hnp]
    simp
  unfold truncPrivate
  rw [hc]
  cases signed <;> simp

example : truncPrivate 8 true 10 156 20 3 [77] = .ok (truncGeneral 8 10 156 20 3 77) := by decide +kernel

end CCV.C05
