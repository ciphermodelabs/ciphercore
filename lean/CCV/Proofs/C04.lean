import CCV.Model.PrfIds
/-
  C04 — every pseudo-random mask is fresh: PRF counters are pairwise distinct.
-/
namespace CCV.C04
open CCV.PrfIds

theorem renumberGraph_ivs : ∀ (c : Nat) (g : List (Option Nat)),
    (renumberGraph c g).2.filterMap id = (List.range' (c + 1) (g.filterMap id).length)
    ∧ (renumberGraph c g).1 = c + (g.filterMap id).length
  | c, [] => ⟨rfl, rfl⟩
  | c, none :: ns => renumberGraph_ivs c ns
  | c, some v :: ns => by
    have ih := renumberGraph_ivs (c + 1) ns
    refine ⟨?_, ?_⟩
    · show (c + 1) :: (renumberGraph (c + 1) ns).2.filterMap id
        = List.range' (c + 1) ((ns.filterMap id).length + 1)
      rw [List.range'_succ, ih.1]
    · show (renumberGraph (c + 1) ns).1 = c + ((ns.filterMap id).length + 1)
      rw [ih.2, Nat.add_assoc, Nat.add_comm 1]

/-- renumbering changes nothing but the counters: same length, PRF nodes stay PRF nodes in place -/
theorem renumberGraph_shape : ∀ (c : Nat) (g : List (Option Nat)),
    (renumberGraph c g).2.map Option.isSome = g.map Option.isSome
  | c, [] => rfl
  | c, none :: ns => congrArg (false :: ·) (renumberGraph_shape c ns)
  | c, some v :: ns => congrArg (true :: ·) (renumberGraph_shape (c + 1) ns)

theorem uniquify_ivs : ∀ (c : Nat) (gs : List (List (Option Nat))),
    ivs (uniquify c gs) = List.range' (c + 1) (ivs gs).length
  | c, [] => by simp [uniquify, ivs]
  | c, g :: gs => by
    have h := renumberGraph_ivs c g
    have ih := uniquify_ivs (renumberGraph c g).1 gs
    simp only [uniquify, ivs, List.flatMap_cons, List.length_append] at *
    rw [h.1, ih, h.2]
    have e : c + (List.filterMap id g).length + 1 = c + 1 + (List.filterMap id g).length := by omega
    rw [e, List.range'_append_1]

/-- **After `uniquify_prf_id` the PRF counters of a context are exactly 1, 2, …, n** (n = number of
    PRF nodes), for every context — in particular pairwise distinct. -/
theorem uniquify_exact (gs : List (List (Option Nat))) :
    ivs (uniquify 0 gs) = List.range' 1 (ivs gs).length := by
  simpa using uniquify_ivs 0 gs

theorem uniquify_nodup (gs : List (List (Option Nat))) : (ivs (uniquify 0 gs)).Nodup := by
  rw [uniquify_exact]; exact List.nodup_range'

theorem strictInc_lt : ∀ (l : List Nat) (a : Nat), strictInc (a :: l) = true → ∀ b ∈ l, a < b
  | [], _, _ => by simp
  | b :: rest, a, h => by
    simp only [strictInc, Bool.and_eq_true, decide_eq_true_eq] at h
    intro x hx
    simp only [List.mem_cons] at hx
    rcases hx with rfl | hx
    · exact h.1
    · exact Nat.lt_trans h.1 (strictInc_lt rest b h.2 x hx)

theorem strictInc_tail : ∀ (l : List Nat) (a : Nat), strictInc (a :: l) = true → strictInc l = true
  | [], _, _ => rfl
  | b :: rest, a, h => by
    simp only [strictInc, Bool.and_eq_true] at h; exact h.2

theorem strictInc_nodup : ∀ (l : List Nat), strictInc l = true → l.Nodup
  | [], _ => List.nodup_nil
  | a :: l, h => by
    refine List.nodup_cons.mpr ⟨?_, strictInc_nodup l (strictInc_tail l a h)⟩
    intro hmem
    exact Nat.lt_irrefl a (strictInc_lt l a h a hmem)

theorem nodupB_nodup : ∀ (l : List Nat), nodupB l = true → l.Nodup
  | [], _ => List.nodup_nil
  | a :: l, h => by
    simp only [nodupB, Bool.and_eq_true, Bool.not_eq_true', List.contains_eq_mem, decide_eq_false_iff_not] at h
    exact List.nodup_cons.mpr ⟨h.1, nodupB_nodup l h.2⟩

/-- non-vacuity: a context with two graphs, five PRF nodes all created with the placeholder 0 -/
example : ivs (uniquify 0 [[some 0, none, some 0], [none, some 0, some 0, some 0]]) = [1, 2, 3, 4, 5] := by
  decide +kernel
example : strictInc [1, 2, 5, 9] = true ∧ strictInc [1, 2, 2] = false := by decide +kernel

end CCV.C04
