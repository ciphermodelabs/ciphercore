import CCV.Lemmas.Compare
import CCV.Lemmas.CompareArr
import Batteries.Lean.Except
/-
  C16 — comparison operations equal integer comparison.
  Model: CCV/Model/Compare.lean (`compare`, `minBits`, `maxBits` are what the driver executes).
  Bit strings are `List Bool`, index 0 least significant; `toBits w n` = the `w` low bits of `n`;
  `toInt w n` = the two's-complement integer of the `w`-bit pattern `n`;
  `Op.spec` = the six relations on integers.

  Array layer: model CCV/Model/CompareArr.lean (`cmpArr`, `minArr`, `maxArr` are what
  the driver executes for the `arr` requests).  A bit array of
  shape `r ++ [w]` is the row-major list of its bits; `strAt r w xs K` is the bit string stored at
  multi-index `K` (bit `k` = entry `K ++ [k]`); `bcIdx r J` is the NumPy broadcast position of the
  result index `J` in an operand of leading shape `r` (last `r.length` digits of `J`, digit 0 on
  axes of size 1); `TI.broadcastShapes` is the model of `broadcast_shapes` (broadcast.rs) that type
  inference uses; `flat J rr` is the row-major position of `J`.
-/
namespace CCV.C16
open CCV CCV.Compare

/-- `join` is associative (all 64 states). -/
theorem join_assoc (x y z : St) : join (join x y) z = join x (join y z) :=
  Compare.join_assoc x y z

example : join (join ⟨true, true⟩ ⟨false, false⟩) ⟨true, true⟩ = ⟨false, false⟩ := by decide

/-- The shrink tree equals the fold, for every width ≥ 1.  `build` (the odd/even `shrink`
    levels of `build_comparison_graph`, remainders collected and joined low → high) returns exactly
    the left fold of `join` over the per-position states, lowest position first. -/
theorem shrinkTree_eq_fold (x : St) (xs : List St) : build (x :: xs) = some (xs.foldl join x) := by
  rw [build_eq_foldJ, foldl_join_eq]; rfl

/-- non-vacuity: width 7 (odd, then 3 odd, then 1): three remainders -/
example : build ((toBits 7 77).zipWith fromAB (toBits 7 93)) = some ⟨false, false⟩ := by decide

/-- Unsigned comparisons on bit strings of any equal length ≥ 1: each of the six operations
    returns the comparison of the encoded naturals. -/
theorem compare_unsigned_bits (op : Op) (a b : List Bool) (h : a.length = b.length) (hne : a ≠ []) :
    compare op false a b = some (op.spec (ofBits a) (ofBits b)) :=
  compare_unsigned_eq op a b h hne

/-- Signed comparisons on bit strings of any equal length ≥ 2 (the guard the code enforces in
    `validate_signed_arguments`): the result is the comparison of the two's-complement values. -/
theorem compare_signed_bits (op : Op) (a b : List Bool) (h : a.length = b.length) (h2 : 2 ≤ a.length) :
    compare op true a b = some (op.spec (sval a) (sval b)) :=
  compare_signed_eq op a b h h2

/-- the code rejects signed comparison of strings shorter than 2 bits -/
theorem compare_signed_guard (op : Op) (a b : List Bool) (h : a.length < 2) :
    compare op true a b = none := by
  simp [Compare.compare, h]

/-- Unsigned, all widths `w ≥ 1`, all `a b < 2^w`: the operation applied to the `w`-bit
    encodings returns exactly `a op b`. -/
theorem compare_unsigned (op : Op) (w a b : Nat) (hw : 1 ≤ w) (ha : a < 2 ^ w) (hb : b < 2 ^ w) :
    compare op false (toBits w a) (toBits w b) = some (op.spec a b) := by
  rw [compare_unsigned_bits op _ _ (by simp [toBits_length]) (toBits_ne_nil w a hw), ofBits_toBits w a ha,
    ofBits_toBits w b hb]

example : compare .lt false (toBits 5 15) (toBits 5 20) = some true := by decide
example : compare .ge false (toBits 1 0) (toBits 1 1) = some false := by decide

/-- Signed, all widths `w ≥ 2`, all `a b < 2^w`: the operation returns the comparison of the
    two's-complement integers denoted by the `w`-bit patterns. -/
theorem compare_signed (op : Op) (w a b : Nat) (hw : 2 ≤ w) (ha : a < 2 ^ w) (hb : b < 2 ^ w) :
    compare op true (toBits w a) (toBits w b) = some (op.spec (toInt w a) (toInt w b)) := by
  rw [compare_signed_bits op _ _ (by simp [toBits_length]) (by simp [toBits_length]; exact hw),
    sval_toBits w a (by omega) ha, sval_toBits w b (by omega) hb]

/-- 3 (011) > −4 (100) as 3-bit signed numbers, although 3 < 4 unsigned -/
example : compare .gt true (toBits 3 3) (toBits 3 4) = some true ∧ toInt 3 4 = -4
    ∧ compare .gt false (toBits 3 3) (toBits 3 4) = some false := by decide

/-- Min / Max on bit strings (`Mux(GreaterThan(a,b), …)`): the result is the operand whose
    encoded value is smaller / larger (`a` when equal — then both are the same string). -/
theorem min_unsigned_bits (a b : List Bool) (h : a.length = b.length) (hne : a ≠ []) :
    minBits false a b = some (if ofBits b < ofBits a then b else a) := by
  simp only [minBits, compare_unsigned_bits .gt a b h hne, Op.spec, Option.map_some, zipWith_mux _ b a h.symm,
    decide_eq_true_eq, Int.ofNat_lt]

theorem max_unsigned_bits (a b : List Bool) (h : a.length = b.length) (hne : a ≠ []) :
    maxBits false a b = some (if ofBits b < ofBits a then a else b) := by
  simp only [maxBits, compare_unsigned_bits .gt a b h hne, Op.spec, Option.map_some, zipWith_mux _ a b h,
    decide_eq_true_eq, Int.ofNat_lt]

theorem min_signed_bits (a b : List Bool) (h : a.length = b.length) (h2 : 2 ≤ a.length) :
    minBits true a b = some (if sval b < sval a then b else a) := by
  simp only [minBits, compare_signed_bits .gt a b h h2, Op.spec, Option.map_some, zipWith_mux _ b a h.symm,
    decide_eq_true_eq]

theorem max_signed_bits (a b : List Bool) (h : a.length = b.length) (h2 : 2 ≤ a.length) :
    maxBits true a b = some (if sval b < sval a then a else b) := by
  simp only [maxBits, compare_signed_bits .gt a b h h2, Op.spec, Option.map_some, zipWith_mux _ a b h,
    decide_eq_true_eq]

/-- Min / Max, unsigned, all widths `w ≥ 1`: the result encodes `min a b` / `max a b`. -/
theorem min_unsigned (w a b : Nat) (hw : 1 ≤ w) (ha : a < 2 ^ w) (hb : b < 2 ^ w) :
    minBits false (toBits w a) (toBits w b) = some (toBits w (min a b)) := by
  rw [min_unsigned_bits _ _ (by simp [toBits_length]) (toBits_ne_nil w a hw), ofBits_toBits w a ha,
    ofBits_toBits w b hb]
  by_cases hc : b < a
  · simp [hc, Nat.min_eq_right (Nat.le_of_lt hc)]
  · simp [hc, Nat.min_eq_left (Nat.le_of_not_lt hc)]

theorem max_unsigned (w a b : Nat) (hw : 1 ≤ w) (ha : a < 2 ^ w) (hb : b < 2 ^ w) :
    maxBits false (toBits w a) (toBits w b) = some (toBits w (max a b)) := by
  rw [max_unsigned_bits _ _ (by simp [toBits_length]) (toBits_ne_nil w a hw), ofBits_toBits w a ha,
    ofBits_toBits w b hb]
  by_cases hc : b < a
  · simp [hc, Nat.max_eq_left (Nat.le_of_lt hc)]
  · simp [hc, Nat.max_eq_right (Nat.le_of_not_lt hc)]

/-- Min / Max, signed, all widths `w ≥ 2`: the result is the encoding of the operand with the
    smaller / larger two's-complement value. -/
theorem min_signed (w a b : Nat) (hw : 2 ≤ w) (ha : a < 2 ^ w) (hb : b < 2 ^ w) :
    minBits true (toBits w a) (toBits w b) = some (toBits w (if toInt w b < toInt w a then b else a)) := by
  rw [min_signed_bits _ _ (by simp [toBits_length]) (by simp [toBits_length]; exact hw),
    sval_toBits w a (by omega) ha, sval_toBits w b (by omega) hb]
  split <;> rfl

theorem max_signed (w a b : Nat) (hw : 2 ≤ w) (ha : a < 2 ^ w) (hb : b < 2 ^ w) :
    maxBits true (toBits w a) (toBits w b) = some (toBits w (if toInt w b < toInt w a then a else b)) := by
  rw [max_signed_bits _ _ (by simp [toBits_length]) (by simp [toBits_length]; exact hw),
    sval_toBits w a (by omega) ha, sval_toBits w b (by omega) hb]
  split <;> rfl

/-- min(3, −4) = −4 (pattern 4), max unsigned (3, 4) = 4 on 3 bits -/
example : (minBits true (toBits 3 3) (toBits 3 4)).map ofBits = some 4
    ∧ (maxBits false (toBits 3 3) (toBits 3 4)).map ofBits = some 4
    ∧ (maxBits true (toBits 3 3) (toBits 3 4)).map ofBits = some 3 := by decide

open CCV.Shape CCV.CompareArr

/-- `expand_dims(x, 0..k)` (what `expand_to_same_dims` calls) prepends `k` axes of size 1. -/
theorem expand_dims_front (k : Nat) (s : List Nat) :
    expandDims s (List.range k) = List.replicate k 1 ++ s := expandDims_range k s

example : expandToSameDims [2, 3, 64] [3, 64] = ([2, 3, 64], [1, 3, 64]) := by decide +kernel

/-- `pull_out_bits` moves the bit axis first: the shape becomes `w :: r` and entry `(k, J)` of the
    result is entry `(J, k)` of the operand, for every shape (all dimensions positive). -/
theorem pull_out_bits_spec (r : List Nat) (w : Nat) (xs : List Nat) (hlen : xs.length = prod (r ++ [w]))
    (hpos : pos (r ++ [w])) :
    (pullOutBits (r ++ [w]) xs).1 = w :: r ∧
      ∀ J k, validIdx J r → k < w →
        (pullOutBits (r ++ [w]) xs).2.getD (flat (k :: J) (w :: r)) 0
          = xs.getD (flat (J ++ [k]) (r ++ [w])) 0 :=
  ⟨pullOutBits_shape r w xs, fun J k hJ hk => pullOutBits_getD r w xs hlen hpos J hJ k hk⟩

example : pullOutBits [2, 3] [1, 0, 1, 0, 1, 1] = ([3, 2], [1, 0, 0, 1, 1, 1]) := by decide +kernel

/-- `put_in_bits` (the inverse movement; used by the sibling bit operations, not by the comparison
    graphs) moves the first axis last: shape `r ++ [w]`, entry `(J, k)` of the result is entry
    `(k, J)` of the operand. -/
theorem put_in_bits_spec (r : List Nat) (w : Nat) (xs : List Nat) (hlen : xs.length = prod (w :: r))
    (hpos : pos (w :: r)) :
    (putInBits (w :: r) xs).1 = r ++ [w] ∧
      ∀ J k, validIdx J r → k < w →
        (putInBits (w :: r) xs).2.getD (flat (J ++ [k]) (r ++ [w])) 0
          = xs.getD (flat (k :: J) (w :: r)) 0 :=
  ⟨putInBits_shape r w xs, fun J k hJ hk => putInBits_getD r w xs hlen hpos J hJ k hk⟩

/-- `put_in_bits ∘ pull_out_bits` gives back the shape and every entry of the operand. -/
theorem put_in_bits_pull_out_bits (r : List Nat) (w : Nat) (xs : List Nat)
    (hlen : xs.length = prod (r ++ [w])) (hpos : pos (r ++ [w])) :
    (putInBits (pullOutBits (r ++ [w]) xs).1 (pullOutBits (r ++ [w]) xs).2).1 = r ++ [w] ∧
      ∀ J k, validIdx J r → k < w →
        (putInBits (pullOutBits (r ++ [w]) xs).1 (pullOutBits (r ++ [w]) xs).2).2.getD
            (flat (J ++ [k]) (r ++ [w])) 0
          = xs.getD (flat (J ++ [k]) (r ++ [w])) 0 := by
  have hl : (pullOutBits (r ++ [w]) xs).2.length = prod (w :: r) := by
    rw [pullOutBits_length, hlen, prod_append]
    simp [prod, Nat.mul_comm]
  have hp : pos (w :: r) := by
    intro d hd
    apply hpos d
    rcases List.mem_cons.mp hd with h | h
    · simp [h]
    · exact List.mem_append_left _ h
  rw [pullOutBits_shape]
  refine ⟨putInBits_shape r w _, fun J k hJ hk => ?_⟩
  rw [putInBits_getD r w _ hl hp J hJ k hk]
  exact pullOutBits_getD r w xs hlen hpos J hJ k hk

example : putInBits [3, 2] [1, 0, 0, 1, 1, 1] = ([2, 3], [1, 0, 1, 0, 1, 1]) := by decide +kernel

/-- Result shape of the six comparisons on operands of shapes `ra ++ [w]`, `rb ++ [w]`
    (`w ≥ 1`, `w ≥ 2` when signed, positive dimensions): if the shapes without the bit axis broadcast
    to `rr`, the operation is accepted and the result has shape `rr` (`[]` = scalar) with `prod rr`
    entries, each 0 or 1; if they do not broadcast the operation is rejected. -/
theorem cmp_array_shape (op : Op) (signed : Bool) (ra rb : List Nat) (w : Nat) (xs ys : List Nat)
    (hw : 0 < w) (hs : signed = true → 2 ≤ w) (hpa : pos ra) (hpb : pos rb)
    (hla : xs.length = prod (ra ++ [w])) (hlb : ys.length = prod (rb ++ [w])) :
    (∀ rr, TI.broadcastShapes ra rb = .ok rr →
      ∃ out, cmpArr op signed (ra ++ [w]) xs (rb ++ [w]) ys = .ok (rr, out) ∧ out.length = prod rr ∧
        ∀ x ∈ out, x ≤ 1) ∧
    (∀ e, TI.broadcastShapes ra rb = .error e →
      ∃ e', cmpArr op signed (ra ++ [w]) xs (rb ++ [w]) ys = .error e') := by
  refine ⟨fun rr h => ?_, fun e h => ⟨e, by rw [cmpArr_eq op signed ra rb w xs ys hw hs hpa hpb, h]⟩⟩
  obtain ⟨out, h1, h2, _, h4⟩ := cmpArr_spec op signed ra rb rr w xs ys hw hs hpa hpb hla hlb h
  exact ⟨out, h1, h2, h4⟩

/-- shapes `[2,1,3]` and `[2,3]` (bit axis last, `w = 3`): result shape `[2,2]`; `[2,3]`, `[3,3]`: rejected -/
example : TI.broadcastShapes [2, 1] [2] = .ok [2, 2] ∧
    cmpArr .lt false [2, 1, 3] [1, 0, 1, 0, 1, 1] [2, 3] [0, 1, 1, 1, 1, 1] = .ok ([2, 2], [1, 1, 0, 1]) ∧
    (∃ e, cmpArr .lt false [2, 3] [1, 0, 1, 0, 1, 1] [3, 3] [0, 1, 1, 1, 1, 1, 0, 0, 0] = .error e) :=
  ⟨by decide +kernel, by decide +kernel, ⟨_, rfl⟩⟩

/-- Element-wise statement, any shapes that broadcast, any width: for every multi-index `J` of the
    result, the output entry at `J` is the single-pair operation `compare` (the subject of the
    theorems above) applied to the bit strings found at the broadcast positions of `J` in the two
    operands. -/
theorem cmp_array_elem (op : Op) (signed : Bool) (ra rb rr : List Nat) (w : Nat) (xs ys : List Nat)
    (hw : 0 < w) (hs : signed = true → 2 ≤ w) (hpa : pos ra) (hpb : pos rb)
    (hla : xs.length = prod (ra ++ [w])) (hlb : ys.length = prod (rb ++ [w]))
    (hbc : TI.broadcastShapes ra rb = .ok rr) :
    ∃ out, cmpArr op signed (ra ++ [w]) xs (rb ++ [w]) ys = .ok (rr, out) ∧
      ∀ J, validIdx J rr → ∃ c,
        compare op signed (strAt ra w xs (bcIdx ra J)) (strAt rb w ys (bcIdx rb J)) = some c ∧
        out.getD (flat J rr) 0 = if c then 1 else 0 := by
  obtain ⟨out, h1, _, h3, _⟩ := cmpArr_spec op signed ra rb rr w xs ys hw hs hpa hpb hla hlb hbc
  refine ⟨out, h1, fun J hJ => ?_⟩
  obtain ⟨c, hc⟩ := compare_some op signed (strAt ra w xs (bcIdx ra J)) (strAt rb w ys (bcIdx rb J))
    (by rw [strAt_length, strAt_length]) (by rw [strAt_length]; exact hw) (by rw [strAt_length]; exact hs)
  refine ⟨c, hc, ?_⟩
  rw [h3 J hJ, hc]
  cases c <;> rfl

/-- Unsigned comparisons on whole arrays: entry `J` of the result is 1 iff the naturals encoded by
    the operand strings at the broadcast positions of `J` are in the relation. -/
theorem cmp_array_unsigned (op : Op) (ra rb rr : List Nat) (w : Nat) (xs ys : List Nat)
    (hw : 0 < w) (hpa : pos ra) (hpb : pos rb)
    (hla : xs.length = prod (ra ++ [w])) (hlb : ys.length = prod (rb ++ [w]))
    (hbc : TI.broadcastShapes ra rb = .ok rr) :
    ∃ out, cmpArr op false (ra ++ [w]) xs (rb ++ [w]) ys = .ok (rr, out) ∧
      ∀ J, validIdx J rr → out.getD (flat J rr) 0 =
        if op.spec (ofBits (strAt ra w xs (bcIdx ra J))) (ofBits (strAt rb w ys (bcIdx rb J))) then 1 else 0 := by
  obtain ⟨out, h1, h2⟩ := cmp_array_elem op false ra rb rr w xs ys hw (by simp) hpa hpb hla hlb hbc
  refine ⟨out, h1, fun J hJ => ?_⟩
  obtain ⟨c, hc, ho⟩ := h2 J hJ
  have hne := strAt_ne_nil ra xs (bcIdx ra J) hw
  rw [compare_unsigned_bits op _ _ (by rw [strAt_length, strAt_length]) hne] at hc
  injection hc with hc
  rw [ho, hc]

/-- Signed comparisons on whole arrays (`w ≥ 2`): entry `J` is 1 iff the two's-complement values of
    the operand strings at the broadcast positions of `J` are in the relation. -/
theorem cmp_array_signed (op : Op) (ra rb rr : List Nat) (w : Nat) (xs ys : List Nat)
    (hw : 2 ≤ w) (hpa : pos ra) (hpb : pos rb)
    (hla : xs.length = prod (ra ++ [w])) (hlb : ys.length = prod (rb ++ [w]))
    (hbc : TI.broadcastShapes ra rb = .ok rr) :
    ∃ out, cmpArr op true (ra ++ [w]) xs (rb ++ [w]) ys = .ok (rr, out) ∧
      ∀ J, validIdx J rr → out.getD (flat J rr) 0 =
        if op.spec (sval (strAt ra w xs (bcIdx ra J))) (sval (strAt rb w ys (bcIdx rb J))) then 1 else 0 := by
  obtain ⟨out, h1, h2⟩ := cmp_array_elem op true ra rb rr w xs ys (by omega) (fun _ => hw) hpa hpb hla hlb hbc
  refine ⟨out, h1, fun J hJ => ?_⟩
  obtain ⟨c, hc, ho⟩ := h2 J hJ
  rw [compare_signed_bits op _ _ (by rw [strAt_length, strAt_length]) (by rw [strAt_length]; exact hw)] at hc
  injection hc with hc
  rw [ho, hc]

/-- `[2,1,3] × [2,3]`, signed `<`: a = (−3, −2) (patterns 5, 6), b = (−2, −1) (patterns 6, 7);
    result `[[−3<−2, −3<−1], [−2<−2, −2<−1]]`; the operand positions of result index `[1,0]` -/
example : cmpArr .lt true [2, 1, 3] [1, 0, 1, 0, 1, 1] [2, 3] [0, 1, 1, 1, 1, 1] = .ok ([2, 2], [1, 1, 0, 1]) ∧
    validIdx [1, 0] [2, 2] ∧ bcIdx [2, 1] [1, 0] = [1, 0] ∧ bcIdx [2] [1, 0] = [0] ∧
    sval (strAt [2, 1] 3 [1, 0, 1, 0, 1, 1] [1, 0]) = -2 ∧ sval (strAt [2] 3 [0, 1, 1, 1, 1, 1] [0]) = -2 :=
  ⟨by decide +kernel, by simp [validIdx], by decide +kernel, by decide +kernel, by decide +kernel, by decide +kernel⟩

/-- Min / Max on whole arrays (`normalize_cmp`, then the three broadcasting operations of `Mux`):
    accepted with shape `rr ++ [w]`, and the output bit string at every result index `J` is the
    single-pair `minBits` / `maxBits` of the operand strings at the broadcast positions of `J`
    (operands are bit arrays: entries 0 or 1). -/
theorem min_array_elem (signed : Bool) (ra rb rr : List Nat) (w : Nat) (xs ys : List Nat)
    (hw : 0 < w) (hs : signed = true → 2 ≤ w) (hpa : pos ra) (hpb : pos rb)
    (hla : xs.length = prod (ra ++ [w])) (hlb : ys.length = prod (rb ++ [w]))
    (hxa : ∀ x ∈ xs, x ≤ 1) (hxb : ∀ x ∈ ys, x ≤ 1)
    (hbc : TI.broadcastShapes ra rb = .ok rr) :
    ∃ out, minArr signed (ra ++ [w]) xs (rb ++ [w]) ys = .ok (rr ++ [w], out) ∧
      out.length = prod (rr ++ [w]) ∧
      ∀ J, validIdx J rr →
        minBits signed (strAt ra w xs (bcIdx ra J)) (strAt rb w ys (bcIdx rb J)) = some (strAt rr w out J) := by
  obtain ⟨c, out, hc, ho, hol, hoe⟩ := cmpMux_spec signed ra rb rr w xs ys hw hs hpa hpb hla hlb hbc
    rb ra ys xs hpb hpa hbc hxb hxa
  exact ⟨out, by simp only [minArr, hc, normalizeCmp, ho], hol, hoe⟩

theorem max_array_elem (signed : Bool) (ra rb rr : List Nat) (w : Nat) (xs ys : List Nat)
    (hw : 0 < w) (hs : signed = true → 2 ≤ w) (hpa : pos ra) (hpb : pos rb)
    (hla : xs.length = prod (ra ++ [w])) (hlb : ys.length = prod (rb ++ [w]))
    (hxa : ∀ x ∈ xs, x ≤ 1) (hxb : ∀ x ∈ ys, x ≤ 1)
    (hbc : TI.broadcastShapes ra rb = .ok rr) :
    ∃ out, maxArr signed (ra ++ [w]) xs (rb ++ [w]) ys = .ok (rr ++ [w], out) ∧
      out.length = prod (rr ++ [w]) ∧
      ∀ J, validIdx J rr →
        maxBits signed (strAt ra w xs (bcIdx ra J)) (strAt rb w ys (bcIdx rb J)) = some (strAt rr w out J) := by
  obtain ⟨c, out, hc, ho, hol, hoe⟩ := cmpMux_spec signed ra rb rr w xs ys hw hs hpa hpb hla hlb hbc
    ra rb xs ys hpa hpb (by rw [TI.broadcastShapes_comm]; exact hbc) hxa hxb
  exact ⟨out, by simp only [maxArr, hc, normalizeCmp, ho], hol, hoe⟩

/-- Min / Max on whole arrays, unsigned: the output string at `J` is the operand string (at the
    broadcast position of `J`) with the smaller / larger encoded natural. -/
theorem min_max_array_unsigned (ra rb rr : List Nat) (w : Nat) (xs ys : List Nat)
    (hw : 0 < w) (hpa : pos ra) (hpb : pos rb)
    (hla : xs.length = prod (ra ++ [w])) (hlb : ys.length = prod (rb ++ [w]))
    (hxa : ∀ x ∈ xs, x ≤ 1) (hxb : ∀ x ∈ ys, x ≤ 1)
    (hbc : TI.broadcastShapes ra rb = .ok rr) :
    ∃ omin omax, minArr false (ra ++ [w]) xs (rb ++ [w]) ys = .ok (rr ++ [w], omin) ∧
      maxArr false (ra ++ [w]) xs (rb ++ [w]) ys = .ok (rr ++ [w], omax) ∧
      ∀ J, validIdx J rr →
        let A := strAt ra w xs (bcIdx ra J)
        let B := strAt rb w ys (bcIdx rb J)
        strAt rr w omin J = (if ofBits B < ofBits A then B else A) ∧
        strAt rr w omax J = (if ofBits B < ofBits A then A else B) := by
  obtain ⟨omin, h1, _, h2⟩ := min_array_elem false ra rb rr w xs ys hw (by simp) hpa hpb hla hlb hxa hxb hbc
  obtain ⟨omax, h3, _, h4⟩ := max_array_elem false ra rb rr w xs ys hw (by simp) hpa hpb hla hlb hxa hxb hbc
  refine ⟨omin, omax, h1, h3, fun J hJ => ?_⟩
  have hne := strAt_ne_nil ra xs (bcIdx ra J) hw
  have hl : (strAt ra w xs (bcIdx ra J)).length = (strAt rb w ys (bcIdx rb J)).length := by
    rw [strAt_length, strAt_length]
  exact ⟨Option.some.inj ((h2 J hJ).symm.trans (min_unsigned_bits _ _ hl hne)),
    Option.some.inj ((h4 J hJ).symm.trans (max_unsigned_bits _ _ hl hne))⟩

/-- Min / Max on whole arrays, signed (`w ≥ 2`): the operand string with the smaller / larger
    two's-complement value. -/
theorem min_max_array_signed (ra rb rr : List Nat) (w : Nat) (xs ys : List Nat)
    (hw : 2 ≤ w) (hpa : pos ra) (hpb : pos rb)
    (hla : xs.length = prod (ra ++ [w])) (hlb : ys.length = prod (rb ++ [w]))
    (hxa : ∀ x ∈ xs, x ≤ 1) (hxb : ∀ x ∈ ys, x ≤ 1)
    (hbc : TI.broadcastShapes ra rb = .ok rr) :
    ∃ omin omax, minArr true (ra ++ [w]) xs (rb ++ [w]) ys = .ok (rr ++ [w], omin) ∧
      maxArr true (ra ++ [w]) xs (rb ++ [w]) ys = .ok (rr ++ [w], omax) ∧
      ∀ J, validIdx J rr →
        let A := strAt ra w xs (bcIdx ra J)
        let B := strAt rb w ys (bcIdx rb J)
        strAt rr w omin J = (if sval B < sval A then B else A) ∧
        strAt rr w omax J = (if sval B < sval A then A else B) := by
  obtain ⟨omin, h1, _, h2⟩ := min_array_elem true ra rb rr w xs ys (by omega) (fun _ => hw) hpa hpb hla hlb hxa hxb hbc
  obtain ⟨omax, h3, _, h4⟩ := max_array_elem true ra rb rr w xs ys (by omega) (fun _ => hw) hpa hpb hla hlb hxa hxb hbc
  refine ⟨omin, omax, h1, h3, fun J hJ => ?_⟩
  have hl : (strAt ra w xs (bcIdx ra J)).length = (strAt rb w ys (bcIdx rb J)).length := by
    rw [strAt_length, strAt_length]
  have h2' : 2 ≤ (strAt ra w xs (bcIdx ra J)).length := by rw [strAt_length]; exact hw
  exact ⟨Option.some.inj ((h2 J hJ).symm.trans (min_signed_bits _ _ hl h2')),
    Option.some.inj ((h4 J hJ).symm.trans (max_signed_bits _ _ hl h2'))⟩

/-- `[2,1,3] × [2,3]`: min / max of a = (5, 6) against b = (6, 7) unsigned, shape `[2,2,3]`;
    signed the same patterns are a = (−3, −2), b = (−2, −1) -/
example : minArr false [2, 1, 3] [1, 0, 1, 0, 1, 1] [2, 3] [0, 1, 1, 1, 1, 1]
      = .ok ([2, 2, 3], [1, 0, 1, 1, 0, 1, 0, 1, 1, 0, 1, 1]) ∧
    maxArr true [2, 1, 3] [1, 0, 1, 0, 1, 1] [2, 3] [0, 1, 1, 1, 1, 1]
      = .ok ([2, 2, 3], [0, 1, 1, 1, 1, 1, 0, 1, 1, 1, 1, 1]) ∧
    strAt [2, 2] 3 [1, 0, 1, 1, 0, 1, 0, 1, 1, 0, 1, 1] [1, 0] = [false, true, true] := by decide +kernel

end CCV.C16
