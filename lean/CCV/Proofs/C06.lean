import CCV.Lemmas.OptimizerEval
import CCV.Lemmas.OptimizerMetaValue
/-
  C06 — graph optimisation preserves meaning and interface (and part (b) of C04 on the same model).

  All statements are about the model functions the driver executes (`Optimizer.constants`,
  `duplicates`, `dangling`, `metaOps`, `optimize`, `chain`), for every graph, every operation
  semantics `sem`, every input assignment `inp` and every randomness oracle.

  Evaluation (`Optimizer.eval`): node k is evaluated from the values of the earlier nodes; the j-th
  Input node receives `inp j`; a randomising node with id k receives `rnd k args`.  Randomness of the
  result is an oracle compatible with the source oracle along the mapping (`Compat`); because
  randomising nodes are never merged (`*_special`), the oracle `transport m rO` (the draw of the
  source node) is always compatible (`*_transport`).

  For each of the four passes: (1) the value of every mapped node and of the output, (2) the input
  interface, (3) closedness and the output in range, (4) annotations, (5) C04(b); for the pipeline
  `optimize`: (1) (`optimize_sound`) and (2)(3) (`optimize_interface`).  The vocabulary of the
  statements is in Lemmas/OptimizerSpec.lean.  The meta pass
  (`metaOps_sound`) is proved from the algebraic laws of the structural operations (`MetaLaws`:
  getter-of-constructor, Zip, ArrayToVector, A2B/B2A inverses and the typing of the nodes the pass
  creates; each law relative to a success predicate `ok`) by the loop invariant "a proxy object
  denotes the value of its node" (`Den`, nested proxies included; Lemmas/OptimizerMetaValue.lean).

  Evaluator instance (last section): the laws are proved for the evaluator model `evalOp` of C09
  lifted to typed values with failure (`OptEval.evLaws`), so `metaOps_sound_eval` and
  `optimize_sound_eval` carry no law hypothesis.
-/
namespace CCV.C06
open CCV.Optimizer

variable {V : Type}

/- a small graph exercising the three copying passes:
   0 in · 1 in(unused) · 2 c7 · 3 c7 · 4 add(0,2) · 5 add(0,3) · 6 mul(2,3) [foldable] · 7 random ·
   8 random · 9 nop(7)@send · 10 mul(4,5) · 11 tuple(10, 9, 6) = output · 12 dangling add(8,8) -/
def gEx : Graph :=
  ⟨[⟨.input 0, [], [], some 1, .arr 0 1⟩, ⟨.input 0, [], [], none, .arr 0 1⟩,
    ⟨.constant 7 (some 7), [], [], none, .arr 0 1⟩, ⟨.constant 7 (some 7), [], [], none, .arr 0 1⟩,
    ⟨.other 1 true, [0, 2], [], none, .arr 0 1⟩, ⟨.other 1 true, [0, 3], [], none, .arr 0 1⟩,
    ⟨.other 2 true, [2, 3], [], none, .arr 0 1⟩, ⟨.random 5, [], [], none, .arr 0 1⟩,
    ⟨.random 5, [], [], none, .arr 0 1⟩, ⟨.nop, [7], [3], none, .arr 0 1⟩,
    ⟨.other 2 true, [4, 5], [], none, .arr 0 1⟩, ⟨.createTuple, [10, 9, 6], [], none, .other⟩,
    ⟨.other 1 true, [8, 8], [], none, .arr 0 1⟩], 11⟩

def orcEx (i : Nat) : Nat × Option Nat := if i = 6 then (49, some 49) else (0, none)

theorem gEx_closed : Closed gEx.nodes := closed_of_closedFrom _ (by decide)
theorem gEx_constWF : ConstWF gEx.nodes := by unfold ConstWF; decide
theorem gEx_inputWF : InputWF gEx.nodes := by unfold InputWF; decide

/-- (1) the duplicates pass maps every node, and to a node with the same value -/
theorem duplicates_value (g : Graph) (hc : Closed g.nodes) (sem : Op → List V → V) (inp : Nat → V)
    (dv : V) (rO rN : Nat → List V → V) (hr : Compat g.nodes (duplicates g).2 rO rN) :
    (∀ i, i < g.nodes.length → ∃ k, Maps (duplicates g).2 i k) ∧
    ∀ i k, Maps (duplicates g).2 i k →
      (eval sem inp dv rN (duplicates g).1.nodes).getD k dv = (eval sem inp dv rO g.nodes).getD i dv := by
  have I := duplicates_inv g hc
  refine ⟨I.total, I.tr.ref.sound sem inp dv hc rO rN hr ?_⟩
  intro i k n n' h hn hk _ hne
  exact absurd (I.tr.noConst i k n n' h hn hk) hne

theorem duplicates_output (g : Graph) (hc : Closed g.nodes) (ho : g.out < g.nodes.length)
    (sem : Op → List V → V) (inp : Nat → V) (dv : V) (rO rN : Nat → List V → V)
    (hr : Compat g.nodes (duplicates g).2 rO rN) :
    (eval sem inp dv rN (duplicates g).1.nodes).getD (duplicates g).1.out dv =
      (eval sem inp dv rO g.nodes).getD g.out dv := by
  obtain ⟨ht, hv⟩ := duplicates_value g hc sem inp dv rO rN hr
  obtain ⟨k, hk⟩ := ht g.out ho
  rw [show (duplicates g).1.out = k from look_of_maps hk]
  exact hv g.out k hk

/-- (2)(3)(4) interface, closedness, annotations -/
theorem duplicates_interface (g : Graph) (hc : Closed g.nodes) :
    inputsOf (duplicates g).1.nodes = inputsOf g.nodes ∧
    Closed (duplicates g).1.nodes ∧
    (g.out < g.nodes.length → (duplicates g).1.out < (duplicates g).1.nodes.length) ∧
    ∀ i k n, Maps (duplicates g).2 i k → g.nodes[i]? = some n →
      ∃ n', (duplicates g).1.nodes[k]? = some n' ∧ ∀ a ∈ n.ann, a ∈ n'.ann := by
  have I := duplicates_inv g hc
  refine ⟨I.tr.ins, I.tr.ref.closedOut, fun ho => ?_, I.tr.annotations⟩
  obtain ⟨k, hk⟩ := I.total g.out ho
  exact I.tr.ref.out_lt hk

/-- (5) = C04(b): no randomising / PRF / input node is merged or changed, none is created -/
theorem duplicates_special (g : Graph) (hc : Closed g.nodes) :
    SpecialPreserved g.nodes (duplicates g).1.nodes (duplicates g).2 :=
  (duplicates_inv g hc).tr.special

theorem duplicates_transport (g : Graph) (hc : Closed g.nodes) (rO : Nat → List V → V) :
    Compat g.nodes (duplicates g).2 rO (transport (duplicates g).2 rO) :=
  compat_transport (duplicates_special g hc) rO

-- non-vacuity: nodes 2/3 are constants (no key), 4/5 differ in their dependencies; after the
-- constants pass 4/5 are duplicates (second example); the two Random nodes 7, 8 are not merged
example : (duplicates gEx).2 = (List.range 13).map some := by decide +kernel
example : (duplicates (constants orcEx gEx).1).2 =
    [some 0, some 1, some 2, some 3, some 3, some 4, some 5, some 6, some 7, some 8, some 9,
     some 10] := by decide +kernel

/-- (1) the constants pass maps every node, and to a node with the same value, provided the
    evaluator oracle is right: `hor` says that a Constant node standing for a node with another
    operation (a folded node, or a Constant with the same value id and another number) has that
    node's value -/
theorem constants_value (oracle : Nat → Nat × Option Nat) (g : Graph) (hc : Closed g.nodes)
    (hwf : ConstWF g.nodes) (sem : Op → List V → V) (inp : Nat → V) (dv : V)
    (rO rN : Nat → List V → V) (hr : Compat g.nodes (constants oracle g).2 rO rN)
    (hor : ∀ i k n n', Maps (constants oracle g).2 i k → g.nodes[i]? = some n →
      (constants oracle g).1.nodes[k]? = some n' → n'.op.isConstant → n'.op ≠ n.op →
      sem n'.op [] = (eval sem inp dv rO g.nodes).getD i dv) :
    (∀ i, i < g.nodes.length → ∃ k, Maps (constants oracle g).2 i k) ∧
    ∀ i k, Maps (constants oracle g).2 i k →
      (eval sem inp dv rN (constants oracle g).1.nodes).getD k dv =
        (eval sem inp dv rO g.nodes).getD i dv := by
  have I := constants_inv oracle g hc hwf
  exact ⟨I.total, I.tr.ref.sound sem inp dv hc rO rN hr hor⟩

theorem constants_output (oracle : Nat → Nat × Option Nat) (g : Graph) (hc : Closed g.nodes)
    (hwf : ConstWF g.nodes) (ho : g.out < g.nodes.length) (sem : Op → List V → V) (inp : Nat → V)
    (dv : V) (rO rN : Nat → List V → V) (hr : Compat g.nodes (constants oracle g).2 rO rN)
    (hor : ∀ i k n n', Maps (constants oracle g).2 i k → g.nodes[i]? = some n →
      (constants oracle g).1.nodes[k]? = some n' → n'.op.isConstant → n'.op ≠ n.op →
      sem n'.op [] = (eval sem inp dv rO g.nodes).getD i dv) :
    (eval sem inp dv rN (constants oracle g).1.nodes).getD (constants oracle g).1.out dv =
      (eval sem inp dv rO g.nodes).getD g.out dv := by
  obtain ⟨ht, hv⟩ := constants_value oracle g hc hwf sem inp dv rO rN hr hor
  obtain ⟨k, hk⟩ := ht g.out ho
  rw [show (constants oracle g).1.out = k from look_of_maps hk]
  exact hv g.out k hk

theorem constants_interface (oracle : Nat → Nat × Option Nat) (g : Graph) (hc : Closed g.nodes)
    (hwf : ConstWF g.nodes) :
    inputsOf (constants oracle g).1.nodes = inputsOf g.nodes ∧
    Closed (constants oracle g).1.nodes ∧
    (g.out < g.nodes.length → (constants oracle g).1.out < (constants oracle g).1.nodes.length) ∧
    ∀ i k n, Maps (constants oracle g).2 i k → g.nodes[i]? = some n →
      ∃ n', (constants oracle g).1.nodes[k]? = some n' ∧ ∀ a ∈ n.ann, a ∈ n'.ann := by
  have I := constants_inv oracle g hc hwf
  refine ⟨I.tr.ins, I.tr.ref.closedOut, fun ho => ?_, I.tr.annotations⟩
  obtain ⟨k, hk⟩ := I.total g.out ho
  exact I.tr.ref.out_lt hk

/-- (5) = C04(b): a randomising / PRF / input node is never folded into a constant (it keeps its
    operation) nor merged; whatever the oracle answers -/
theorem constants_special (oracle : Nat → Nat × Option Nat) (g : Graph) (hc : Closed g.nodes)
    (hwf : ConstWF g.nodes) :
    SpecialPreserved g.nodes (constants oracle g).1.nodes (constants oracle g).2 :=
  (constants_inv oracle g hc hwf).tr.special

/-- an annotated node is never folded: its image has the same operation -/
theorem constants_annotated_kept (oracle : Nat → Nat × Option Nat) (g : Graph) (hc : Closed g.nodes)
    (hwf : ConstWF g.nodes) :
    ∀ i k n, Maps (constants oracle g).2 i k → g.nodes[i]? = some n → n.ann ≠ [] →
      ∃ n', (constants oracle g).1.nodes[k]? = some n' ∧ n'.op = n.op := by
  intro i k n h hn hann
  obtain ⟨n', h1, h2⟩ := (constants_inv oracle g hc hwf).tr.same i k n h hn
  rcases h2 with ⟨h2, _⟩ | ⟨_, _, h2, _⟩
  · exact ⟨n', h1, h2⟩
  · exact absurd h2 hann

theorem constants_transport (oracle : Nat → Nat × Option Nat) (g : Graph) (hc : Closed g.nodes)
    (hwf : ConstWF g.nodes) (rO : Nat → List V → V) :
    Compat g.nodes (constants oracle g).2 rO (transport (constants oracle g).2 rO) :=
  compat_transport (constants_special oracle g hc hwf) rO

-- non-vacuity: the equal constants 2, 3 are merged, node 6 = mul(c7, c7) is folded to a new constant
example : (constants orcEx gEx).2 =
    [some 0, some 1, some 2, some 2, some 3, some 4, some 5, some 6, some 7, some 8, some 9,
     some 10, some 11] := by decide +kernel
example : ((constants orcEx gEx).1.nodes.map (·.op)).take 6 =
    [.input 0, .input 0, .constant 7 (some 7), .other 1 true, .other 1 true, .constant 49 (some 49)] := by
  decide +kernel

/-- (1) the dangling pass maps every node it keeps (`dangling_keeps`: the Input nodes and every
    node the output depends on) to a node with the same value -/
theorem dangling_value (g : Graph) (hc : Closed g.nodes) (hwf : InputWF g.nodes)
    (sem : Op → List V → V) (inp : Nat → V) (dv : V) (rO rN : Nat → List V → V)
    (hr : Compat g.nodes (dangling g).2 rO rN) :
    ∀ i k, Maps (dangling g).2 i k →
      (eval sem inp dv rN (dangling g).1.nodes).getD k dv = (eval sem inp dv rO g.nodes).getD i dv := by
  have I := dangling_inv g hc hwf
  refine I.tr.ref.sound sem inp dv hc rO rN hr ?_
  intro i k n n' h hn hk _ hne
  exact absurd (I.tr.noConst i k n n' h hn hk) hne

theorem dangling_keeps (g : Graph) (hc : Closed g.nodes) (hwf : InputWF g.nodes)
    (ho : g.out < g.nodes.length) :
    ∀ i n, g.nodes[i]? = some n → (Reach g i ∨ n.op.isInput = true) → ∃ k, Maps (dangling g).2 i k := by
  intro i n hn h
  refine (dangling_inv g hc hwf).kept i n hn ?_
  rcases h with h | h
  · exact Or.inl (reach_useful g hc ho i h)
  · exact Or.inr h

theorem dangling_output (g : Graph) (hc : Closed g.nodes) (hwf : InputWF g.nodes)
    (ho : g.out < g.nodes.length) (sem : Op → List V → V) (inp : Nat → V) (dv : V)
    (rO rN : Nat → List V → V) (hr : Compat g.nodes (dangling g).2 rO rN) :
    (eval sem inp dv rN (dangling g).1.nodes).getD (dangling g).1.out dv =
      (eval sem inp dv rO g.nodes).getD g.out dv := by
  obtain ⟨k, hk⟩ := dangling_keeps g hc hwf ho g.out g.nodes[g.out] (List.getElem?_eq_getElem ho)
    (Or.inl Reach.out)
  rw [show (dangling g).1.out = k from look_of_maps hk]
  exact dangling_value g hc hwf sem inp dv rO rN hr g.out k hk

/-- (2)(3)(4): all Input nodes are kept in order with type and name (used or not); the result is
    closed; the annotations of every node the output depends on are on its image -/
theorem dangling_interface (g : Graph) (hc : Closed g.nodes) (hwf : InputWF g.nodes) :
    inputsOf (dangling g).1.nodes = inputsOf g.nodes ∧
    Closed (dangling g).1.nodes ∧
    (g.out < g.nodes.length → (dangling g).1.out < (dangling g).1.nodes.length) ∧
    (g.out < g.nodes.length → ∀ i n, Reach g i → g.nodes[i]? = some n →
      ∃ k n', Maps (dangling g).2 i k ∧ (dangling g).1.nodes[k]? = some n' ∧ ∀ a ∈ n.ann, a ∈ n'.ann) := by
  have I := dangling_inv g hc hwf
  refine ⟨I.tr.ins, I.tr.ref.closedOut, fun ho => ?_, fun ho i n hr hn => ?_⟩
  · obtain ⟨k, hk⟩ := dangling_keeps g hc hwf ho g.out g.nodes[g.out] (List.getElem?_eq_getElem ho)
      (Or.inl Reach.out)
    exact I.tr.ref.out_lt hk
  · obtain ⟨k, hk⟩ := dangling_keeps g hc hwf ho i n hn (Or.inl hr)
    obtain ⟨n', h1, h2⟩ := I.tr.annotations i k n hk hn
    exact ⟨k, n', hk, h1, h2⟩

/-- (5) = C04(b): kept randomising / PRF nodes are neither changed nor merged, and a node without
    image is not needed by the output (and is not an Input) -/
theorem dangling_special (g : Graph) (hc : Closed g.nodes) (hwf : InputWF g.nodes)
    (ho : g.out < g.nodes.length) :
    SpecialPreserved g.nodes (dangling g).1.nodes (dangling g).2 ∧
    ∀ i n, g.nodes[i]? = some n → (∀ k, ¬ Maps (dangling g).2 i k) →
      ¬ Reach g i ∧ n.op.isInput = false := by
  refine ⟨(dangling_inv g hc hwf).tr.special, fun i n hn hno => ⟨fun hr => ?_, ?_⟩⟩
  · obtain ⟨k, hk⟩ := dangling_keeps g hc hwf ho i n hn (Or.inl hr)
    exact hno k hk
  · cases h : n.op.isInput
    · rfl
    · obtain ⟨k, hk⟩ := dangling_keeps g hc hwf ho i n hn (Or.inr h)
      exact absurd hk (hno k)

theorem dangling_transport (g : Graph) (hc : Closed g.nodes) (hwf : InputWF g.nodes)
    (rO : Nat → List V → V) : Compat g.nodes (dangling g).2 rO (transport (dangling g).2 rO) :=
  compat_transport (dangling_inv g hc hwf).tr.special rO

-- non-vacuity: the unused Input 1 is kept; Random 8 and the dangling node 12 are dropped
example : (dangling gEx).2 =
    [some 0, some 1, some 2, some 3, some 4, some 5, some 6, some 7, none, some 8, some 9, some 10,
     none] := by decide +kernel
example : inputsOf (dangling gEx).1.nodes =
    [(.input 0, some 1, .arr 0 1), (.input 0, none, .arr 0 1)] := by decide +kernel

/-- `new_from_chain`: the joined mapping relates i to k iff the stages relate them step by step -/
theorem chain4 (m1 m2 m3 m4 : Mapping) (i k : Nat) :
    Maps (chain [m1, m2, m3, m4]) i k ↔
      ∃ a b c, Maps m1 i a ∧ Maps m2 a b ∧ Maps m3 b c ∧ Maps m4 c k := by
  simp only [chain, List.foldl, maps_join]
  constructor
  · rintro ⟨c, ⟨b, ⟨a, h1, h2⟩, h3⟩, h4⟩; exact ⟨a, b, c, h1, h2, h3, h4⟩
  · rintro ⟨a, b, c, h1, h2, h3, h4⟩; exact ⟨c, ⟨b, ⟨a, h1, h2⟩, h3⟩, h4⟩

example : chain [[some 0, some 1, some 1], [some 1, some 0], [some 0, none], [some 5]] =
    [none, some 5, some 5] := by decide +kernel

/-- meta pass, (2)(3): every source node is mapped to a node of the result; the Input
    nodes are preserved in order with type and name (the nodes the pass creates are never Inputs);
    the result is closed, its output in range, its Input nodes dependency-free.  (Value
    preservation, annotations and C04(b) are `metaOps_sound`.) -/
theorem metaOps_interface_partial (g g' : Graph) (m : Mapping) (hc : Closed g.nodes)
    (h : metaOps g = some (g', m)) :
    (∀ i, i < g.nodes.length → ∃ k, Maps m i k ∧ k < g'.nodes.length) ∧
    inputsOf g'.nodes = inputsOf g.nodes ∧ Closed g'.nodes ∧
    (g.out < g.nodes.length → g'.out < g'.nodes.length) ∧
    (InputWF g.nodes → InputWF g'.nodes) :=
  ⟨(metaOps_closed g g' m hc h).2.1, (metaOps_inputs g g' m h).1, (metaOps_closed g g' m hc h).1,
   (metaOps_closed g g' m hc h).2.2, fun hw => metaOps_inputWF g g' m hw h⟩

/- non-vacuity: 0 in · 1 random · 2 tuple(0,1) · 3 tuple_get 1 @send → the Random node 1 (which
   receives the annotation) · 4 a2v(0) · 5 const 1 · 6 vector_get(4,5) → new Get node 7 -/
def gMeta : Graph :=
  ⟨[⟨.input 0, [], [], none, .arr 1 1⟩, ⟨.random 5, [], [], none, .arr 0 1⟩,
    ⟨.createTuple, [0, 1], [], none, .other⟩, ⟨.tupleGet 1, [2], [3], none, .arr 0 1⟩,
    ⟨.arrayToVector, [0], [], none, .vec (.arr 0 1)⟩, ⟨.constant 9 (some 1), [], [], none, .arr 0 1⟩,
    ⟨.vectorGet, [4, 5], [], none, .arr 0 1⟩], 6⟩

example : (metaOps gMeta).map (·.2) =
    some [some 0, some 1, some 2, some 1, some 4, some 5, some 7] := by decide +kernel
example : (metaOps gMeta).map (fun r => (r.1.out, (r.1.nodes.getD 1 default).ann,
    (r.1.nodes.getD 7 default).op, (r.1.nodes.getD 7 default).deps)) =
    some (7, [3], .get 1, [0]) := by decide +kernel

/-- the statement of `metaOps_sound`: under the laws of the
    structural operations (`MetaLaws`), when the recorded type summaries describe the values
    (`TyOK`), arities are as the type checker guarantees (`MetaWF`) and VectorGet / Zip are applied
    to vectors (`VecOK`; follows from `VecWF` on recorded types, `VecWF.ok`): every node is mapped
    to a node with the same value, the recorded types of the result describe its values and every
    node of the result — the created Get / GetSlice / VectorGet / CreateTuple nodes included —
    evaluates successfully (so the statement composes), annotations are on the image, and randomising / PRF / input nodes are
    preserved (C04(b), `SpecialInj`: a getter may be resolved to a randomising node, so injectivity
    is among such nodes, and the randomising node is the first node mapped to its image).
    The type summary `tyv` is needed because the pass re-reads the type of nodes it created itself;
    without `MetaWF` and `VecOK` the model statement is false (e.g. a CreateNamedTuple with a
    repeated field name, or an A2B node with two dependencies).
    The laws are relative to a success predicate `ok` (each equation is demanded only when its
    left-hand side is `ok`) and the source graph must evaluate successfully at every node (`ValOK`);
    `ok := fun _ => True` gives the unconditional version.  This is what makes the statement
    applicable to ciphercore's strict, partial evaluator (`optimize_sound_eval` below). -/
def MetaStatement : Prop :=
  ∀ (V : Type) (ok : V → Prop) (sem : Op → List V → V) (inp : Nat → V) (dv : V) (tyv : V → Ty)
    (g g' : Graph) (m : Mapping) (rO rN : Nat → List V → V),
    MetaLaws ok sem tyv → Closed g.nodes → MetaWF g.nodes → metaOps g = some (g', m) →
    TyOK sem inp dv rO tyv g.nodes → ValOK ok sem inp dv rO g.nodes →
    VecOK sem inp dv rO tyv g.nodes → Compat g.nodes m rO rN →
    (∀ i k, Maps m i k →
      (eval sem inp dv rN g'.nodes).getD k dv = (eval sem inp dv rO g.nodes).getD i dv) ∧
    TyOK sem inp dv rN tyv g'.nodes ∧ ValOK ok sem inp dv rN g'.nodes ∧
    SpecialInj g.nodes g'.nodes m ∧
    (∀ i k n, Maps m i k → g.nodes[i]? = some n →
      ∃ n', g'.nodes[k]? = some n' ∧ ∀ a ∈ n.ann, a ∈ n'.ann)

/-- (1)(4)(5) for the meta pass -/
theorem metaOps_sound : MetaStatement := by
  intro V ok sem inp dv tyv g g' m rO rN L hc hwf h hty hok hvo hcomp
  obtain ⟨h1, h2, h2'⟩ := metaOps_value L g g' m hc hwf h hty hok hvo hcomp
  obtain ⟨h3, h4⟩ := metaOps_special g g' m hc h
  exact ⟨h1, h2, h2', h3, h4⟩

theorem metaOps_output {ok : V → Prop} (sem : Op → List V → V) (inp : Nat → V) (dv : V) (tyv : V → Ty)
    (g g' : Graph) (m : Mapping) (rO rN : Nat → List V → V) (L : MetaLaws ok sem tyv)
    (hc : Closed g.nodes) (hwf : MetaWF g.nodes) (h : metaOps g = some (g', m))
    (hty : TyOK sem inp dv rO tyv g.nodes) (hok : ValOK ok sem inp dv rO g.nodes)
    (hvo : VecOK sem inp dv rO tyv g.nodes)
    (hcomp : Compat g.nodes m rO rN) (ho : g.out < g.nodes.length) :
    (eval sem inp dv rN g'.nodes).getD g'.out dv = (eval sem inp dv rO g.nodes).getD g.out dv := by
  obtain ⟨k, hk, _⟩ := (metaOps_closed g g' m hc h).2.1 g.out ho
  rw [metaOps_out g g' m h, look_of_maps hk]
  exact (metaOps_value L g g' m hc hwf h hty hok hvo hcomp).1 g.out k hk

/-- the source oracle transported along the mapping is compatible (a randomising node is the first
    node mapped to its image) -/
theorem metaOps_transport (g g' : Graph) (m : Mapping) (hc : Closed g.nodes)
    (h : metaOps g = some (g', m)) (rO : Nat → List V → V) :
    Compat g.nodes m rO (transport m rO) :=
  compat_transport_inj (metaOps_special g g' m hc h).1 rO

/- non-vacuity of the hypotheses of `metaOps_sound`: the one-point semantics satisfies `MetaLaws`
   unconditionally (`ok := True`; the laws are jointly satisfiable), and on `gMetaU` (tuple /
   named-tuple getters resolved through nested proxies, B2A∘A2B) all hypotheses hold; the intended
   model of the laws is the evaluator of ciphercore: see the last section (`evLaws`, `gEv`).
   0 in · 1 random · 2 tuple(0,1) · 3 named{7,8}(2,0) · 4 ntg 7 (3) → 2 · 5 tg 1 (4) → 1 ·
   6 a2b(0) · 7 b2a(6) -/
def gMetaU : Graph :=
  ⟨[⟨.input 0, [], [], none, .other⟩, ⟨.random 5, [], [], none, .other⟩,
    ⟨.createTuple, [0, 1], [], none, .other⟩, ⟨.createNamedTuple [7, 8], [2, 0], [], none, .other⟩,
    ⟨.namedTupleGet 7, [3], [], none, .other⟩, ⟨.tupleGet 1, [4], [4], none, .other⟩,
    ⟨.a2b, [0], [], none, .other⟩, ⟨.b2a 3, [6], [], none, .other⟩], 5⟩

theorem unitLaws : MetaLaws (fun _ => True) (fun (_ : Op) (_ : List Unit) => ()) (fun _ => Ty.other) :=
  ⟨(by intros; rfl), (by intros; rfl), (by intros; rfl), (by intros; rfl), (by intros; rfl),
   (by intros; rfl), (by intros; rfl), (by intro a c st h; cases h), (by intros; rfl),
   (by intro v i e h; cases h), (by intros; rfl), (by intros; trivial)⟩

example : (metaOps gMetaU).map (·.2) =
    some [some 0, some 1, some 2, some 3, some 2, some 1, some 6, some 7] := by decide +kernel
example : Closed gMetaU.nodes ∧ MetaWF gMetaU.nodes ∧ VecWF gMetaU.nodes :=
  ⟨closed_of_closedFrom _ (by decide), by unfold MetaWF; decide, by
    intro i n hn
    have : n.op ≠ .vectorGet ∧ n.op ≠ .zip := by
      have hall : ∀ n ∈ gMetaU.nodes, n.op ≠ .vectorGet ∧ n.op ≠ .zip := by decide +kernel
      exact hall n (List.mem_of_getElem? hn)
    exact ⟨fun h => absurd h this.1, fun h => absurd h this.2⟩⟩
example (inp : Nat → Unit) (r : Nat → List Unit → Unit) :
    TyOK (fun _ _ => ()) inp () r (fun _ => Ty.other) gMetaU.nodes := by
  intro i n hn
  have hall : ∀ n ∈ gMetaU.nodes, n.ty = .other := by decide +kernel
  exact (hall n (List.mem_of_getElem? hn)).symm

theorem optimize_stages (oracle : Nat → Nat × Option Nat) (g g' : Graph) (m : Mapping)
    (h : optimize oracle g = some (g', m)) :
    constantsOk g = true ∧ ∃ g2 m2, metaOps (constants oracle g).1 = some (g2, m2) ∧
      g' = (dangling (duplicates g2).1).1 ∧
      m = chain [(constants oracle g).2, m2, (duplicates g2).2, (dangling (duplicates g2).1).2] := by
  unfold optimize at h
  split at h
  · cases h
  · rename_i hok
    simp only [] at h
    split at h
    · cases h
    · rename_i g2 m2 heq
      simp only [Option.some.injEq, Prod.mk.injEq] at h
      exact ⟨by simpa using hok, g2, m2, heq, h.1.symm, h.2.symm⟩

theorem stages_wf (oracle : Nat → Nat × Option Nat) (g g2 : Graph) (m2 : Mapping)
    (hc : Closed g.nodes) (hcw : ConstWF g.nodes) (hiw : InputWF g.nodes)
    (hm : metaOps (constants oracle g).1 = some (g2, m2)) :
    (Closed (constants oracle g).1.nodes ∧ InputWF (constants oracle g).1.nodes) ∧
    (Closed g2.nodes ∧ InputWF g2.nodes) ∧
    (Closed (duplicates g2).1.nodes ∧ InputWF (duplicates g2).1.nodes) := by
  have I1 := constants_inv oracle g hc hcw
  have w1 : InputWF (constants oracle g).1.nodes := I1.tr.inputWF hiw
  obtain ⟨_, _, c2, _, w2⟩ := metaOps_interface_partial _ g2 m2 I1.tr.ref.closedOut hm
  have I3 := duplicates_inv g2 c2
  exact ⟨⟨I1.tr.ref.closedOut, w1⟩, ⟨c2, w2 w1⟩, I3.tr.ref.closedOut, I3.tr.inputWF (w2 w1)⟩

/-- (2)(3) for the whole pipeline, without laws or typing hypotheses: `optimize` keeps the list of Input nodes
    (type, name) in order — unused ones included —, yields a closed graph with the output in range
    and dependency-free Input nodes -/
theorem optimize_interface (oracle : Nat → Nat × Option Nat) (g g' : Graph) (m : Mapping)
    (hc : Closed g.nodes) (hcw : ConstWF g.nodes) (hiw : InputWF g.nodes)
    (h : optimize oracle g = some (g', m)) :
    inputsOf g'.nodes = inputsOf g.nodes ∧ Closed g'.nodes ∧ InputWF g'.nodes ∧
    (g.out < g.nodes.length → g'.out < g'.nodes.length) := by
  obtain ⟨_, g2, m2, hm, rfl, rfl⟩ := optimize_stages oracle g g' m h
  obtain ⟨⟨c1, _⟩, ⟨c2, _⟩, c3, w3⟩ := stages_wf oracle g g2 m2 hc hcw hiw hm
  obtain ⟨i1, _, o1, _⟩ := constants_interface oracle g hc hcw
  obtain ⟨_, i2, _, o2, _⟩ := metaOps_interface_partial _ g2 m2 c1 hm
  obtain ⟨i3, _, o3, _⟩ := duplicates_interface g2 c2
  obtain ⟨i4, c4, o4, _⟩ := dangling_interface (duplicates g2).1 c3 w3
  exact ⟨by rw [i4, i3, i2, i1], c4, (dangling_inv _ c3 w3).tr.inputWF w3, fun ho => o4 (o3 (o2 (o1 ho)))⟩

/-- the statement of `optimize_sound` (value part of the pipeline): `optimize`
    preserves the value of every node the joined mapping still maps, and of the output, for some
    oracle of the result (the proof takes the source oracle transported along the four stage mappings).
    Moreover every node of the optimised graph is `ok` (evaluates successfully).
    Besides well-formedness of the graph (incl. `TyOK`, `ValOK`: recorded types are right and every
    source node is `ok`), the only hypotheses are the laws of the structural operations relative
    to `ok` and `hor`: the evaluator oracle of the constants pass yields the right constants. -/
def OptimizeStatement : Prop :=
  ∀ (V : Type) (ok : V → Prop) (sem : Op → List V → V) (inp : Nat → V) (dv : V) (tyv : V → Ty)
    (oracle : Nat → Nat × Option Nat) (g g' : Graph) (m : Mapping) (rO : Nat → List V → V),
    MetaLaws ok sem tyv → Closed g.nodes → ConstWF g.nodes → InputWF g.nodes → MetaWF g.nodes →
    TyOK sem inp dv rO tyv g.nodes → ValOK ok sem inp dv rO g.nodes →
    VecOK sem inp dv rO tyv g.nodes →
    optimize oracle g = some (g', m) →
    (∀ i k n n', Maps (constants oracle g).2 i k → g.nodes[i]? = some n →
      (constants oracle g).1.nodes[k]? = some n' → n'.op.isConstant → n'.op ≠ n.op →
      sem n'.op [] = (eval sem inp dv rO g.nodes).getD i dv) →
    ∃ rN : Nat → List V → V,
      (∀ i k, Maps m i k →
        (eval sem inp dv rN g'.nodes).getD k dv = (eval sem inp dv rO g.nodes).getD i dv) ∧
      (g.out < g.nodes.length →
        (eval sem inp dv rN g'.nodes).getD g'.out dv = (eval sem inp dv rO g.nodes).getD g.out dv) ∧
      ValOK ok sem inp dv rN g'.nodes

/-- (1) for the pipeline relative to its meta stage (`optimize_sound` discharges `hrest`):
    if the meta stage maps each node of the constants-stage output to an equal-valued node,
    then `optimize` maps every node the joined mapping `chain [m1, m2, m3, m4]` still maps to a node
    with the same value; in particular the output. `r0 … r4` are the oracles of the five graphs,
    compatible along the stage mappings (e.g. obtained by `transport`). -/
theorem optimize_value_partial (oracle : Nat → Nat × Option Nat) (g g' : Graph) (m : Mapping)
    (hc : Closed g.nodes) (hcw : ConstWF g.nodes) (hiw : InputWF g.nodes)
    (h : optimize oracle g = some (g', m))
    (sem : Op → List V → V) (inp : Nat → V) (dv : V) (r0 r1 r2 r3 r4 : Nat → List V → V)
    (hor : ∀ i k n n', Maps (constants oracle g).2 i k → g.nodes[i]? = some n →
      (constants oracle g).1.nodes[k]? = some n' → n'.op.isConstant → n'.op ≠ n.op →
      sem n'.op [] = (eval sem inp dv r0 g.nodes).getD i dv)
    (h1 : Compat g.nodes (constants oracle g).2 r0 r1)
    (hrest : ∀ g2 m2, metaOps (constants oracle g).1 = some (g2, m2) →
      (∀ i k, Maps m2 i k → (eval sem inp dv r2 g2.nodes).getD k dv =
        (eval sem inp dv r1 (constants oracle g).1.nodes).getD i dv) ∧
      Compat g2.nodes (duplicates g2).2 r2 r3 ∧
      Compat (duplicates g2).1.nodes (dangling (duplicates g2).1).2 r3 r4) :
    (∀ i k, Maps m i k →
      (eval sem inp dv r4 g'.nodes).getD k dv = (eval sem inp dv r0 g.nodes).getD i dv) ∧
    (g.out < g.nodes.length →
      (eval sem inp dv r4 g'.nodes).getD g'.out dv = (eval sem inp dv r0 g.nodes).getD g.out dv) := by
  obtain ⟨_, g2, m2, hm, rfl, rfl⟩ := optimize_stages oracle g g' m h
  obtain ⟨hv2, h3, h4⟩ := hrest g2 m2 hm
  obtain ⟨⟨c1, _⟩, ⟨c2, _⟩, c3, w3⟩ := stages_wf oracle g g2 m2 hc hcw hiw hm
  obtain ⟨t2, _, _, o2, _⟩ := metaOps_interface_partial _ g2 m2 c1 hm
  have key : ∀ i k, Maps (chain [(constants oracle g).2, m2, (duplicates g2).2,
      (dangling (duplicates g2).1).2]) i k →
      (eval sem inp dv r4 (dangling (duplicates g2).1).1.nodes).getD k dv =
        (eval sem inp dv r0 g.nodes).getD i dv := by
    intro i k hik
    obtain ⟨a, b, c, ha, hb, hcc, hk⟩ := (chain4 _ _ _ _ i k).mp hik
    have e1 := (constants_value oracle g hc hcw sem inp dv r0 r1 h1 hor).2 i a ha
    have e2 := hv2 a b hb
    have e3 := (duplicates_value g2 c2 sem inp dv r2 r3 h3).2 b c hcc
    have e4 := dangling_value (duplicates g2).1 c3 w3 sem inp dv r3 r4 h4 c k hk
    rw [e4, e3, e2, e1]
  refine ⟨key, fun ho => ?_⟩
  -- the output is mapped through all four stages
  have o1 := (constants_interface oracle g hc hcw).2.2.1 ho
  have e1 := constants_output oracle g hc hcw ho sem inp dv r0 r1 h1 hor
  obtain ⟨k2, hk2, _⟩ := t2 _ o1
  have hg2out : g2.out = k2 := by
    have := metaOps_out _ g2 m2 hm
    rw [this]; exact look_of_maps hk2
  have e2 := hv2 _ k2 hk2
  have e3 := duplicates_output g2 c2 (o2 o1) sem inp dv r2 r3 h3
  have e4 := dangling_output (duplicates g2).1 c3 w3 ((duplicates_interface g2 c2).2.2.1 (o2 o1))
    sem inp dv r3 r4 h4
  rw [e4, e3, hg2out, e2, e1]

/-- (1) for the whole pipeline -/
theorem optimize_sound : OptimizeStatement := by
  intro V ok sem inp dv tyv oracle g g' m r0 L hc hcw hiw hwf hty hok hvo h hor
  obtain ⟨_, g2, m2, hm, hg', hmm⟩ := optimize_stages oracle g g' m h
  have h1 := constants_transport oracle g hc hcw r0
  have hv1 := (constants_value oracle g hc hcw sem inp dv r0 _ h1 hor).2
  obtain ⟨hty1, hwf1, hvo1⟩ := (constants_inv oracle g hc hcw).keeps hwf hty hv1
  obtain ⟨⟨c1, _⟩, ⟨c2, _⟩, c3, w3⟩ := stages_wf oracle g g2 m2 hc hcw hiw hm
  have h2 := metaOps_transport _ g2 m2 c1 hm (transport (constants oracle g).2 r0)
  have hok1 := (constants_inv oracle g hc hcw).tr.valOK hv1 hok
  obtain ⟨hv2, _, hok2⟩ := metaOps_value L _ g2 m2 c1 hwf1 hm hty1 hok1 (hvo1 hvo) h2
  have h3 := duplicates_transport g2 c2 (transport m2 (transport (constants oracle g).2 r0))
  have h4 := dangling_transport (duplicates g2).1 c3 w3
    (transport (duplicates g2).2 (transport m2 (transport (constants oracle g).2 r0)))
  have hmain := optimize_value_partial oracle g g' m hc hcw hiw h sem inp dv r0
      (transport (constants oracle g).2 r0) (transport m2 (transport (constants oracle g).2 r0))
      (transport (duplicates g2).2 (transport m2 (transport (constants oracle g).2 r0)))
      (transport (dangling (duplicates g2).1).2 (transport (duplicates g2).2
        (transport m2 (transport (constants oracle g).2 r0)))) hor h1 (by
    intro g2' m2' hm'
    rw [hm] at hm'
    simp only [Option.some.injEq, Prod.mk.injEq] at hm'
    obtain ⟨rfl, rfl⟩ := hm'
    exact ⟨hv2, h3, h4⟩)
  refine ⟨_, hmain.1, hmain.2, ?_⟩
  subst hg'
  exact (dangling_inv _ c3 w3).tr.valOK (dangling_value _ c3 w3 sem inp dv _ _ h4)
    ((duplicates_inv g2 c2).tr.valOK (duplicates_value g2 c2 sem inp dv _ _ h3).2 hok2)

/- `metaOps_sound` / `optimize_sound` for the evaluator model, with NO law hypothesis.

   Value domain `VE = Option (Ty × EV)`: a typed value of the evaluator model `CCV.EvalOps` (the
   model compared with `SimpleEvaluator` on every run of C09) or `none` = evaluation failed.
   `semE T op` = `evalOp` of the translated operation, strict in failures, guarded by
   `Value::check_type` of the arguments, result type from `TI.infer` (Lemmas/OptimizerEvalDefs.lean;
   `T` = what the harness interns: field names, vector element types, scalar types, operations the
   passes do not inspect, non-UINT64 constants).  On arguments that have their types it IS `evalOp`
   (`OptEval.liftE_faithful`, `liftE_total`).  `tyvE T` = the summary of the value's type.
   `evLaws` (Lemmas/OptimizerEval.lean): `semE T` satisfies `MetaLaws` relative to
   `okV` = "evaluated successfully, to a value of a valid type".

   Remaining hypotheses, all about the SOURCE graph only:
     Closed / ConstWF / InputWF / MetaWF / VecWF   syntactic well-formedness (type checker),
     TyOK   the recorded summary of each node is the summary of its value's type,
     ValOK  every node of the source graph evaluates successfully (to a value of a valid type),
     hor    the evaluator oracle of the constants pass is right. -/
section Evaluator
open CCV.OptEval

/-- meta pass on the evaluator model: every mapped node has the same typed value; every node of the
    result (created Get / GetSlice / VectorGet / CreateTuple nodes included) evaluates successfully
    and its recorded summary is right -/
theorem metaOps_sound_eval (T : Tab) (hinj : Function.Injective T.nm) (hst : ∀ s, T.st (T.stc s) = s)
    (inp : Nat → VE) (g g' : Graph) (m : Mapping) (rO rN : Nat → List VE → VE)
    (hc : Closed g.nodes) (hwf : MetaWF g.nodes) (hvw : VecWF g.nodes)
    (h : metaOps g = some (g', m))
    (hty : TyOK (semE T) inp none rO (tyvE T) g.nodes)
    (hok : ValOK okV (semE T) inp none rO g.nodes)
    (hcomp : Compat g.nodes m rO rN) :
    (∀ i k, Maps m i k →
      (eval (semE T) inp none rN g'.nodes).getD k none = (eval (semE T) inp none rO g.nodes).getD i none) ∧
    TyOK (semE T) inp none rN (tyvE T) g'.nodes ∧ ValOK okV (semE T) inp none rN g'.nodes := by
  have r := metaOps_sound VE okV (semE T) inp none (tyvE T) g g' m rO rN (evLaws T hinj hst) hc hwf h
    hty hok (VecWF.ok hc hvw hty) hcomp
  exact ⟨r.1, r.2.1, r.2.2.1⟩

/-- the pipeline on the evaluator model: `optimize` preserves the typed value of every node the
    chained mapping still maps, and of the output, and the optimised graph evaluates successfully
    at EVERY node (a strict evaluator such as `SimpleEvaluator` evaluates all of them) -/
theorem optimize_sound_eval (T : Tab) (hinj : Function.Injective T.nm) (hst : ∀ s, T.st (T.stc s) = s)
    (inp : Nat → VE) (oracle : Nat → Nat × Option Nat) (g g' : Graph) (m : Mapping)
    (rO : Nat → List VE → VE)
    (hc : Closed g.nodes) (hcw : ConstWF g.nodes) (hiw : InputWF g.nodes) (hwf : MetaWF g.nodes)
    (hvw : VecWF g.nodes)
    (hty : TyOK (semE T) inp none rO (tyvE T) g.nodes)
    (hok : ValOK okV (semE T) inp none rO g.nodes)
    (h : optimize oracle g = some (g', m))
    (hor : ∀ i k n n', Maps (constants oracle g).2 i k → g.nodes[i]? = some n →
      (constants oracle g).1.nodes[k]? = some n' → n'.op.isConstant → n'.op ≠ n.op →
      semE T n'.op [] = (eval (semE T) inp none rO g.nodes).getD i none) :
    ∃ rN : Nat → List VE → VE,
      (∀ i k, Maps m i k →
        (eval (semE T) inp none rN g'.nodes).getD k none =
          (eval (semE T) inp none rO g.nodes).getD i none) ∧
      (g.out < g.nodes.length →
        (eval (semE T) inp none rN g'.nodes).getD g'.out none =
          (eval (semE T) inp none rO g.nodes).getD g.out none) ∧
      ValOK okV (semE T) inp none rN g'.nodes :=
  optimize_sound VE okV (semE T) inp none (tyvE T) oracle g g' m rO (evLaws T hinj hst) hc hcw hiw hwf
    hty hok (VecWF.ok hc hvw hty) h hor

/- non-vacuity: a graph on which the meta pass does all four things, with concrete inputs.
   0 x : u8[2,2] · 1 y : u64[3] · 2 z : bit[2,8] ·
   3 tuple(0,1) · 4 tuple_get 1 (3) → 1 ·
   5 vector<u64[3]>(1,1) · 6 const 1u64 · 7 vector_get(5,6) → 1 ·
   8 a2v(0) · 9 vector_get(8,6) → new GetSlice(0,[1,…]) ·
   10 a2v(1) · 11 vector_get(10,6) → new Get(1,[1]) ·
   12 b2a_u8(2) · 13 a2b(12) → 2 ·
   14 tuple(4,7,9,11,13) = output -/
def stcEx : ST → Nat
  | .bit => 0 | .u8 => 1 | .i8 => 2 | .u16 => 3 | .i16 => 4 | .u32 => 5 | .i32 => 6
  | .u64 => 7 | .i64 => 8 | .u128 => 9 | .i128 => 10
def stEx : Nat → ST
  | 0 => .bit | 1 => .u8 | 2 => .i8 | 3 => .u16 | 4 => .i16 | 5 => .u32 | 6 => .i32
  | 7 => .u64 | 8 => .i64 | 9 => .u128 | _ => .i128
def exTab : Tab :=
  { nm := fun n => "".pushn 'a' n, ty := fun _ => .array [3] .u64, st := stEx, stc := stcEx,
    cst := fun _ => none, op := fun _ => .nop }

theorem exTab_inj : Function.Injective exTab.nm := by
  intro a b hab
  have := congrArg String.length hab
  simpa [exTab, String.length_pushn] using this

theorem exTab_st : ∀ s, exTab.st (exTab.stc s) = s := by intro s; cases s <;> rfl

def gEv : Graph :=
  ⟨[⟨.input 0, [], [], none, .arr 2 1⟩, ⟨.input 1, [], [], none, .arr 1 7⟩,
    ⟨.input 2, [], [], none, .arr 2 0⟩,
    ⟨.createTuple, [0, 1], [], none, .other⟩, ⟨.tupleGet 1, [3], [], none, .arr 1 7⟩,
    ⟨.createVector 0, [1, 1], [], none, .vec (.arr 1 7)⟩,
    ⟨.constant 9 (some 1), [], [], none, .arr 0 7⟩, ⟨.vectorGet, [5, 6], [], none, .arr 1 7⟩,
    ⟨.arrayToVector, [0], [], none, .vec (.arr 1 1)⟩, ⟨.vectorGet, [8, 6], [], none, .arr 1 1⟩,
    ⟨.arrayToVector, [1], [], none, .vec (.arr 0 7)⟩, ⟨.vectorGet, [10, 6], [], none, .arr 0 7⟩,
    ⟨.b2a 1, [2], [], none, .arr 1 1⟩, ⟨.a2b, [12], [], none, .arr 2 0⟩,
    ⟨.createTuple, [4, 7, 9, 11, 13], [], none, .other⟩], 14⟩

def inpEv : Nat → VE
  | 0 => some (.array [2, 2] .u8, .arr [1, 2, 3, 4])
  | 1 => some (.array [3] .u64, .arr [10, 20, 30])
  | _ => some (.array [2, 8] .bit, .arr [1, 0, 1, 0, 0, 0, 0, 0, 1, 1, 1, 1, 1, 1, 1, 1])

def rndEv : Nat → List VE → VE := fun _ _ => none
def orcEv : Nat → Nat × Option Nat := fun _ => (0, none)

-- the meta pass resolves all five getters (4 ↦ 1, 7 ↦ 1, 9 ↦ new node 10, 11 ↦ new node 13, 13 ↦ 2)
example : (metaOps gEv).map (·.2) =
    some [some 0, some 1, some 2, some 3, some 1, some 5, some 6, some 1, some 8, some 10, some 11,
      some 13, some 14, some 2, some 16] := by decide +kernel
example : (metaOps gEv).map (fun r => ((r.1.nodes.getD 10 default).op, (r.1.nodes.getD 10 default).deps,
    (r.1.nodes.getD 13 default).op, (r.1.nodes.getD 13 default).deps, (r.1.nodes.getD 16 default).deps)) =
    some (.getSlice 1, [0], .get 1, [1], [1, 1, 10, 13, 2]) := by decide +kernel

-- all hypotheses of `optimize_sound_eval` hold for it …
theorem gEv_hyps :
    Closed gEv.nodes ∧ ConstWF gEv.nodes ∧ InputWF gEv.nodes ∧ MetaWF gEv.nodes ∧ VecWF gEv.nodes ∧
    TyOK (semE exTab) inpEv none rndEv (tyvE exTab) gEv.nodes ∧
    ValOK okV (semE exTab) inpEv none rndEv gEv.nodes :=
  ⟨closed_of_closedFrom _ (by decide), by unfold ConstWF; decide, by unfold InputWF; decide,
   by unfold MetaWF; decide, vecWF_of_check (by decide),
   tyOK_of_map (by decide +kernel), valOK_of_all (fun _ => okVb_spec) (by decide +kernel)⟩

theorem gEv_noFold : noFold orcEv gEv = true := by decide +kernel
theorem gEv_opt : (optimize orcEv gEv).isSome = true := by decide +kernel

-- … the pipeline succeeds on it, so the conclusion holds for it: 15 nodes become 6
-- (x, y, z, GetSlice(x,[1,…]), Get(y,[1]), tuple(y, y, x[1], y[1], z))
example : (optimize orcEv gEv).map (fun r => (r.1.nodes.length, r.1.out, r.2)) =
    some (6, 5, [some 0, some 1, some 2, none, some 1, none, none, some 1, none, some 3, none,
      some 4, none, some 2, some 5]) := by decide +kernel

example : ∃ g' m, optimize orcEv gEv = some (g', m) ∧ ∃ rN : Nat → List VE → VE,
    (∀ i k, Maps m i k →
      (eval (semE exTab) inpEv none rN g'.nodes).getD k none =
        (eval (semE exTab) inpEv none rndEv gEv.nodes).getD i none) ∧
    (eval (semE exTab) inpEv none rN g'.nodes).getD g'.out none =
      (eval (semE exTab) inpEv none rndEv gEv.nodes).getD gEv.out none ∧
    ValOK okV (semE exTab) inpEv none rN g'.nodes := by
  obtain ⟨⟨g', m⟩, hgm⟩ := Option.isSome_iff_exists.mp gEv_opt
  obtain ⟨hc, hcw, hiw, hwf, hvw, hty, hok⟩ := gEv_hyps
  have hout : gEv.out < gEv.nodes.length := by decide +kernel
  have hor := hor_of_noFold (oracle := orcEv) (g := gEv) gEv_noFold (semE exTab)
    (fun i => (eval (semE exTab) inpEv none rndEv gEv.nodes).getD i none)
  obtain ⟨rN, h1, h2, h3⟩ := optimize_sound_eval exTab exTab_inj exTab_st inpEv orcEv gEv g' m rndEv
    hc hcw hiw hwf hvw hty hok hgm hor
  exact ⟨g', m, hgm, rN, h1, h2 hout, h3⟩

-- the source output is the tuple (y, y, x[1], y[1], z), a value that passes `check_type`:
-- typed values of the evaluator model, nothing degenerate
example : ((eval (semE exTab) inpEv none rndEv gEv.nodes).getD gEv.out none).map (fun v => hasTypeB v.1 v.2) =
    some true := by decide +kernel

end Evaluator

end CCV.C06
