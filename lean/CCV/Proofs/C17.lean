import CCV.Lemmas.Adder
import CCV.Lemmas.Clip
import CCV.Lemmas.Division
import CCV.Lemmas.DivisionSigned
import Mathlib.Tactic.LinearCombination
/-
  C17 — bit-level arithmetic helpers are exact.
  Theorems about the executable models `CCV.Adder.binaryAdd`, `CCV.Mux.muxBit/muxBits/muxInt`,
  `CCV.Clip.clip2k`, `CCV.Division.longDivision` (of these the model driver runs `binaryAdd`, `muxBit`,
  `muxInt`, `clip2k`, `longDivision`; `calculateCarryBits` and `muxBits` are modelled but not driven).
  Bit strings are little-endian (`val`), `n = 2^m` is the word length.
-/
namespace CCV.C17
open CCV.Adder CCV.Mux CCV.Clip CCV.Division

/-- (propagate, generate) composition acts on carries by composition — the law the segment tree
    rests on (`run_pairUp`) — and is, in addition, associative. -/
theorem carry_composition (a b c : PG) (cin : Bool) :
    joinPG (joinPG a b) c = joinPG a (joinPG b c) ∧
    applyPG (joinPG a b) cin = applyPG b (applyPG a cin) :=
  ⟨joinPG_assoc a b c, applyPG_join a b cin⟩

example : joinPG (joinPG (true, false) (false, true)) (true, false) = (false, true) := by decide

/-- `calculate_carry_bits` on a word of `2^m` (propagate, generate) pairs returns exactly the prefix
    carries `carry[0..n-1]` (carry[i] = carry into position i) and, if requested, `carry[n]`;
    both `overflow_bit` variants, including the 1- and 2-bit special cases. -/
theorem carry_tree_correct (m : Nat) (ov : Bool) (pg : List PG) (h : pg.length = 2 ^ m) :
    calculateCarryBits pg ov
      = .ok (prefixCarries false pg pg.length, if ov then some (run false pg) else none) := by
  rw [← carryCore_spec pg ov m h]
  simp [calculateCarryBits, h, isPow2_pow]

example : calculateCarryBits [(true, false), (false, true), (true, false), (true, false)] true
    = .ok ([false, false, true, true], some true) := by rfl

/-- `BinaryAdd{overflow_bit}` for every power-of-two width `n = 2^m` and all operands: the sum bits
    encode `(a + b) mod 2^n`, the overflow bit (when requested) is `(a + b) / 2^n`. -/
theorem binaryAdd_correct (m : Nat) (ov : Bool) (a b : List Bool)
    (ha : a.length = 2 ^ m) (hb : b.length = 2 ^ m) :
    ∃ s, binaryAdd ov a b
        = .ok (s, if ov then some (decide ((val a + val b) / 2 ^ (2 ^ m) = 1)) else none)
      ∧ s.length = 2 ^ m ∧ val s = (val a + val b) % 2 ^ (2 ^ m) := by
  refine ⟨(addCore ov a b).1, ?_, addCore_length ov a b m ha hb, (addCore_spec ov a b m ha hb).1⟩
  have h2 := (addCore_spec ov a b m ha hb).2
  simp only [binaryAdd, ha, hb, isPow2_pow, if_true]
  rw [← h2]

/-- the same for numbers: any `x y`, reduced modulo `2^n` by `bitsOf`. -/
theorem binaryAdd_nat (m : Nat) (ov : Bool) (x y : Nat) :
    ∃ s, binaryAdd ov (bitsOf (2 ^ m) x) (bitsOf (2 ^ m) y)
        = .ok (s, if ov then some (decide ((x % 2 ^ 2 ^ m + y % 2 ^ 2 ^ m) / 2 ^ (2 ^ m) = 1)) else none)
      ∧ s.length = 2 ^ m ∧ val s = (x + y) % 2 ^ (2 ^ m) := by
  obtain ⟨s, h1, h2, h3⟩ := binaryAdd_correct m ov (bitsOf (2 ^ m) x) (bitsOf (2 ^ m) y)
    (bitsOf_length _ _) (bitsOf_length _ _)
  rw [val_bitsOf, val_bitsOf] at h1 h3
  exact ⟨s, h1, h2, by rw [h3, ← Nat.add_mod]⟩

example : binaryAdd true (bitsOf 8 200) (bitsOf 8 100) = .ok (bitsOf 8 44, some true) := by rfl
example : binaryAdd false (bitsOf 2 3) (bitsOf 2 3) = .ok (bitsOf 2 2, none) := by rfl
example : binaryAdd false [true] [true] = .ok ([false], none) := by rfl

/-- widths that are not powers of two are rejected. -/
theorem binaryAdd_rejects (ov : Bool) (a b : List Bool) (h : isPow2 a.length = false) :
    ∃ e, binaryAdd ov a b = .error e := by
  unfold binaryAdd
  by_cases hl : a.length = b.length
  · rw [if_pos hl, h]
    exact ⟨_, rfl⟩
  · simp [hl]

example : ∃ e, binaryAdd false [true, false, true] [true, true, true] = .error e :=
  binaryAdd_rejects _ _ _ (by decide)

/-- bit choices: the second operand where the flag is 1, the third where it is 0. -/
theorem muxBit_correct (flag c1 c0 : Bool) : muxBit flag c1 c0 = if flag then c1 else c0 :=
  muxBit_eq flag c1 c0

theorem muxBits_correct (flag : Bool) (c1 c0 : List Bool) (h : c1.length = c0.length) :
    muxBits flag c1 c0 = if flag then c1 else c0 :=
  muxBits_eq flag c1 c0 h

example : muxBits true [true, false] [false, true] = [true, false] := by decide

/-- The property's claim for non-bit choices (residues modulo `2^w`): second operand where the flag is 1. -/
def muxIntStatement : Prop :=
  ∀ (w : Nat) (flag : Bool) (c1 c0 : Nat), c1 < 2 ^ w → c0 < 2 ^ w →
    muxInt w flag c1 c0 = if flag then c1 else c0

/-- non-bit choices, all widths and residues: the second operand where the flag is 1, the third where it is 0. -/
theorem muxInt_correct : muxIntStatement := by
  intro w flag c1 c0 h1 h0
  cases flag <;> simp [muxInt, mixedMul, Nat.mod_eq_of_lt, h1, h0]

example : muxInt 32 true 11 21 = 11 := by decide

/-- `Clip2K{k}` for every width `n ≥ k + 2` (the code's admission test) and every input, read as a
    signed integer: 0 for negative inputs, `2^k` for inputs of at least `2^k`, the input otherwise
    (the result is a non-negative number below `2^(n-1)`, so `val` is also its signed value). -/
theorem clip_correct (k : Nat) (x : List Bool) (h : k + 2 ≤ x.length) :
    ∃ r, clip2k k x = .ok r ∧ r.length = x.length ∧
      (val r : Int) = if sval x < 0 then 0 else if (2 : Int) ^ k ≤ sval x then 2 ^ k else sval x := by
  refine ⟨clipCore k x, by rw [clip2k, if_neg (by omega)], (clipCore_val k x h).1, ?_⟩
  have hp : ((2 ^ k : Nat) : Int) = (2 : Int) ^ k := Int.natCast_pow 2 k
  have hn := sval_neg_iff x
  rw [(clipCore_val k x h).2, ← hp]
  cases hm : msb x
  · have hs : sval x = (val x : Int) := by simp [sval, hm]
    rw [hs]
    simp only [Bool.false_eq_true, if_false]
    by_cases hk : 2 ^ k ≤ val x
    · rw [if_pos hk, if_neg (by omega), if_pos (by omega)]
    · rw [if_neg hk, if_neg (by omega), if_neg (by omega)]
  · rw [if_pos (hn.mpr hm)]
    rfl

/-- `k ≥ n - 1` is rejected. -/
theorem clip_rejects (k : Nat) (x : List Bool) (h : x.length < k + 2) : ∃ e, clip2k k x = .error e := by
  simp only [clip2k]
  rw [if_pos (by omega)]
  exact ⟨_, rfl⟩

-- 8-bit inputs, k = 2: 3 ↦ 3, 4 ↦ 4, 100 ↦ 4, -3 ↦ 0
example : clip2k 2 (bitsOf 8 3) = .ok (bitsOf 8 3) := by rfl
example : clip2k 2 (bitsOf 8 4) = .ok (bitsOf 8 4) := by rfl
example : clip2k 2 (bitsOf 8 100) = .ok (bitsOf 8 4) := by rfl
example : clip2k 2 (bitsOf 8 253) = .ok (bitsOf 8 0) := by rfl
example : sval (bitsOf 8 253) = -3 := by decide

/-- `FlooredDiv a d q r` (Model/Division.lean) does determine quotient and remainder. -/
theorem flooredDiv_unique (a d q r q' r' : Int) (h : FlooredDiv a d q r) (h' : FlooredDiv a d q' r') :
    q = q' ∧ r = r' := by
  obtain ⟨e, b⟩ := h
  obtain ⟨e', b'⟩ := h'
  -- `d` divides `r' - r`, which is smaller than `d` in absolute value
  have hk : (q - q') * d = r' - r := by linear_combination e' - e
  have hdvd : d ∣ r' - r := ⟨q - q', by rw [← hk, Int.mul_comm]⟩
  have h0 := Int.eq_zero_of_dvd_of_natAbs_lt_natAbs hdvd (by omega)
  rw [h0] at hk
  rcases Int.mul_eq_zero.mp hk with hq | hd <;> omega

example : FlooredDiv (-7) 2 (-4) 1 := by unfold FlooredDiv; omega
example : FlooredDiv 7 (-2) (-4) (-1) := by unfold FlooredDiv; omega

def reading (signed : Bool) (x : List Bool) : Int := if signed then sval x else (val x : Int)

/-- The property's claim for `LongDivision{signed}`: for words of `2^ma` / `2^md` bits (at least 2 bits)
    and every non-zero divisor, quotient and remainder are those of floored division (the quotient
    modulo `2^n`, which only matters for `min / -1`).  A `def`, so that the claim has a name of its own;
    the theorem is `longDivision_correct`. -/
def longDivisionStatement : Prop :=
  ∀ (signed : Bool) (ma md : Nat) (a d : List Bool), 1 ≤ ma → 1 ≤ md →
    a.length = 2 ^ ma → d.length = 2 ^ md → reading signed d ≠ 0 →
    ∃ q r qz, longDivision signed a d = .ok (q, r) ∧ q.length = a.length ∧ r.length = d.length ∧
      FlooredDiv (reading signed a) (reading signed d) qz (reading signed r) ∧
      (val q : Int) = qz % ((2 ^ a.length : Nat) : Int)

/-- the loop invariant of the restoring iteration (`single_iteration_graph` iterated over the dividend
    bits, most significant first), for every divisor width `n = 2^m`, every `D < 2^n` and `M` holding
    `2^n - D`: `2^|bs| · r₀ + bs = q · D + r ∧ r < D`, provided `r₀ < D`. -/
theorem longDivision_loop_invariant (m : Nat) (M : List Bool) (D : Nat)
    (hM : M.length = 2 ^ m) (hD0 : 0 < D) (hD : D < 2 ^ (2 ^ m)) (hMv : val M = 2 ^ (2 ^ m) - D)
    (bs rem : List Bool) (hr : rem.length = 2 ^ m) (hv : val rem < D) :
    2 ^ bs.length * val rem + val bs.reverse
        = val (iterateBits M rem bs).2.reverse * D + val (iterateBits M rem bs).1 ∧
      val (iterateBits M rem bs).1 < D :=
  (iterateBits_spec m M D hM hD hMv bs rem hr hv).2.2

example : (iterateBits (bitsOf 4 (16 - 5)) (bitsOf 4 0) (bitsOf 4 13).reverse)
    = (bitsOf 4 3, (bitsOf 4 2).reverse) := by decide +kernel

theorem longDivision_ok (signed : Bool) (a d : List Bool)
    (h : (isPow2 d.length && decide (d.length ≥ 2)
      && (!signed || (isPow2 a.length && decide (a.length ≥ 2))) && decide (a.length ≥ 1)) = true) :
    longDivision signed a d = .ok (longDivisionCore signed a d) := by
  simp only [longDivision]
  rw [if_pos h]

/-- unsigned mode, divisor width `w = 2^md ≥ 2`, any dividend width, every non-zero divisor:
    exact quotient and remainder. -/
theorem longDivision_unsigned (md : Nat) (a d : List Bool) (hmd : 1 ≤ md) (ha : 1 ≤ a.length)
    (hd : d.length = 2 ^ md) (h0 : val d ≠ 0) :
    ∃ q r, longDivision false a d = .ok (q, r) ∧ q.length = a.length ∧ r.length = d.length ∧
      val q = val a / val d ∧ val r = val a % val d := by
  have hw : 2 ≤ 2 ^ md := Nat.pow_le_pow_right Nat.zero_lt_two hmd
  have hl := divLoop_spec md a d hd (by omega)
  simp only at hl
  rw [longDivision_ok _ _ _ (by simp [hd, isPow2_pow, hw, ha])]
  exact ⟨_, _, rfl, hl.2.1, hl.1.trans hd.symm, hl.2.2.1, hl.2.2.2⟩

example : longDivision false (bitsOf 16 799) (bitsOf 8 100) = .ok (bitsOf 16 7, bitsOf 8 99) := by
  rw [longDivision_ok _ _ _ (by decide)]
  exact congrArg _ (by decide +kernel)

-- a divisor above `2^(w-1)`: the quotient bit has to take the bit shifted out of the remainder into account
example : longDivision false (bitsOf 16 799) (bitsOf 8 200) = .ok (bitsOf 16 3, bitsOf 8 199) := by
  rw [longDivision_ok _ _ _ (by decide)]
  exact congrArg _ (by decide +kernel)

/-- signed mode, widths `2^ma` / `2^md` (at least 2 bits), every non-zero divisor: quotient (modulo `2^n`,
    which only matters for `min / -1`) and remainder of floored division; the remainder has the
    divisor's sign. -/
theorem longDivision_signed (ma md : Nat) (a d : List Bool) (hma : 1 ≤ ma) (hmd : 1 ≤ md)
    (ha : a.length = 2 ^ ma) (hd : d.length = 2 ^ md) (h0 : sval d ≠ 0) :
    ∃ q r qz, longDivision true a d = .ok (q, r) ∧ q.length = a.length ∧ r.length = d.length ∧
      FlooredDiv (sval a) (sval d) qz (sval r) ∧ (val q : Int) = qz % ((2 ^ a.length : Nat) : Int) := by
  have hwa : 2 ≤ 2 ^ ma := Nat.pow_le_pow_right Nat.zero_lt_two hma
  have hwd : 2 ≤ 2 ^ md := Nat.pow_le_pow_right Nat.zero_lt_two hmd
  obtain ⟨a1, a2, a3, _⟩ := abs_spec ma a ha
  obtain ⟨d1, d2, d3, d4⟩ := abs_spec md d hd
  have hD0 : 0 < val (Division.abs true d).2 := by
    rw [d3] at h0
    split at h0 <;> omega
  obtain ⟨l1, l2, l3, l4⟩ := divLoop_spec md (Division.abs true a).2 (Division.abs true d).2 d2 hD0
  rw [d2, ← hd] at l1 l2 l3 l4
  obtain ⟨qz, j1, j2, hf, hq⟩ := adjustNegative_floored ma md a d _ _ _ _ (l2.trans a2) (l1.trans hd) d2 a3 d3 d4
    hD0 l3 l4
  rw [← longDivisionCore_signed] at j1 j2 hf hq
  refine ⟨(longDivisionCore true a d).1, (longDivisionCore true a d).2, qz, ?_, j1.trans ha.symm,
    j2.trans hd.symm, hf, by rw [ha]; exact hq⟩
  rw [longDivision_ok _ _ _ (by simp [ha, hd, isPow2_pow, hwa, hwd]; omega)]

-- -7 / 2 = -4 rem 1;  7 / -2 = -4 rem -1;  -128 / -1 wraps to -128 rem 0 (8-bit)
example : longDivisionCore true (bitsOf 8 249) (bitsOf 8 2) = (bitsOf 8 252, bitsOf 8 1) := by decide +kernel
example : longDivisionCore true (bitsOf 8 7) (bitsOf 8 254) = (bitsOf 8 252, bitsOf 8 255) := by decide +kernel
example : longDivisionCore true (bitsOf 8 128) (bitsOf 8 255) = (bitsOf 8 128, bitsOf 8 0) := by decide +kernel

/-- `LongDivision{signed}` is floored division for every non-zero divisor, both modes, all widths
    `2^ma` / `2^md ≥ 2`. -/
theorem longDivision_correct : longDivisionStatement := by
  intro signed ma md a d hma hmd ha hd h0
  cases signed
  · have hv : val d ≠ 0 := by
      intro h; apply h0; simp [reading, h]
    have hal : 1 ≤ a.length := by rw [ha]; exact Nat.two_pow_pos _
    obtain ⟨q, r, hok, hq, hr, hvq, hvr⟩ := longDivision_unsigned md a d hmd hal hd hv
    refine ⟨q, r, (val q : Int), hok, hq, hr, ?_, hq ▸ (enc_val q).emod⟩
    have hdm := Nat.div_add_mod (val a) (val d)
    have hlt := Nat.mod_lt (val a) (Nat.pos_of_ne_zero hv)
    rw [← hvq, ← hvr, Nat.mul_comm] at hdm
    rw [← hvr] at hlt
    simp only [reading, Bool.false_eq_true, if_false, FlooredDiv]
    exact ⟨by exact_mod_cast hdm.symm, Or.inl ⟨Int.natCast_nonneg _, Int.ofNat_lt.mpr hlt⟩⟩
  · simp only [reading, if_true] at h0 ⊢
    exact longDivision_signed ma md a d hma hmd ha hd h0

example : ∃ q r qz, longDivision false (bitsOf 16 799) (bitsOf 8 200) = .ok (q, r) ∧ q.length = 16 ∧ r.length = 8 ∧
    FlooredDiv 799 200 qz (reading false r) ∧ (val q : Int) = qz % ((2 ^ 16 : Nat) : Int) := by
  have := longDivision_correct false 4 3 (bitsOf 16 799) (bitsOf 8 200) (by decide) (by decide)
    (bitsOf_length 16 799) (bitsOf_length 8 200) (by decide)
  simpa [reading, val_bitsOf] using this

end CCV.C17
