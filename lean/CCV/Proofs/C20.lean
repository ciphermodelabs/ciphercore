import CCV.Lemmas.ApproxPwl
import CCV.Lemmas.ApproxInit
import CCV.Lemmas.ApproxNewton
import CCV.Lemmas.ApproxSqrt
import CCV.Lemmas.ApproxGold
/-
  C20 — approximate numeric operations stay close to the real function.
  Theorems about the executable model `CCV/Model/Approx.lean` (the functions the driver runs).
  Error statements are over ℤ with denominators cleared (`P = 2^c`, `E = P - x·d` is `P` times the
  relative error `1 - x·d/2^c`); each is the ℚ statement multiplied through by positive powers of 2.

  NOT decided here (see props/C20.json `not_covered`): the distance of the exponent / sigmoid / GELU
  tables to the REAL transcendental functions.  `pwl_select_interpolate_partial` gives selection +
  interpolation exactness for arbitrary tables; `ClosenessStatement` records what is missing.
-/
namespace CCV.C20
open CCV.Approx

/-- FixedMultiply (INT64) for every precision `p` and all operands whose product does not overflow,
    both signs: `|r - a·b/2^p| < 1` (cleared: `|r·2^p - a·b| < 2^p`), rounded toward zero. -/
theorem fixedMul_within_one_unit {a b : Int} (p : Nat) (h0 : -(2 ^ 63) ≤ a * b) (h1 : a * b < 2 ^ 63) :
    (fixedMul 64 a b p * 2 ^ p - a * b < 2 ^ p ∧ a * b - fixedMul 64 a b p * 2 ^ p < 2 ^ p) ∧
    (0 ≤ a * b → fixedMul 64 a b p * 2 ^ p ≤ a * b) ∧
    (a * b ≤ 0 → a * b ≤ fixedMul 64 a b p * 2 ^ p) := by
  have hD : (0:Int) < 2 ^ p := two_pow_pos' p
  have hw : fixedMul 64 a b p = trunc (a * b) (2 ^ p) := by
    unfold fixedMul mulFixed mul; rw [wrap64_signed h0 h1]
  rw [hw]
  have h := trunc_within_unit (y := a * b) hD
  refine ⟨?_, fun hs => (h.1 hs).1, fun hs => (h.2 hs).1⟩
  rcases le_total 0 (a * b) with hs | hs
  · have := h.1 hs
    omega
  · have := h.2 hs
    omega

example : fixedMul 64 (-98304) 65536 15 = -196608 := by decide
example : fixedMul 64 (-7) 3 2 = -5 ∧ fixedMul 64 7 3 2 = 5 := by decide

/-- debug mode: when the overflow check passes (and neither operand is 0 or -1, for which the
    check is vacuous) the product is at most `2^57` in absolute value: no wrap, and the result is the
    one of `fixedMul_within_one_unit`. -/
theorem fixedMulDebug_sound {a b r : Int} (p : Nat) (h : fixedMulDebug 64 a b p = some r)
    (hx0 : flipNeg a ≠ 0) (hy0 : flipNeg b ≠ 0) :
    -(2 ^ 57) ≤ a * b ∧ a * b ≤ 2 ^ 57 ∧ r = fixedMul 64 a b p := by
  unfold fixedMulDebug at h
  split at h
  · rename_i hs
    have := mulSafe_sound hs hx0 hy0
    exact ⟨this.1, this.2, by injection h with h; exact h.symm⟩
  · cases h

example : fixedMulDebug 64 (2 ^ 30) (2 ^ 30) 15 = none := by decide
example : fixedMulDebug 64 65536 (-98304) 15 = some (-196608) := by decide

/-- `inverse_initial_approximation`: for every cap `c ≤ 64` and every `0 < d < 2^c` the guess `g`
    satisfies `2^(c-1) ≤ g·d < 2^c`, i.e. `2^c/(2d) ≤ g < 2^c/d`: within a factor 2 below the exact
    reciprocal (`e₀ = 1 - g·d/2^c ∈ (0, 1/2]`). -/
theorem initial_guess_bracket {c : Nat} {d : Int} (hc : c ≤ 64) (h0 : 0 < d) (hd : d < 2 ^ c) :
    2 ^ (c - 1) ≤ initInv 64 c d * d ∧ initInv 64 c d * d < 2 ^ c :=
  initInv_bracket hc (by decide) h0 hd

example : initInv 64 10 3 = 256 ∧ initInv 64 10 1023 = 1 ∧ initInv 64 10 512 = 1 := by decide +kernel

/-- `inverse_sqrt_initial_approximation`: for every cap `c ≤ 32` and `0 < d < 4^c` the guess
    satisfies `4^(c-1) ≤ g²·d < 4^c`, i.e. `2^c/(2√d) ≤ g < 2^c/√d`. -/
theorem initial_sqrt_guess_bracket {c : Nat} {d : Int} (hc : 2 * c ≤ 64) (h0 : 0 < d) (hd : d < 4 ^ c) :
    4 ^ (c - 1) ≤ initSqrt 64 c d * initSqrt 64 c d * d ∧ initSqrt 64 c d * initSqrt 64 c d * d < 4 ^ c :=
  initSqrt_bracket hc (by decide) h0 hd

example : initSqrt 64 10 17 = 128 ∧ initSqrt 64 10 1000000 = 1 := by decide +kernel

/-- one-step error recurrence, exact: `P·E' = E² + r·d` with the rounding remainder `0 ≤ r < P`
    (`e' = e² + (r/P)(d/P)`: the square of the error plus a rounding term below `δ = d/2^c`),
    for every cap `c ≤ 29` (above, the i32 constant of the code is wrong), both signednesses, every
    `d > 0` and every iterate with `0 ≤ x`, `x·d ≤ 2^c`. -/
theorem newton_step_error (sg : Bool) {c : Nat} {d x : Int} (hc : c ≤ 29) (hd : 0 < d)
    (hx : 0 ≤ x) (hxd : x * d ≤ 2 ^ c) :
    ∃ r : Int, 0 ≤ r ∧ r < 2 ^ c ∧
      2 ^ c * (2 ^ c - newtonStep sg 64 c d x * d) = (2 ^ c - x * d) ^ 2 + r * d :=
  newton_error_recurrence sg hc hd hx hxd

example : newtonStep false 64 10 3 256 = 320 ∧ newtonStep true 64 10 3 320 = 340 := by decide

/-- n-step bound by induction on n: from `2^(c-1) ≤ x₀·d ≤ 2^c` (`0 ≤ e₀ ≤ 1/2`), after `n ≥ 1`
    iterations `0 ≤ e_n ≤ 2^(-2^n) + 4·d/2^c` (cleared: `2^(2^n)·E_n ≤ 2^c + 4·d·2^(2^n)`), and the
    iterate never exceeds `2^c/d`. -/
theorem newton_n_steps (sg : Bool) {c : Nat} {d x : Int} (hc : c ≤ 29) (hc1 : 1 ≤ c) (hd : 0 < d)
    (hd16 : 16 * d ≤ 2 ^ c) (hx : 0 ≤ x) (hlo : 2 ^ (c - 1) ≤ x * d) (hxd : x * d ≤ 2 ^ c)
    (n : Nat) (hn : 1 ≤ n) :
    let y := newtonIter sg 64 c d n x
    0 ≤ y ∧ y * d ≤ 2 ^ c ∧ 2 ^ (2 ^ n) * (2 ^ c - y * d) ≤ 2 ^ c + 4 * d * 2 ^ (2 ^ n) := by
  obtain ⟨m, rfl⟩ : ∃ m, n = m + 1 := ⟨n - 1, by omega⟩
  have : NewtonInv c d (1 + m) _ :=
    newtonInv_iter sg hc hd hd16 m 1 _ (le_refl 1) (newtonInv_first sg hc hd hc1 hx hlo hxd)
  rw [Nat.add_comm] at this
  exact this

/-- the operation as instantiated without a supplied approximation (bit-derived guess): for every
    cap `c ≤ 29`, every divisor `0 < d ≤ 2^c/16` (so `4 ≤ c`) and every iteration count `n ≥ 1` the
    result `y` satisfies `0 ≤ 1 - y·d/2^c ≤ 2^(-2^n) + 4·d/2^c`. -/
theorem newton_inversion_error (sg : Bool) {c : Nat} {d : Int} (hc : c ≤ 29) (hc1 : 1 ≤ c) (hd : 0 < d)
    (hd16 : 16 * d ≤ 2 ^ c) (n : Nat) (hn : 1 ≤ n) :
    ∃ y, newton sg 64 c n d none = some y ∧
      0 ≤ y ∧ y * d ≤ 2 ^ c ∧ 2 ^ (2 ^ n) * (2 ^ c - y * d) ≤ 2 ^ c + 4 * d * 2 ^ (2 ^ n) := by
  have hdc : d < 2 ^ c := by omega
  have hb := initInv_bracket (s := 64) (by omega) (by decide) hd hdc
  refine ⟨newtonIter sg 64 c d n (initInv 64 c d), ?_,
    newton_n_steps sg hc hc1 hd hd16 (initInv_nonneg ..) hb.1 (le_of_lt hb.2) n hn⟩
  unfold newton; rw [if_neg (by omega)]

example : newton false 64 10 5 3 none = some 341 := by decide
-- the hypothesis `16·d ≤ 2^c` of the theorem at `c = 10`, `d = 3`
example : (16:Int) * 3 ≤ 2 ^ 10 := by decide

/-- **the cap range `c ≤ 29` of the Newton theorems is the full range in which the code is right**:
    the constant built from the `i32` literal `1 << (cap + 1)` equals `2^(c+1)` iff `c ≤ 29`, for both
    signednesses (`c = 30`: `i32::MIN`; `c ≥ 31`: the shift amount wraps modulo 32).  Wrap-around of
    the 64-bit products would only start at `c = 31` (`(2^(c+1) − x·d)·x < 2^(2c+1)`), so the limit is
    the literal, not the type: with `1u128 <<` (as in GoldschmidtDivision) `c = 30` would be covered. -/
theorem newton_cap_range (sg : Bool) (c : Nat) : newtonConst sg 64 c = 2 ^ (c + 1) ↔ c ≤ 29 := by
  refine ⟨fun h => ?_, newtonConst_eq sg⟩
  by_contra hc
  have hbig : (2:Int) ^ 31 ≤ 2 ^ (c + 1) := two_pow_le_two_pow (by omega)
  unfold newtonConst i32Shl1 at h
  split at h
  · -- constant −2^31
    cases sg
    · have e : wrap false 64 (-(2 ^ 31)) = 2 ^ 64 - 2 ^ 31 := by decide
      rw [e] at h
      rcases Nat.lt_or_ge (c + 1) 64 with h64 | h64
      · have : (2:Int) ^ (c + 1) ≤ 2 ^ 63 := two_pow_le_two_pow (by omega)
        omega
      · have : (2:Int) ^ 64 ≤ 2 ^ (c + 1) := two_pow_le_two_pow h64
        omega
    · have e : wrap true 64 (-(2 ^ 31)) = -(2 ^ 31) := by decide
      rw [e] at h
      omega
  · have hle : (2:Int) ^ ((c + 1) % 32) ≤ 2 ^ 30 := two_pow_le_two_pow (by omega)
    have hpos : (0:Int) < 2 ^ ((c + 1) % 32) := two_pow_pos' _
    rw [wrap64_nonneg sg (le_of_lt hpos) (by omega)] at h
    omega

/-- at cap 30 the conclusion of `newton_step_error` fails: from the bit-derived guess `2^28` for
    `d = 3` (`x·d ≤ 2^30` holds) the next iterate is negative -/
example : newtonConst true 64 30 = -(2 ^ 31) ∧ initInv 64 30 3 = 2 ^ 28
    ∧ newtonStep true 64 30 3 (2 ^ 28) = -738197504 := by decide +kernel

/-- InverseSqrt, one iteration, caps `2 ≤ c ≤ 30`, both signednesses, every `d > 0` and iterate with
    `0 ≤ x`, `d·x² ≤ (2^c+2)²` — the guard that IS invariant under the iteration (`d·x² ≤ 4^c` is not:
    the first floor pushes the step up, see the example below): nothing wraps and the step is
    `x' = ⌊(3·2^(c-1) - ⌊d·x²/2^(c+1)⌋)·x / 2^c⌋` (`x·(3/2 - d·x²/2)` in fixed point, two truncations). -/
theorem inverse_sqrt_step_formula (sg : Bool) {c : Nat} {d x : Int} (hc2 : 2 ≤ c) (hc : c ≤ 30)
    (hd : 0 < d) (hx : 0 ≤ x) (hdx : d * x * x ≤ (2 ^ c + 2) * (2 ^ c + 2)) :
    sqrtStep sg 64 c d x = ((3 * 2 ^ (c - 1) - (d * x * x) / 2 ^ (c + 1)) * x) / 2 ^ c :=
  sqrtStep_eq sg hc2 hc hd hx hdx

/-- corollary under the narrower guard `d·x² ≤ 4^c`. -/
theorem inverse_sqrt_step_formula_partial (sg : Bool) {c : Nat} {d x : Int} (hc2 : 2 ≤ c) (hc : c ≤ 30)
    (hd : 0 < d) (hx : 0 ≤ x) (hdx : d * x * x ≤ 4 ^ c) :
    sqrtStep sg 64 c d x = ((3 * 2 ^ (c - 1) - (d * x * x) / 2 ^ (c + 1)) * x) / 2 ^ c :=
  sqrtStep_eq sg hc2 hc hd hx (sqrt_guard_of_le hdx)

example : sqrtStep false 64 10 17 128 = 175 := by decide
/-- the iterate can overshoot `2^c/√d`: `3·36² = 3888 ≤ 4^6 = 4096 < 4107 = 3·37²` -/
example : sqrtStep false 64 6 3 36 = 37 := by decide

/-- **one-step error recurrence of InverseSqrt**, with the two floors explicit.  `Q = 4^c`,
    `E = Q − d·x²` (`e = E/Q = 1 − d·x²/4^c`), `y` the next iterate, `E' = Q − d·y²`:
    * exact linear form with both remainders: `2Q·y = (2Q + E + r₁)·x − 2·2^c·r₂`,
      `0 ≤ r₁ < 2^(c+1)` (floor of `d·x²/2^(c+1)`), `0 ≤ r₂ < 2^c` (final floor) — without them
      `y = x·(3 − u)/2`, whose error is exactly `(3e² + e³)/4`;
    * the guard is invariant: `0 ≤ y`, `d·y² ≤ (2^c+2)²`;
    * upper: `4Q²·E' < E²·(3Q + E) + 4Q²·d·(2y+1)`, i.e. `e' < (3e²+e³)/4 + d·(2y+1)/4^c`
      (quadratic term + at most one unit of `y` lost in the final floor);
    * lower: `4Q²·E' ≥ E²·(3Q + E) − (4·2^c·(3Q − D) + 4Q)·D`, `D = d·x²`
      (the first floor raises `y` by less than `x/2^c`). -/
theorem inverse_sqrt_step_error (sg : Bool) {c : Nat} {d x : Int} (hc2 : 2 ≤ c) (hc : c ≤ 30) (hd : 0 < d)
    (hx : 0 ≤ x) (hdx : d * x * x ≤ (2 ^ c + 2) * (2 ^ c + 2)) :
    (∃ r₁ r₂ : Int, 0 ≤ r₁ ∧ r₁ < 2 ^ (c + 1) ∧ 0 ≤ r₂ ∧ r₂ < 2 ^ c ∧
      2 * 4 ^ c * sqrtStep sg 64 c d x = (2 * 4 ^ c + (4 ^ c - d * x * x) + r₁) * x - 2 * 2 ^ c * r₂) ∧
    0 ≤ sqrtStep sg 64 c d x ∧
    d * sqrtStep sg 64 c d x * sqrtStep sg 64 c d x ≤ (2 ^ c + 2) * (2 ^ c + 2) ∧
    4 * 4 ^ c * 4 ^ c * (4 ^ c - d * sqrtStep sg 64 c d x * sqrtStep sg 64 c d x)
      < (4 ^ c - d * x * x) ^ 2 * (3 * 4 ^ c + (4 ^ c - d * x * x))
        + 4 * 4 ^ c * 4 ^ c * (d * (2 * sqrtStep sg 64 c d x + 1)) ∧
    (4 ^ c - d * x * x) ^ 2 * (3 * 4 ^ c + (4 ^ c - d * x * x))
        - (4 * 2 ^ c * (3 * 4 ^ c - d * x * x) + 4 * 4 ^ c) * (d * x * x)
      ≤ 4 * 4 ^ c * 4 ^ c * (4 ^ c - d * sqrtStep sg 64 c d x * sqrtStep sg 64 c d x) := by
  obtain ⟨r₁, r₂, h1, h2, h3, h4, _, h5⟩ := sqrtStep_linear sg hc2 hc hd hx hdx
  refine ⟨⟨r₁, r₂, h1, h2, h3, h4, ?_⟩, sqrt_error_recurrence sg hc2 hc hd hx hdx⟩
  rw [h5]; ring

/-- non-vacuity: c = 10, d = 17, x = 175 ↦ 219: `E = 527951`, `E' = 233239`;
    `4Q²E' ≈ 1.026·10^18 < E²(3Q+E) + 4Q²·d·(2y+1) ≈ 1.057·10^18` -/
example : sqrtStep true 64 10 17 175 = 219 ∧ (17:Int) * 175 * 175 ≤ (2 ^ 10 + 2) * (2 ^ 10 + 2)
    ∧ (4:Int) * 4 ^ 10 * 4 ^ 10 * (4 ^ 10 - 17 * 219 * 219)
      < (4 ^ 10 - 17 * 175 * 175) ^ 2 * (3 * 4 ^ 10 + (4 ^ 10 - 17 * 175 * 175))
        + 4 * 4 ^ 10 * 4 ^ 10 * (17 * (2 * 219 + 1)) := by decide +kernel

/-- the recurrence in a coarse quadratic form: for `0 ≤ e ≤ 1`, `e' ≤ e² + 4·d·(y+1)/4^c`
    (the hypothesis `4^(c-1) ≤ d·x²` is not needed). -/
def InverseSqrtErrorStatement : Prop :=
  ∀ (sg : Bool) (c : Nat) (d x : Int), 2 ≤ c → c ≤ 30 → 0 < d → 0 ≤ x → d * x * x ≤ 4 ^ c →
    4 ^ (c - 1) ≤ d * x * x →
    let y := sqrtStep sg 64 c d x
    4 ^ c * (4 ^ c - d * y * y) ≤ (4 ^ c - d * x * x) ^ 2 + 4 ^ c * (4 * d * (y + 1))

/-- a weakening of the upper recurrence of `inverse_sqrt_step_error`: `e ≤ 1` turns the cubic
    `(3e²+e³)/4` into `e²`, and `d·(2y+1) ≤ 4·d·(y+1)`. -/
theorem inverse_sqrt_error_statement : InverseSqrtErrorStatement := by
  intro sg c d x hc2 hc hd hx hdx _
  have hQ : (0:Int) < 4 ^ c := Int.pow_pos (by decide)
  obtain ⟨hy, _, hup, _⟩ := sqrt_error_recurrence sg hc2 hc hd hx (sqrt_guard_of_le hdx)
  have hdxx0 : 0 ≤ d * x * x := mul_nonneg (mul_nonneg (le_of_lt hd) hx) hx
  have h1 := cubic_to_quad hQ (by omega) hup
  have h2 : 0 ≤ 4 ^ c * (d * (2 * sqrtStep sg 64 c d x + 3)) :=
    mul_nonneg (le_of_lt hQ) (mul_nonneg (le_of_lt hd) (by omega))
  show 4 ^ c * (4 ^ c - d * sqrtStep sg 64 c d x * sqrtStep sg 64 c d x)
    ≤ (4 ^ c - d * x * x) ^ 2 + 4 ^ c * (4 * d * (sqrtStep sg 64 c d x + 1))
  linarith only [h1, h2]

/-- **n-step bound of InverseSqrt**, by induction on `n`: from any start with `1/4 ≤ d·x₀²/4^c ≤ 1`
    (`0 ≤ e₀ ≤ 3/4`), for any `T ≥ √d` with rounding budget `ρ = T·(2·2^c + 4 + T)/4^c ≤ 1/16`
    (`ρ ≈ 2√d/2^c`: one unit of the result `2^c/√d`, relative, twice), after `n ≥ 2` iterations the
    iterate `y` satisfies the no-wrap guard `d·y² ≤ (2^c+2)²` (so `e_n ≥ −(4·2^c+4)/4^c`) and
    `e_n = 1 − d·y²/4^c ≤ 2^(-2^(n-1)) + 4ρ` (cleared of denominators). -/
theorem inverse_sqrt_n_steps (sg : Bool) {c : Nat} {d x T : Int} (hc2 : 2 ≤ c) (hc : c ≤ 30) (hd : 0 < d)
    (hT : 0 < T) (hdT : d ≤ T * T) (h16 : 16 * (T * (2 * 2 ^ c + 4 + T)) ≤ 4 ^ c)
    (hx : 0 ≤ x) (hlo : 4 ^ c ≤ 4 * (d * x * x)) (hhi : d * x * x ≤ 4 ^ c) (n : Nat) (hn : 2 ≤ n) :
    let y := sqrtIter sg 64 c d n x
    0 ≤ y ∧ d * y * y ≤ (2 ^ c + 2) * (2 ^ c + 2) ∧
      2 ^ (2 ^ (n - 1)) * (4 ^ c - d * y * y)
        ≤ 4 ^ c + 4 * (T * (2 * 2 ^ c + 4 + T)) * 2 ^ (2 ^ (n - 1)) := by
  obtain ⟨m, rfl⟩ : ∃ m, n = m + 2 := ⟨n - 2, by omega⟩
  have : SqrtInv c d T (1 + m) _ := sqrtInv_iter sg hc2 hc hd hT hdT h16 m 1 _ (le_refl 1)
    (sqrtInv_first_two sg hc2 hc hd hT hdT h16 hx hlo hhi)
  rw [Nat.add_comm] at this
  exact this

/-- the operation as instantiated without a supplied approximation (bit-derived guess): caps
    `c ≤ 30`, every `d > 0` with `ρ ≤ 1/16` (roughly `d ≤ 4^c/1024`; this needs `6 ≤ c`), every
    `n ≥ 2`. -/
theorem inverse_sqrt_error (sg : Bool) {c : Nat} {d T : Int} (hc2 : 2 ≤ c) (hc : c ≤ 30) (hd : 0 < d)
    (hT : 0 < T) (hdT : d ≤ T * T) (h16 : 16 * (T * (2 * 2 ^ c + 4 + T)) ≤ 4 ^ c) (n : Nat) (hn : 2 ≤ n) :
    ∃ y, inverseSqrt sg 64 c n d none = some y ∧
      0 ≤ y ∧ d * y * y ≤ (2 ^ c + 2) * (2 ^ c + 2) ∧
      2 ^ (2 ^ (n - 1)) * (4 ^ c - d * y * y)
        ≤ 4 ^ c + 4 * (T * (2 * 2 ^ c + 4 + T)) * 2 ^ (2 ^ (n - 1)) := by
  have hP : (0:Int) < 2 ^ c := two_pow_pos' c
  have hdc : d < 4 ^ c := by
    have h2 : 0 ≤ T * (2 * 2 ^ c + 4) := mul_nonneg (le_of_lt hT) (by omega)
    linarith only [h16, h2, hdT, hd]
  have hb := initSqrt_bracket (s := 64) (by omega) (by decide) hd hdc
  have h4 : (4:Int) ^ c = 4 ^ (c - 1) * 4 := by
    obtain ⟨k, rfl⟩ : ∃ k, c = k + 1 := ⟨c - 1, by omega⟩
    exact Int.pow_succ 4 k
  have e : d * initSqrt 64 c d * initSqrt 64 c d = initSqrt 64 c d * initSqrt 64 c d * d := by ring
  refine ⟨sqrtIter sg 64 c d n (initSqrt 64 c d), ?_,
    inverse_sqrt_n_steps sg hc2 hc hd hT hdT h16 (initSqrt_nonneg ..) (by rw [e]; omega)
      (by rw [e]; exact le_of_lt hb.2) n hn⟩
  unfold inverseSqrt; rw [if_neg (by omega)]

/-- non-vacuity: c = 10, d = 17, T = 5, 4 iterations: 2^10/√17 = 248.35…, returned 248;
    `2^8·(4^10 − 17·248²) = 770048 ≤ 4^10 + 4·10285·2^8` -/
example : inverseSqrt false 64 10 4 17 none = some 248 ∧ (17:Int) ≤ 5 * 5
    ∧ (16:Int) * (5 * (2 * 2 ^ 10 + 4 + 5)) ≤ 4 ^ 10 := by decide +kernel

/-- denominator sequence of GoldschmidtDivision, caps `≤ 30`, both signednesses: with `E = 2^c - b`,
    `2^c·E' = E² + r`, `0 ≤ r < 2^c` (`e' = e² + r/4^c`): quadratic convergence of `b` to `2^c`;
    nothing wraps as long as `a·2^(c+1) < 2^63`. -/
theorem goldschmidt_denominator_error (sg : Bool) {c : Nat} {a b : Int} (hc : c ≤ 30) (hb0 : 0 ≤ b)
    (hb : b ≤ 2 ^ c) (ha0 : 0 ≤ a) (ha : a * 2 ^ (c + 1) < 2 ^ 63) :
    ∃ r : Int, 0 ≤ r ∧ r < 2 ^ c ∧
      2 ^ c * (2 ^ c - (goldStep sg 64 c (a, b)).2) = (2 ^ c - b) ^ 2 + r := by
  rw [goldStep_eq sg hc hb0 hb ha0 ha, two_pow_succ]
  obtain ⟨r, h0, h1, e⟩ := ediv_rem (b * (2 * 2 ^ c - b)) (two_pow_pos' c)
  exact ⟨r, h0, h1, by linarith only [e]⟩

/-- the numerator is multiplied by the same factor `(2^(c+1) - b)/2^c`, truncated: one unit below. -/
theorem goldschmidt_numerator_step (sg : Bool) {c : Nat} {a b : Int} (hc : c ≤ 30) (hb0 : 0 ≤ b)
    (hb : b ≤ 2 ^ c) (ha0 : 0 ≤ a) (ha : a * 2 ^ (c + 1) < 2 ^ 63) :
    let a' := (goldStep sg 64 c (a, b)).1
    a' * 2 ^ c ≤ a * (2 ^ (c + 1) - b) ∧ a * (2 ^ (c + 1) - b) < a' * 2 ^ c + 2 ^ c := by
  rw [goldStep_eq sg hc hb0 hb ha0 ha]
  obtain ⟨r, h0, h1, e⟩ := ediv_rem (a * (2 ^ (c + 1) - b)) (two_pow_pos' c)
  exact ⟨by linarith only [e, h0], by linarith only [e, h1]⟩

example : goldStep false 64 10 (123456 * 8, 123 * 8) = (1026228, 1022) := by decide

/-- **n-step QUOTIENT bound of GoldschmidtDivision**, by induction on the number `n` of loop rounds
    (`iterations = n + 1`), for a supplied initial reciprocal guess `w` with `2^(c-1) ≤ d·w ≤ 2^c`
    (the lower third of the documented window `[2^(c-1), 2^(c+1))`; in its upper part the method does
    not converge in the rule-of-thumb count: known finding).  Caps `4 ≤ c ≤ 30`, both signednesses, dividend `a ≥ 0`,
    divisor `d > 0`, `4n ≤ 2^c`; nothing wraps if some `M ≥ a·(2^c + 4n)/d` has `M·2^(c+1) < 2^63`
    (`M` bounds every intermediate numerator, which approximates `a·2^c/d`).
    The returned `q` satisfies, with denominators cleared (`B = 2^(2^n)`):
    * `q·d − a·2^c ≤ 4·n·a`                      (`q − a·2^c/d ≤ 4n·a/d`: overshoot only through the
      `n` truncations of the denominator sequence), and
    * `B·(a·2^c − q·d) ≤ 4·n·d·B + a·(2^c + 4·B)`  (`a·2^c/d − q ≤ 4n + (a/d)·(2^c/2^(2^n) + 4)`: the
      truncation drift of at most `4n` units plus the quadratically convergent denominator error
      `e_n ≤ 2^(-2^n) + 4/2^c` applied to the exact quotient). -/
theorem goldschmidt_quotient_n_steps (sg : Bool) {c n : Nat} {a d w M : Int} (hc4 : 4 ≤ c) (hc : c ≤ 30)
    (ha : 0 ≤ a) (hd : 0 < d) (hw : 0 ≤ w) (hlo : 2 ^ c ≤ 2 * (d * w)) (hhi : d * w ≤ 2 ^ c)
    (hn : 4 * (n : Int) ≤ 2 ^ c)
    (hM : a * (2 ^ c + 4 * (n : Int)) ≤ d * M) (hM63 : M * 2 ^ (c + 1) < 2 ^ 63) :
    ∃ q, goldschmidt sg 64 c (n + 1) a d (some w) = some q ∧ 0 ≤ q ∧
      q * d - a * 2 ^ c ≤ 4 * (n : Int) * a ∧
      2 ^ (2 ^ n) * (a * 2 ^ c - q * d) ≤ 4 * (n : Int) * d * 2 ^ (2 ^ n) + a * (2 ^ c + 4 * 2 ^ (2 ^ n)) := by
  have h0 := goldInv_start (c := c) ha hw hlo hhi
  have haw : a * w ≤ M := goldInv_num_le ha hd (Nat.zero_le n) hM h0
  have haw0 : 0 ≤ a * w := mul_nonneg ha hw
  have hM' : M * 1 ≤ M * 2 ^ (c + 1) :=
    mul_le_mul_of_nonneg_left (by have := two_pow_pos' (c + 1); omega) (le_trans haw0 haw)
  have hP30 : (2:Int) ^ c ≤ 2 ^ 30 := two_pow_le_two_pow hc
  have hit := goldInv_iter sg hc4 hc ha hd hn hM hM63 n 0 _ (by omega) h0
  rw [Nat.zero_add] at hit
  refine ⟨(goldIter sg 64 c n (a * w, d * w)).1, ?_, hit.1,
    gold_quotient (two_pow_pos' c) (le_of_lt (two_pow_pos' _)) ha hd (Int.natCast_nonneg n)
      hit.2.2.1 hit.2.2.2.1 hit.2.2.2.2.1 hit.2.2.2.2.2⟩
  unfold goldschmidt
  rw [if_neg (by omega)]
  simp only [mul64 sg haw0 (by omega), mul64 sg (show 0 ≤ d * w by omega) (by omega),
    Nat.add_sub_cancel]

/-- the operation as instantiated WITHOUT a supplied approximation (bit-derived guess), on the domain
    the op documents (`0 < d < 2^c`; `a ≥ 0` small enough for the no-wrap guard): same bound. -/
theorem goldschmidt_division_error (sg : Bool) {c n : Nat} {a d M : Int} (hc4 : 4 ≤ c) (hc : c ≤ 30)
    (ha : 0 ≤ a) (hd : 0 < d) (hdc : d < 2 ^ c) (hn : 4 * (n : Int) ≤ 2 ^ c)
    (hM : a * (2 ^ c + 4 * (n : Int)) ≤ d * M) (hM63 : M * 2 ^ (c + 1) < 2 ^ 63) :
    ∃ q, goldschmidt sg 64 c (n + 1) a d none = some q ∧ 0 ≤ q ∧
      q * d - a * 2 ^ c ≤ 4 * (n : Int) * a ∧
      2 ^ (2 ^ n) * (a * 2 ^ c - q * d) ≤ 4 * (n : Int) * d * 2 ^ (2 ^ n) + a * (2 ^ c + 4 * 2 ^ (2 ^ n)) := by
  have hb := initInv_bracket (s := 64) (by omega) (by decide) hd hdc
  have hpred : (2:Int) ^ c = 2 * 2 ^ (c - 1) := two_pow_pred c (by omega)
  rw [Int.mul_comm] at hb
  exact goldschmidt_quotient_n_steps sg (w := initInv 64 c d) hc4 hc ha hd (initInv_nonneg ..)
    (by omega) (le_of_lt hb.2) hn hM hM63

/-- non-vacuity: 1000/7 with cap 10, 5 iterations (n = 4 rounds): exact 2^10·1000/7 = 146285.7…,
    returned 146534 (0.17 % above, within `4n·a/d = 2285`: the truncations of the denominator sequence
    act on the quotient relatively, `≈ n/2^c`); the hypotheses hold with M = 2^18 -/
example : goldschmidt false 64 10 5 1000 7 none = some 146534
    ∧ (1000:Int) * (2 ^ 10 + 4 * (4:Nat)) ≤ 7 * 2 ^ 18 ∧ (2:Int) ^ 18 * 2 ^ (10 + 1) < 2 ^ 63
    ∧ 4 * ((4:Nat):Int) ≤ 2 ^ 10 := by decide +kernel

/-- on the domain the op documents (dividend and divisor in `(0, 2^(c-1))`; here even `0 ≤ a < 2^(c-1)`,
    `0 < d < 2^c`) the no-wrap guard holds for every cap `4 ≤ c ≤ 20` (`M = 4^c`, `4^c·2^(c+1) ≤ 2^61`);
    for larger caps small divisors make the numerator `≈ a·2^c/d` overflow, as the op's doc warns. -/
theorem goldschmidt_documented_domain (sg : Bool) {c n : Nat} {a d : Int} (hc4 : 4 ≤ c) (hc : c ≤ 20)
    (ha : 0 ≤ a) (hac : 2 * a ≤ 2 ^ c) (hd : 0 < d) (hdc : d < 2 ^ c) (hn : 4 * (n : Int) ≤ 2 ^ c) :
    ∃ q, goldschmidt sg 64 c (n + 1) a d none = some q ∧ 0 ≤ q ∧
      q * d - a * 2 ^ c ≤ 4 * (n : Int) * a ∧
      2 ^ (2 ^ n) * (a * 2 ^ c - q * d) ≤ 4 * (n : Int) * d * 2 ^ (2 ^ n) + a * (2 ^ c + 4 * 2 ^ (2 ^ n)) := by
  have hP : (0:Int) < 2 ^ c := two_pow_pos' c
  have hPP : (0:Int) ≤ 2 ^ c * 2 ^ c := mul_self_nonneg _
  apply goldschmidt_division_error sg (M := 2 ^ c * 2 ^ c) hc4 (by omega) ha hd hdc hn
  · -- a (P + 4n) ≤ (P/2)(2P) = P² ≤ d P²
    have h1 : 0 ≤ a * (2 ^ c - 4 * (n : Int)) := mul_nonneg ha (by omega)
    have h2 : 0 ≤ (2 ^ c - 2 * a) * 2 ^ c := mul_nonneg (by omega) (le_of_lt hP)
    have h3 : 0 ≤ (d - 1) * (2 ^ c * 2 ^ c) := mul_nonneg (by omega) hPP
    linarith only [h1, h2, h3]
  · have h20 : (2:Int) ^ c ≤ 2 ^ 20 := two_pow_le_two_pow hc
    rw [two_pow_succ]
    have h1 : (2:Int) ^ c * 2 ^ c ≤ 2 ^ 20 * 2 ^ 20 := mul_le_mul h20 h20 (le_of_lt hP) (by decide)
    have h2 : (2:Int) ^ c * 2 ^ c * (2 * 2 ^ c) ≤ 2 ^ 20 * 2 ^ 20 * (2 * 2 ^ 20) :=
      mul_le_mul h1 (by omega) (by omega) (by decide)
    exact lt_of_le_of_lt h2 (by decide)

/-- non-vacuity: cap 12, 6 iterations, 2047/3: exact 2^12·2047/3 = 2794837.3…, returned 2796158 (0.05 % above) -/
example : goldschmidt true 64 12 6 2047 3 none = some 2796158 ∧ 2 * (2047:Int) ≤ 2 ^ 12 := by decide +kernel

/-- `tree_retrieve` returns the table entry with index `idx mod 2^L`, for EVERY depth `L`
    (every supported table size `2^L`), any width, signed or unsigned. -/
theorem tree_retrieve_selects {sg : Bool} {s idx L : Nat} {vals : List Int} (h : 1 ≤ s)
    (hl : vals.length = 2 ^ L) (hr : ∀ v ∈ vals, InRange sg s v) :
    treeRetrieve sg s idx L vals = vals.getD (idx % 2 ^ L) 0 :=
  treeRetrieve_eq h L idx vals hl hr

example : treeRetrieve true 64 5 3 [10, 11, 12, 13, 14, 15, 16, 17] = 15 := by decide

-- the depth bound `hL` is not needed: a scaled argument `≥ 2^L` is the right outside bucket whatever `L`
set_option linter.unusedVariables false in
/-- selection + interpolation exactness for ARBITRARY tables (`2^L + 2` slopes/intercepts, any
    positive divisor): the output is `Truncate(wrap(α_j·x + β_j), 2^p)` for the single bucket
    `j = pwlBucket L scaled`: `0` (left outside) iff `scaled < 0`, `2^L + 1` (right outside) iff
    `scaled ≥ 2^L`, `1 + scaled` otherwise, where `scaled = Truncate(x - left_fp, divisor)`. -/
theorem pwl_select_interpolate_partial {s : Nat} {t : Pwl} {x : Int} (hs : 2 ≤ s)
    (ha : t.alphas.length = 2 ^ t.logBuckets + 2) (hb : t.betas.length = t.alphas.length)
    (hL : t.logBuckets + 1 < s) (hd : 0 < t.divisor) :
    pwlEval true s t x
      = trunc ((pwlVals true s t x).getD (pwlBucket t.logBuckets (pwlScaled true s t x)) 0)
          (2 ^ t.precision) :=
  pwlEval_eq (by omega) ha hb (pwlScaled_inRange t x (by omega) hd)

/-- the bucket contains `x`: for `y = x - left_fp ≥ 0`, `scaled = j ↔ j·D ≤ y < (j+1)·D`. -/
theorem pwl_bucket_contains {y D : Int} (j : Int) (hD : 0 < D) (hy : 0 ≤ y) :
    trunc y D = j ↔ j * D ≤ y ∧ y < (j + 1) * D := by
  rw [trunc_of_nonneg D hy, ← Int.le_ediv_iff_mul_le hD, ← Int.ediv_lt_iff_lt_mul hD]
  omega

/-- what the code achieves left of `left`: arguments with `-D < x - left_fp < 0` are NOT sent to
    the left outside bucket but to the first inner one (Truncate rounds toward zero). -/
theorem pwl_left_quirk {y D : Int} (h1 : -D < y) (h2 : y < 0) : trunc y D = 0 ∧ pwlBucket 5 0 = 1 :=
  ⟨trunc_eq_zero_of_small_neg h1 h2, by decide⟩

/-- the final rounding: the output is within one unit of the (wrapped) linear interpolant. -/
theorem pwl_rounding {v : Int} (p : Nat) :
    (0 ≤ v → trunc v (2 ^ p) * 2 ^ p ≤ v ∧ v < trunc v (2 ^ p) * 2 ^ p + 2 ^ p) ∧
    (v ≤ 0 → v ≤ trunc v (2 ^ p) * 2 ^ p ∧ trunc v (2 ^ p) * 2 ^ p - 2 ^ p < v) :=
  trunc_within_unit (two_pow_pos' p)

/-- What is NOT proved: closeness of the shipped tables to the real functions.  With `approxOf x y`
    read as "`y` is within the tolerance of `f x`" for a real function `f`, the statement says so of
    `pwlEval` with tables `t` at every argument `lo ≤ x ≤ hi`.  For the tables produced by the f32 code of
    `create_approximation` this is only tested (dense sweep of the harness against f64), not proved. -/
def ClosenessStatement (t : Pwl) (lo hi : Int) (approxOf : Int → Int → Prop) : Prop :=
  ∀ x, lo ≤ x → x ≤ hi → approxOf x (pwlEval true 64 t x)

end CCV.C20
