import CCV.Model.Ops
import CCV.Model.OpsExt
import CCV.Model.Spec
import CCV.Lemmas.Shape
import CCV.Lemmas.Kernels
import CCV.Lemmas.OpsMat
import CCV.Lemmas.OpsPerm
import CCV.Lemmas.OpsStruct
import CCV.Lemmas.OpsReduce
import CCV.Lemmas.OpsGemm
import CCV.Lemmas.OpsMisc
import CCV.Lemmas.Slices
import CCV.Lemmas.OpsSeg
import CCV.Lemmas.OpsPerm2
import CCV.Lemmas.OpsCuckoo
import CCV.Lemmas.OpsPlumb
/-
  C10 — primitive operations follow their documented NumPy-style modular semantics.

  `CCV.Ops`  = evaluator-shaped executable model (flat arrays, number_to_index / index_to_number,
               u128 kernels), the functions the model driver executes and the correspondence run
               compares with `SimpleEvaluator`;
  `CCV.Spec` = index-function semantics written from the documentation (integers mod 2^w).
  Every theorem is universally quantified over scalar types, shapes, parameters and values.
-/
namespace CCV.C10
open CCV CCV.Shape CCV.Ops

/-- **Index bijection, direction 1**: for a shape with positive dimensions and `n < Π shape`,
    `index_to_number(number_to_index(n)) = n`, and the index is valid. -/
theorem index_bijection_num (shape : List Nat) (hp : pos shape) (n : Nat) (hn : n < prod shape) :
    validIdx (numberToIndex n shape) shape ∧ indexToNumber (numberToIndex n shape) shape = n :=
  ⟨numberToIndex_valid hp hn, indexToNumber_numberToIndex hp hn⟩

example : numberToIndex 17 [2, 3, 4] = [1, 1, 1] ∧ indexToNumber [1, 1, 1] [2, 3, 4] = 17 := by decide

/-- **Index bijection, direction 2**: on valid multi-indices `number_to_index ∘ index_to_number = id`,
    `index_to_number` is the row-major position and lies below `Π shape`. -/
theorem index_bijection_idx (idx shape : List Nat) (h : validIdx idx shape) :
    numberToIndex (indexToNumber idx shape) shape = idx ∧
    indexToNumber idx shape = flat idx shape ∧ flat idx shape < prod shape :=
  ⟨numberToIndex_indexToNumber h, indexToNumber_eq_flat h, flat_lt h⟩

example : numberToIndex (indexToNumber [1, 2, 3] [2, 3, 4]) [2, 3, 4] = [1, 2, 3] ∧
    indexToNumber [1, 2, 3] [2, 3, 4] = 23 := by decide

/-- **Broadcasting index law**: for an operand shape `s` that broadcasts to `sr` (aligned at the last
    axis, every axis equal or 1) and a valid result index `I`, the position the evaluator reads
    (`index_to_number(I[offset..], s)` with its `% d`) is the row-major position of the NumPy
    broadcast index (leading axes dropped, index 0 on size-1 axes); and `broadcast_to_shape`
    returns exactly that element at position `I`. -/
theorem broadcast_law (arr s sr I : List Nat) (hb : bcOK s sr) (hI : validIdx I sr) :
    indexToNumber (I.drop (sr.length - s.length)) s = flat (bcIdx s I) s ∧ validIdx (bcIdx s I) s ∧
    (broadcastToShape arr s sr).getD (flat I sr) 0 = arr.getD (flat (bcIdx s I) s) 0 :=
  ⟨(broadcast_index_law hb hI).1, (broadcast_index_law hb hI).2, broadcastToShape_getD arr hb hI⟩

example : bcIdx [3, 1] [1, 2, 1] = [2, 0] ∧
    broadcastToShape [10, 20, 30] [3, 1] [2, 3, 2] = [10, 10, 20, 20, 30, 30, 10, 10, 20, 20, 30, 30] := by
  decide

/-- **u128 path, all 11 scalar types**: sign-extend, wrapping u128 operation, `% 2^w` (none for the
    128-bit types), keep the low `w` bits = the integer operation on the denoted integers mod 2^w. -/
theorem kernels_u128 (st : ST) (a b : Nat) :
    low st (addU128 (ext st a) (ext st b) (modulus st)) = st.ofInt (st.toInt a + st.toInt b) ∧
    low st (subU128 (ext st a) (ext st b) (modulus st)) = st.ofInt (st.toInt a - st.toInt b) ∧
    low st (mulU128 (ext st a) (ext st b) (modulus st)) = st.ofInt (st.toInt a * st.toInt b) ∧
    low st (mulU128 (ext st a) b (modulus st)) = st.ofInt (st.toInt a * (b : Int)) :=
  ⟨add_kernel st a b, sub_kernel st a b, mul_kernel st a b, mixed_mul_kernel st a b⟩

example : low .i8 (subU128 (ext .i8 3) (ext .i8 5) (modulus .i8)) = 254 ∧
    low .u128 (mulU128 (ext .u128 (2 ^ 64 + 3)) (ext .u128 (2 ^ 64 + 5)) (modulus .u128)) = 8 * 2 ^ 64 + 15 := by
  decide

/-- **u64 path with an explicit modulus** (`add_u64`, `multiply_u64`, the `m - v % m` subtraction of
    `subtract_vectors_u64`) and the wrapping path: integer arithmetic mod `m` resp. mod 2^64,
    for every modulus `m > 0` — in particular when `v % m = 0`. -/
theorem kernels_u64 (a b m : Nat) (hm : 0 < m) :
    addU64 a b (some m) = (((a : Int) + b) % m).toNat ∧
    subU64 a b (some m) = (((a : Int) - b) % m).toNat ∧
    mulU64 a b (some m) = (((a : Int) * b) % m).toNat ∧
    addU64 a b none = (((a : Int) + b) % ((2 ^ 64 : Nat) : Int)).toNat ∧
    subU64 a b none = (((a : Int) - b) % ((2 ^ 64 : Nat) : Int)).toNat ∧
    mulU64 a b none = (((a : Int) * b) % ((2 ^ 64 : Nat) : Int)).toNat :=
  ⟨addU64_some a b m, subU64_some a b m hm, mulU64_some a b m, addU64_none a b, subU64_none a b, mulU64_none a b⟩

example : subU64 5 14 (some 7) = 5 ∧ subU64 5 14 none = 2 ^ 64 - 9 ∧ subU64 3 7 (some 7) = 3 := by decide

/-- **dot product and sum as folds mod 2^w** (all scalar types, all lengths): the accumulation
    loops `res = add(res, mul(x, y))` / `res = add(res, v)` compute the integer dot product / sum
    of the denoted integers, reduced mod 2^w; same for the u64 kernels with an explicit modulus. -/
theorem folds (st : ST) (ps : List (Nat × Nat)) (xs : List Nat) (m : Nat) (hm : 0 < m) :
    low st (dotFold addU128 mulU128 (modulus st) (ps.map fun p => (ext st p.1, ext st p.2)))
      = st.ofInt ((ps.map fun p => st.toInt p.1 * st.toInt p.2).sum) ∧
    low st ((xs.map (ext st)).foldl (fun res v => addU128 res v (modulus st)) 0)
      = st.ofInt ((xs.map st.toInt).sum) ∧
    dotFold addU64 mulU64 (some m) ps = (((ps.map fun p => (p.1 : Int) * p.2).sum) % m).toNat ∧
    sumU64 xs (some m) = (((xs.map fun (x : Nat) => (x : Int)).sum) % m).toNat :=
  ⟨dotFold_spec st ps, sumFold_spec st xs, dotU64_fold_some ps m hm, sumU64_some xs m hm⟩

example : low .i8 (dotFold addU128 mulU128 (modulus .i8) ([(255, 2), (3, 252)].map fun p => (ext .i8 p.1, ext .i8 p.2))) = 242 := by
  decide

/-- **Add / Subtract / Multiply = Spec** for all 11 scalar types, all broadcastable shapes, all
    values: the entry at every valid index `I` is the integer operation on the NumPy-broadcast
    operands modulo 2^w. -/
theorem arith_eq_spec (op : Arith) (st : ST) (s1 xs s2 ys sr : List Nat) (h1 : bcOK s1 sr) (h2 : bcOK s2 sr) :
    ∃ r, arith op st s1 xs s2 ys sr = .ok r ∧ r.length = prod sr ∧
      ∀ I, validIdx I sr →
        r.getD (flat I sr) 0 = Spec.arith st op.int (Spec.ofFlat s1 xs) s1 (Spec.ofFlat s2 ys) s2 I :=
  arith_spec op st s1 xs s2 ys sr h1 h2

example : arith .sub .i8 [3] [1, 2, 3] [2, 1] [5, 255] [2, 3] = .ok [252, 253, 254, 2, 3, 4] := by rfl

/-- **MixedMultiply = Spec** (integer array × bit array with broadcasting). -/
theorem mixedMultiply_eq_spec (st : ST) (s1 xs s2 bits sr : List Nat) (h1 : bcOK s1 sr) (h2 : bcOK s2 sr) :
    ∃ r, mixedMultiply st s1 xs s2 bits sr = .ok r ∧ r.length = prod sr ∧
      ∀ I, validIdx I sr →
        r.getD (flat I sr) 0 = Spec.mixedMultiply st (Spec.ofFlat s1 xs) s1 (Spec.ofFlat s2 bits) s2 I :=
  mixedMultiply_spec st s1 xs s2 bits sr h1 h2

example : mixedMultiply .i16 [2] [65535, 7] [2, 1] [1, 0] [2, 2] = .ok [65535, 7, 0, 0] := by rfl

/-- **Sum over all axes = Spec**: the scalar result is the sum of the denoted integers mod 2^w. -/
theorem sumAll_eq_spec (st : ST) (shape xs axes : List Nat) :
    sum st shape xs axes none = [Spec.sumAll st xs] := by
  simp only [sum, Spec.sumAll, sumFold_spec]

example : sum .i8 [2, 2] [127, 1, 255, 3] [0, 1] none = [130] := by decide

example : sum .i8 [2, 2] [255, 255, 3, 128] [0, 1] none = [129] := by decide

/-- **Dot / Matmul of two 1-d arrays = Spec** (inner product mod 2^w). -/
theorem dot11_eq_spec (st : ST) (K : Nat) (xs ys sr : List Nat) :
    dot st [K] xs [K] ys sr = [Spec.dot11 st (Spec.ofFlat [K] xs) (Spec.ofFlat [K] ys) K] ∧
    matmul st [K] xs [K] ys sr = [Spec.dot11 st (Spec.ofFlat [K] xs) (Spec.ofFlat [K] ys) K] := by
  have hf : ∀ k K : Nat, flat [k] [K] = k := fun k K => by simp only [flat, prod, Nat.mul_one, Nat.add_zero]
  constructor
  · simp only [dot, List.length_singleton, and_self, if_true, List.headD_cons, dotAcc_spec,
      Spec.dot11, Spec.ofFlat, hf, id]
  · simp only [matmul, List.length_singleton, and_self, if_true, List.headD_cons, dotAcc_spec,
      Spec.dot11, Spec.ofFlat, hf, id]

example : dot .u8 [3] [1, 2, 3] [3] [4, 5, 100] [1] = [58] := by decide

example : dot .i8 [2] [255, 3] [2] [2, 252] [1] = [242] := by decide

example : matmul .u64 [2] [2 ^ 63, 3] [2] [2, 5] [1] = [15] := by decide

/-- **Dot, N-d × 1-d = Spec**: sum product over the last axis of the first operand. -/
theorem dotN1_eq_spec (st : ST) (s0 xs ys : List Nat) (K : Nat) (hr : 1 ≤ s0.length) (I : List Nat) (hI : validIdx I s0) :
    (dot st (s0 ++ [K]) xs [K] ys s0).getD (flat I s0) 0
      = Spec.dotN1 st (Spec.ofFlat (s0 ++ [K]) xs) (Spec.ofFlat [K] ys) K I := by
  have hne : ¬ ((s0 ++ [K]).length = 1 ∧ [K].length = 1) := fun h =>
    Nat.ne_of_gt (Nat.succ_lt_succ hr) (List.length_append.symm.trans h.1)
  simp only [dot, if_neg hne]
  rw [getD_map_range _ _ _ (flat_lt hI)]
  simp only [numberToIndex_flat hI, List.length_singleton, Nat.lt_irrefl, if_false, List.headD_cons]
  refine dotAcc_spec' st xs ys _ _ (fun k => flat (I ++ [k]) (s0 ++ [K])) (fun k => flat [k] [K]) K ?_ ?_
  · intro k hk
    have h : (s0 ++ [K]).length - 1 = I.length := by
      rw [List.length_append, validIdx_length hI]
      rfl
    rw [h, List.take_length, indexToNumber_eq_flat (validIdx_append hI (validIdx_single hk))]
  · intro k hk
    exact indexToNumber_eq_flat (validIdx_single hk)

example : dot .u8 [2, 2] [1, 2, 3, 4] [2] [10, 100] [2] = [210, 174] := by decide

example : dot .i8 [2, 2] [1, 255, 2, 3] [2] [5, 254] [2] = [7, 4] := by decide

set_option linter.unusedVariables false in
/-- **Dot, N-d × M-d (M ≥ 2) = documented formula**
    `dot(A, B)[I0, J0, m] = Σ_k A[I0, k] · B[J0, k, m]` mod 2^w. -/
theorem dotNN_eq_spec (st : ST) (a0 b0 xs ys : List Nat) (K M : Nat)
    (I0 J0 : List Nat) (m : Nat) (hI : validIdx I0 a0) (hJ : validIdx J0 b0) (hm : m < M) (hK : 0 < K) :
    (dot st (a0 ++ [K]) xs (b0 ++ [K, M]) ys (a0 ++ b0 ++ [M])).getD (flat (I0 ++ J0 ++ [m]) (a0 ++ b0 ++ [M])) 0
      = st.ofInt (Spec.sumTo K fun k =>
          st.toInt (Spec.ofFlat (a0 ++ [K]) xs (I0 ++ [k])) * st.toInt (Spec.ofFlat (b0 ++ [K, M]) ys (J0 ++ [k, m]))) := by
  have hv : validIdx (I0 ++ J0 ++ [m]) (a0 ++ b0 ++ [M]) :=
    validIdx_append (validIdx_append hI hJ) (validIdx_single hm)
  have hne : ¬ ((a0 ++ [K]).length = 1 ∧ (b0 ++ [K, M]).length = 1) := fun h =>
    length_append_pair_ne_one b0 K M h.2
  have h1 : 1 < (b0 ++ [K, M]).length := by
    rw [length_append_pair]
    exact Nat.succ_lt_succ (Nat.succ_pos _)
  have h : (a0 ++ [K]).length - 1 = I0.length := by
    rw [List.length_append, validIdx_length hI]
    rfl
  simp only [dot, if_neg hne]
  rw [getD_map_range _ _ _ (flat_lt hv)]
  simp only [numberToIndex_flat hv, if_pos h1, (getD_append_pair_end b0 K M).2, h]
  unfold Spec.ofFlat
  refine dotAcc_spec' st xs ys _ _ (fun k => flat (I0 ++ [k]) (a0 ++ [K]))
    (fun k => flat (J0 ++ [k, m]) (b0 ++ [K, M])) K ?_ ?_
  · intro k hk
    rw [List.append_assoc, List.take_left,
      indexToNumber_eq_flat (validIdx_append hI (validIdx_single hk))]
  · intro k hk
    have h2 : (J0 ++ [m]).length - 1 = J0.length := List.length_append ▸ rfl
    have h3 : insertAt (J0 ++ [m]) J0.length k = J0 ++ [k, m] := by
      unfold insertAt
      rw [List.take_left, List.drop_left, List.append_assoc]
      rfl
    rw [List.append_assoc, List.drop_left, h2, h3,
      indexToNumber_eq_flat (validIdx_append hJ (validIdx_pair hk hm))]

example : dot .u8 [2, 2] [1, 2, 3, 4] [2, 2] [5, 6, 7, 8] [2, 2] = [19, 22, 43, 50] := by decide

example : dot .i8 [2, 2] [1, 255, 2, 3] [2, 2, 2] [1, 2, 3, 4, 5, 6, 7, 8] [2, 2, 2]
    = [254, 254, 254, 254, 11, 16, 31, 36] := by decide

/-- **Matmul (ranks ≥ 2, NumPy batch broadcasting), entry formula**:
    `R[β, i, j] = Σ_k A[bc β, i, k] · B[bc β, k, j]` mod 2^w. -/
theorem matmul_eq_spec (st : ST) (ba bb br xs ys : List Nat) (N K M : Nat)
    (ha : bcOK ba br) (hb : bcOK bb br) (hK : 0 < K)
    (β : List Nat) (i j : Nat) (hβ : validIdx β br) (hi : i < N) (hj : j < M) :
    (matmul st (ba ++ [N, K]) xs (bb ++ [K, M]) ys (br ++ [N, M])).getD (flat (β ++ [i, j]) (br ++ [N, M])) 0
      = st.ofInt (Spec.sumTo K fun k =>
          st.toInt (Spec.ofFlat (ba ++ [N, K]) xs (bcIdx ba β ++ [i, k])) *
          st.toInt (Spec.ofFlat (bb ++ [K, M]) ys (bcIdx bb β ++ [k, j]))) :=
  matmul_spec st ba bb br xs ys N K M ha hb hK β i j hβ hi hj

example : matmul .u8 [1, 2, 2] [1, 2, 3, 4] [2, 2, 1] [1, 1, 2, 3] [2, 2, 1] = [3, 7, 8, 18] := by decide

/-- **PermuteAxes = numpy.transpose**: for a permutation `perm` of the axes,
    `R[J] = A[I]` whenever `J_k = I_{perm k}` (all ranks, shapes, values). -/
theorem permuteAxes_eq_spec (values shape perm : List Nat) (hlen : values.length = prod shape) (hpos : pos shape)
    (hpl : perm.length = shape.length) (hnd : perm.Nodup) (hlt : ∀ j ∈ perm, j < shape.length) :
    Spec.permuteRel (Spec.ofFlat shape values)
      (Spec.ofFlat (perm.map fun j => shape.getD j 0)
        (permuteAxes values shape perm (perm.map fun j => shape.getD j 0)))
      shape perm :=
  permuteAxes_spec values shape perm hlen hpos hpl hnd hlt

example : permuteAxes [1, 2, 3, 4, 5, 6] [2, 3] [1, 0] [3, 2] = [1, 4, 2, 5, 3, 6] := by decide

/-- **InversePermutation**: a permutation of `0..n-1` is inverted (`r[values[i]] = i`);
    every other input is rejected. -/
theorem inversePermutation_eq_spec (values : List Nat) :
    (values.Nodup → (∀ v ∈ values, v < values.length) →
      ∃ r, inversePermutation values = .ok r ∧ r.length = values.length ∧
        ∀ i, i < values.length → r.getD (values.getD i 0) 0 = i) ∧
    ((¬ values.Nodup ∨ ∃ v ∈ values, values.length ≤ v) → ∃ e, inversePermutation values = .error e) :=
  ⟨fun hnd hlt => inversePermutation_spec values hnd hlt, fun h => inversePermutation_err values h⟩

example : inversePermutation [2, 0, 3, 1] = .ok [1, 3, 0, 2] := by rfl

/-- **Get = Spec**: `get(index)` copies the sub-array `R[J] = A[index ++ J]` (all ranks / index lengths). -/
theorem get_eq_spec (shape xs sub J : List Nat) (hk : sub.length ≤ shape.length)
    (hs : validIdx sub (shape.take sub.length)) (hJ : validIdx J (shape.drop sub.length)) :
    (get shape xs sub).getD (flat J (shape.drop sub.length)) 0 = Spec.get (Spec.ofFlat shape xs) sub J :=
  get_spec shape xs sub J hk hs hJ

example : get [2, 3] [1, 2, 3, 2 ^ 100 + 7, 5, 6] [1] = [2 ^ 100 + 7, 5, 6] := by decide

/-- **Witness of the repaired defect**: reading the payload through 64-bit integers (as the
    structural operations did before 5b3fa60) contradicts the documented `get`: element `2^100+7`
    of a UINT128 array came back as `7`. -/
theorem u64_truncation_witness :
    get [2] (viaU64 [1, 2 ^ 100 + 7]) [1] = [7] ∧
    Spec.get (Spec.ofFlat [2] [1, 2 ^ 100 + 7]) [1] [] = 2 ^ 100 + 7 := by decide

example : (get [2] (viaU64 [1, 2 ^ 100 + 7]) [1]).getD 0 0 ≠ Spec.get (Spec.ofFlat [2] [1, 2 ^ 100 + 7]) [1] [] := by decide

/-- **Stack**: `R[O ++ J] = input_{position of O in the outer shape}[broadcast J]`
    (inputs are arrays or scalars with dimensions `[1]`, broadcast to the common inner shape). -/
theorem stack_eq_spec (outer inner : List Nat) (inputs : List (List Nat × List Nat)) (O J : List Nat)
    (hin : inner ≠ []) (hO : validIdx O outer) (hJ : validIdx J inner)
    (hlen : inputs.length = prod outer) (hb : ∀ p ∈ inputs, bcOK p.1 inner) :
    (stack outer inputs (outer ++ inner)).getD (flat (O ++ J) (outer ++ inner)) 0
      = Spec.ofFlat (inputs.getD (flat O outer) ([], [])).1 (inputs.getD (flat O outer) ([], [])).2
          (bcIdx (inputs.getD (flat O outer) ([], [])).1 J) := by
  have hne : outer ++ inner ≠ outer := by
    intro h
    have := congrArg List.length h
    simp only [List.length_append] at this
    have : inner.length = 0 := by omega
    exact hin (List.length_eq_zero_iff.mp this)
  have ht : flat O outer < inputs.length := hlen ▸ flat_lt hO
  simp only [stack, hne, if_false, List.drop_left, Spec.ofFlat]
  rw [flat_append (validIdx_length hO)]
  rw [flatMap_getD_const inputs (fun p => broadcastToShape p.2 p.1 inner) (prod inner)
    (fun p _ => broadcastToShape_length _ _ _) _ _ ht (flat_lt hJ) ([], [])]
  exact broadcastToShape_getD _ (hb _ (getD_mem _ _ ht _)) hJ

/-- **Stack of scalars only** (every input has dimensions `[1]`, result shape = outer shape):
    `R[O]` is the single element of the input at the position of `O`. -/
theorem stack_scalars_eq_spec (outer : List Nat) (inputs : List (List Nat × List Nat)) (O : List Nat)
    (hO : validIdx O outer) (hlen : inputs.length = prod outer) (hb : ∀ p ∈ inputs, p.1 = [1]) :
    (stack outer inputs outer).getD (flat O outer) 0 = (inputs.getD (flat O outer) ([], [])).2.getD 0 0 := by
  have ht : flat O outer < inputs.length := hlen ▸ flat_lt hO
  simp only [stack, if_true]
  have h := flatMap_getD_const inputs (fun p => broadcastToShape p.2 p.1 [1]) (prod [1])
    (fun p _ => broadcastToShape_length _ _ _) (flat O outer) 0 ht (by decide) ([], [])
  simp only [prod, Nat.mul_one, Nat.add_zero] at h
  rw [h, hb _ (getD_mem _ _ ht _)]
  have hv : validIdx [0] [1] := ⟨Nat.zero_lt_one, trivial⟩
  have hbc : bcOK [1] [1] := ⟨Nat.le_refl _, Or.inl rfl, trivial⟩
  exact broadcastToShape_getD (inputs.getD (flat O outer) ([], [])).2 hbc hv

example : stack [2] [([2, 2], [1, 2, 3, 4]), ([2, 1], [5, 6])] [2, 2, 2] = [1, 2, 3, 4, 5, 5, 6, 6] := by decide

example : stack [2] [([1], [7]), ([2], [8, 9])] [2, 2] = [7, 7, 8, 9] := by decide

example : stack [2, 2] [([1], [5]), ([1], [6]), ([1], [7]), ([1], [8])] [2, 2] = [5, 6, 7, 8] := by
  decide

/-- **Concatenate** (any axis, any number of inputs): input `t` is found in the result at
    offset `Σ_{u<t} shape_u[axis]` along the axis. -/
theorem concatenate_eq_spec (axis : Nat) (inputs : List (List Nat × List Nat)) (sr : List Nat)
    (haxis : axis < sr.length)
    (hshape : ∀ p ∈ inputs, p.1.length = sr.length ∧ (∀ k, k ≠ axis → p.1.getD k 0 = sr.getD k 0) ∧ p.2.length = prod p.1)
    (hsum : sr.getD axis 0 = (inputs.map fun p => p.1.getD axis 0).sum)
    (t : Nat) (ht : t < inputs.length) (I : List Nat)
    (hI : validIdx I (inputs.getD t ([], [])).1) :
    (concatenate axis inputs sr).getD
        (flat (I.set axis (I.getD axis 0 + ((inputs.take t).map fun p => p.1.getD axis 0).sum)) sr) 0
      = Spec.ofFlat (inputs.getD t ([], [])).1 (inputs.getD t ([], [])).2 I := by
  have hpt : inputs.getD t ([], []) = inputs[t] := by simp [List.getD_eq_getElem?_getD, ht]
  rw [hpt] at hI ⊢
  have hsplit : ∀ p ∈ inputs,
      p.1 = sr.take axis ++ [p.1.getD axis 0] ++ sr.drop (axis + 1) := by
    intro p hp
    obtain ⟨hlen, hk, _⟩ := hshape p hp
    obtain ⟨hT, hD⟩ := take_drop_eq _ _ axis hlen hk
    have := split_axis p.1 axis (by omega)
    rw [hT, hD] at this
    exact this
  have hin : ∀ p ∈ inputs,
      p.2.length = prod (sr.take axis) * p.1.getD axis 0 * prod (sr.drop (axis + 1)) := by
    intro p hp
    rw [(hshape p hp).2.2]
    conv => lhs; rw [hsplit p hp]
    exact prod_axis _ _ _
  have hmem := List.getElem_mem ht
  have hss := hsplit _ hmem
  have hIax : axis < I.length := by rw [validIdx_length hI, (hshape _ hmem).1]; exact haxis
  have hIs := split_axis I axis hIax
  have hv : validIdx (I.take axis ++ [I.getD axis 0] ++ I.drop (axis + 1))
      (sr.take axis ++ [inputs[t].1.getD axis 0] ++ sr.drop (axis + 1)) := by
    rw [← hIs, ← hss]; exact hI
  have hlP : (I.take axis).length = (sr.take axis).length := by
    simp only [List.length_take]; omega
  obtain ⟨hv1, hR⟩ := validIdx_append_inv (by simp only [List.length_append, hlP, List.length_cons, List.length_nil]) hv
  obtain ⟨hP, hx⟩ := validIdx_append_inv hlP hv1
  simp only [validIdx, and_true] at hx
  have hcore := concatenate_core axis inputs sr _ _ _ rfl rfl hin hsum t ht
    (flat (I.take axis) (sr.take axis)) (I.getD axis 0) (flat (I.drop (axis + 1)) (sr.drop (axis + 1)))
    (flat_lt hP) hx (flat_lt hR)
  have h1 : flat (I.set axis (I.getD axis 0 + ((inputs.take t).map fun p => p.1.getD axis 0).sum)) sr
      = flat (I.take axis ++ [I.getD axis 0 + ((inputs.take t).map fun p => p.1.getD axis 0).sum]
          ++ I.drop (axis + 1)) (sr.take axis ++ [sr.getD axis 0] ++ sr.drop (axis + 1)) := by
    rw [← split_axis sr axis haxis, List.set_eq_take_append_cons_drop, if_pos hIax, List.append_cons]
  have h2 : flat I inputs[t].1
      = flat (I.take axis ++ [I.getD axis 0] ++ I.drop (axis + 1))
          (sr.take axis ++ [inputs[t].1.getD axis 0] ++ sr.drop (axis + 1)) := by
    rw [← hIs, ← hss]
  have hcore' := congrArg (fun o => o.getD 0) hcore
  simp only [← List.getD_eq_getElem?_getD] at hcore'
  simp only [Spec.ofFlat]
  rw [h1, h2, flat_axis hlP, flat_axis hlP]
  exact hcore'

example : concatenate 1 [([2, 1], [1, 2]), ([2, 2], [3, 4, 5, 6])] [2, 3] = [1, 3, 4, 2, 5, 6] := by decide

/-- **Gather = numpy.take along `axis`**: `R[P ++ Q ++ R'] = A[P ++ [indices[Q]] ++ R']` when all
    indices are in range (`xs` holds at least the `Π shape` elements of the value). -/
theorem gather_eq_spec (shape xs indices ishape : List Nat) (axis : Nat)
    (haxis : axis < shape.length) (hxs : prod shape ≤ xs.length)
    (hidx : ∀ x ∈ indices, x < shape.getD axis 0) (hil : indices.length = prod ishape)
    (P Q R : List Nat) (hP : validIdx P (shape.take axis)) (hQ : validIdx Q ishape)
    (hR : validIdx R (shape.drop (axis + 1))) :
    ∃ r, gather shape xs indices axis = .ok r ∧
      r.getD (flat (P ++ Q ++ R) (shape.take axis ++ ishape ++ shape.drop (axis + 1))) 0
        = Spec.ofFlat shape xs (P ++ [indices.getD (flat Q ishape) 0] ++ R) := by
  generalize hN : prod (shape.take axis) = N at *
  generalize hrs : prod (shape.drop (axis + 1)) = rs at *
  generalize hd : shape.getD axis 0 = d at *
  have hshape := split_axis shape axis haxis
  rw [hd] at hshape
  have hprod : prod shape = N * d * rs := by
    rw [hshape, prod_axis, hN, hrs]
  let g : Nat → Nat → List Nat := fun ai ie => slice xs ((ai * d + ie) * rs) rs
  refine ⟨((List.range N).flatMap fun ai => indices.map (g ai)).flatMap id, ?_, ?_⟩
  · rw [gather_ok shape xs indices axis (hd ▸ hidx), hN, hrs, hd]
  · have ht : flat P (shape.take axis) < N := hN ▸ flat_lt hP
    have hq : flat Q ishape < indices.length := hil ▸ flat_lt hQ
    have hr : flat R (shape.drop (axis + 1)) < rs := hrs ▸ flat_lt hR
    have hie : indices[flat Q ishape] < d := hidx _ (List.getElem_mem hq)
    rw [flat_append3 (validIdx_length hP) (validIdx_length hQ), hrs, ← hil]
    have hrow := flatMap_map_getElem? N indices g _ _ ht hq
    obtain ⟨hlt, hget⟩ := List.getElem?_eq_some_iff.mp hrow
    have hlen : ∀ v ∈ ((List.range N).flatMap fun ai => indices.map (g ai)), v.length = rs := by
      intro v hv
      simp only [List.mem_flatMap, List.mem_range, List.mem_map] at hv
      obtain ⟨ai, hai, ie, hie, rfl⟩ := hv
      apply slice_length
      have := block_le rs (block_lt hai (hidx ie hie))
      omega
    simp only [List.getD_eq_getElem?_getD]
    rw [flatMap_getElem?_const _ id rs hlen _ _ hlt hr, hget]
    simp only [id, g, ← List.getD_eq_getElem?_getD, Spec.ofFlat]
    rw [slice_getD _ _ _ _ hr]
    conv => rhs; rw [hshape]
    have he : indices.getD (flat Q ishape) 0 = indices[flat Q ishape] := by
      rw [List.getD_eq_getElem?_getD, List.getElem?_eq_getElem hq, Option.getD_some]
    rw [flat_axis (validIdx_length hP), hrs, he, List.getD_eq_getElem?_getD]

/-- **Gather, index out of range**: with at least one outer block (`0 < Π shape[..axis]`) an index
    `≥ shape[axis]` makes the evaluation a run-time error. -/
theorem gather_out_of_range (shape xs indices : List Nat) (axis : Nat) (hpos : 0 < prod (shape.take axis))
    (hbad : ∃ x ∈ indices, shape.getD axis 0 ≤ x) : ∃ e, gather shape xs indices axis = .error e :=
  gather_err shape xs indices axis hpos hbad

example : gather [2, 3] [1, 2, 3, 4, 5, 6] [2, 0] 1 = .ok [3, 1, 6, 4] := by rfl

/-- **ArrayToVector / VectorToArray**: row `t` of the vector is `A[t, …]`; the round trip is the identity. -/
theorem arrayToVector_eq_spec (d : Nat) (rest xs : List Nat) (hlen : xs.length = d * prod rest) (hp : 0 < prod rest)
    (t : Nat) (ht : t < d) (J : List Nat) (hJ : validIdx J rest) :
    ((arrayToVector (d :: rest) xs).getD t []).getD (flat J rest) 0 = Spec.ofFlat (d :: rest) xs (t :: J) ∧
    vectorToArray (arrayToVector (d :: rest) xs) = xs := by
  have hdiv : xs.length / prod rest = d := by rw [hlen, Nat.mul_div_cancel _ hp]
  constructor
  · simp only [arrayToVector, chunks, List.drop_one, List.tail_cons, hdiv, Spec.ofFlat, flat]
    have hrow : ((List.range d).map fun i => slice xs (i * prod rest) (prod rest)).getD t []
        = slice xs (t * prod rest) (prod rest) := by
      rw [List.getD_eq_getElem?_getD, List.getElem?_map, List.getElem?_range ht]
      rfl
    rw [hrow]
    exact slice_getD _ _ _ _ (flat_lt hJ)
  · simp only [vectorToArray, arrayToVector, chunks, List.drop_one, List.tail_cons, hdiv,
      List.flatMap_map, id]
    exact flatMap_slices _ _ _ hlen

example : arrayToVector [2, 2] [1, 2, 3, 4] = [[1, 2], [3, 4]] := by decide

example : arrayToVector [2, 3] [1, 2, 3, 4, 5, 6] = [[1, 2, 3], [4, 5, 6]] := by decide

example : vectorToArray (arrayToVector [2, 3] [1, 2, 3, 4, 5, 6]) = [1, 2, 3, 4, 5, 6] := by decide

/-- **Gemm, entry formula,** for all four transposition-flag combinations, NumPy batch broadcasting (including
    batch dimensions of size 1), all scalar types:
    `R[β,i,j] = Σ_k A'[bc β,i,k] · B'[bc β,k,j]` mod 2^w where `A'`/`B'` read the operand with its last
    two axes swapped when the flag is set. -/
theorem gemm_eq_spec (st : ST) (t0 t1 : Bool) (ba bb br xs ys : List Nat) (N K M : Nat)
    (ha : bcOK ba br) (hb : bcOK bb br) (hN : 0 < N) (hK : 0 < K) (hM : 0 < M)
    (hpa : pos ba) (hpb : pos bb) (hpr : pos br)
    (hx : xs.length = prod ba * (N * K)) (hy : ys.length = prod bb * (K * M))
    (β : List Nat) (i j : Nat) (hβ : validIdx β br) (hi : i < N) (hj : j < M) :
    ∃ r, gemm st t0 t1 (ba ++ (if t0 then [K, N] else [N, K])) xs (bb ++ (if t1 then [M, K] else [K, M])) ys (br ++ [N, M]) = .ok r ∧
      r.getD (flat (β ++ [i, j]) (br ++ [N, M])) 0
        = st.ofInt (Spec.sumTo K fun k =>
            st.toInt (Spec.ofFlat (ba ++ (if t0 then [K, N] else [N, K])) xs (bcIdx ba β ++ (if t0 then [k, i] else [i, k]))) *
            st.toInt (Spec.ofFlat (bb ++ (if t1 then [M, K] else [K, M])) ys (bcIdx bb β ++ (if t1 then [j, k] else [k, j])))) := by
  have va := (broadcast_index_law ha hβ).2
  have vb := (broadcast_index_law hb hβ).2
  have hy' : ys.length = prod bb * (M * K) := by rw [hy, Nat.mul_comm K M]
  obtain ⟨sA, lA, gA⟩ := gemm_operand st t0 ba xs N K hpa hN hK hx
  obtain ⟨sB, lB, gB⟩ := gemm_operand st (!t1) bb ys M K hpb hM hK hy'
  have eB : (if (!t1) = true then [K, M] else [M, K]) = (if t1 = true then [M, K] else [K, M]) := by
    cases t1 <;> rfl
  rw [eB] at sB lB gB
  obtain ⟨r, hr, _, hget⟩ := generalGemm_spec st ba bb br _ _ N K M ha hb hN hM hpr lA lB β i j hβ hi hj
  refine ⟨r.map (low st), ?_, ?_⟩
  · simp only [gemm]
    rw [sA, sB, hr]
  · rw [getD_map_low, hget]
    rw [dotFold_range_spec st K _ _ _ _ (fun k hk => gA _ _ _ va hi hk) (fun k hk => gB _ _ _ vb hj hk)]
    cases t1 <;> rfl

example : gemm .i8 true false [1, 2, 2] [1, 2, 255, 3] [2, 2, 1] [5, 254, 1, 1] [2, 2, 1] = .ok [7, 4, 0, 5] := by rfl

/-- **Sum over a subset of the axes = Spec**: `R[J] = Σ { A[I] | I restricted to the kept axes = J }`
    mod 2^w (all ranks, axes sets, scalar types). -/
theorem sumAxes_eq_spec (st : ST) (shape xs axes : List Nat) (hpos : pos shape) (hlen : xs.length = prod shape)
    (hax : axes ≠ []) (J : List Nat)
    (hJ : validIdx J (((List.range shape.length).filter fun j => !axes.contains j).map fun j => shape.getD j 0)) :
    (sum st shape xs axes (some (((List.range shape.length).filter fun j => !axes.contains j).map fun j => shape.getD j 0))).getD
        (flat J (((List.range shape.length).filter fun j => !axes.contains j).map fun j => shape.getD j 0)) 0
      = Spec.sumAxes st (Spec.ofFlat shape xs) shape ((List.range shape.length).filter fun j => !axes.contains j) J := by
  generalize hk : ((List.range shape.length).filter fun j => !axes.contains j) = kept at hJ ⊢
  have hkept : ∀ j ∈ kept, j < shape.length := by
    intro j hj
    rw [← hk] at hj
    exact List.mem_range.mp (List.mem_filter.mp hj).1
  generalize hrs : (kept.map fun j => shape.getD j 0) = resShape at hJ ⊢
  have hemp : axes.isEmpty = false := by
    cases axes with
    | nil => exact absurd rfl hax
    | cons a l => rfl
  have hp : flat J resShape < (List.replicate (prod resShape) 0).length := by
    rw [List.length_replicate]; exact flat_lt hJ
  simp only [sum, hemp, Bool.false_eq_true, if_false, hk]
  rw [getD_map_low]
  rw [foldl_scatter_add (xs.map (ext st)).length
    (fun i => indexToNumber (kept.map fun ax => (numberToIndex i shape).getD ax 0) resShape)
    (fun i => (xs.map (ext st)).getD i 0) (fun a b => addU128 a b (modulus st)) _ _ hp]
  have h0 : (List.replicate (prod resShape) 0).getD (flat J resShape) 0 = 0 := by
    rw [List.getD_eq_getElem?_getD, List.getElem?_replicate]
    split <;> rfl
  rw [h0, sumFold_idx]
  simp only [Spec.sumAxes, Spec.ofFlat]
  rw [allIdx_eq_map shape hpos, List.filter_map, List.map_map, List.length_map, hlen]
  congr 2
  have hf : (List.range (prod shape)).filter
        (fun i => decide (indexToNumber (kept.map fun ax => (numberToIndex i shape).getD ax 0) resShape
          = flat J resShape))
      = (List.range (prod shape)).filter
        ((fun I => decide ((kept.map fun ax => I.getD ax 0) = J)) ∘ fun i => numberToIndex i shape) := by
    apply List.filter_congr
    intro i hi
    have hv := numberToIndex_valid hpos (List.mem_range.mp hi)
    have hv' := validIdx_map_getD hv kept hkept
    rw [hrs] at hv'
    rw [indexToNumber_eq_flat hv']
    simp only [Function.comp]
    exact decide_eq_decide.mpr ⟨fun h => flat_inj hv' hJ h, fun h => by rw [h]⟩
  rw [hf]
  apply List.map_congr_left
  intro i hi
  have hi' := List.mem_range.mp (List.mem_filter.mp hi).1
  simp only [Function.comp, flat_numberToIndex hpos hi']

example : sum .u8 [2, 3] [1, 2, 3, 4, 5, 250] [0] (some [3]) = [5, 7, 253] := by decide

/-- **CumSum = numpy.cumsum**: `R[I] = Σ_{k ≤ I[axis]} A[I with axis := k]` mod 2^w, any axis. -/
theorem cumSum_eq_spec (st : ST) (shape xs : List Nat) (axis : Nat) (hpos : pos shape) (hlen : xs.length = prod shape)
    (hax : axis < shape.length) (I : List Nat) (hI : validIdx I shape) :
    (cumSum st shape xs axis).getD (flat I shape) 0 = Spec.cumSum st (Spec.ofFlat shape xs) axis I := by
  have hn : (xs.map (ext st)).length = prod shape := by rw [List.length_map, hlen]
  -- the integer prefix sum that the cell with multi-index `J` must hold
  let S : List Nat → Int := fun J => Spec.sumTo (J.getD axis 0 + 1) fun k =>
    st.toInt (xs.getD (flat (J.set axis k) shape) 0)
  have hcell : ∀ i, i < (xs.map (ext st)).length →
      validIdx (numberToIndex i shape) shape ∧ flat (numberToIndex i shape) shape = i :=
    fun i hi => ⟨numberToIndex_valid hpos (hn ▸ hi), flat_numberToIndex hpos (hn ▸ hi)⟩
  have key := foldl_inplace_inv (fun i => decide (0 < (numberToIndex i shape).getD axis 0))
    (fun i => indexToNumber ((numberToIndex i shape).set axis ((numberToIndex i shape).getD axis 0 - 1)) shape)
    (fun a b => addU128 a b (modulus st)) (xs.map (ext st))
    (fun i v => low st v = st.ofInt (S (numberToIndex i shape))) ?hpr ?hbase ?hstep
    (xs.map (ext st)).length (Nat.le_refl _) (flat I shape)
  case hpr =>
    intro i hi hc
    obtain ⟨hv, hfl⟩ := hcell i hi
    have hd : 0 < (numberToIndex i shape).getD axis 0 := of_decide_eq_true hc
    generalize numberToIndex i shape = J at hv hfl hd ⊢
    have hb := validIdx_getD hv axis hax
    rw [indexToNumber_eq_flat (validIdx_set hv axis _ hax (by omega)), ← hfl]
    exact flat_set_lt hv axis (J.getD axis 0 - 1) hax (by omega)
  case hbase =>
    intro i hi hc
    obtain ⟨hv, hfl⟩ := hcell i hi
    have hd : ¬ 0 < (numberToIndex i shape).getD axis 0 := of_decide_eq_false hc
    generalize numberToIndex i shape = J at hv hfl hd ⊢
    have hS : S J = st.toInt (xs.getD i 0) := by
      show Spec.sumTo (J.getD axis 0 + 1) _ = _
      rw [Nat.eq_zero_of_not_pos hd, sumTo_succ]
      simp only [Spec.sumTo, List.range_zero, List.map_nil, List.sum_nil, Int.zero_add]
      rw [← Nat.eq_zero_of_not_pos hd, set_getD_self _ _ (by rw [validIdx_length hv]; exact hax), hfl]
    rw [hS, getD_map_ext, low_eq_ofInt]
    exact ofInt_congr _ _ _ (toInt_ext st _).symm
  case hstep =>
    intro i hi hc v hQ
    obtain ⟨hv, hfl⟩ := hcell i hi
    have hd : 0 < (numberToIndex i shape).getD axis 0 := of_decide_eq_true hc
    generalize numberToIndex i shape = J at hv hfl hd hQ ⊢
    have hb := validIdx_getD hv axis hax
    have hal : axis < J.length := by rw [validIdx_length hv]; exact hax
    -- the predecessor cell holds the sum without the last term
    rw [numberToIndex_indexToNumber (validIdx_set hv axis (J.getD axis 0 - 1) hax (by omega))] at hQ
    have hSp : S (J.set axis (J.getD axis 0 - 1))
        = Spec.sumTo (J.getD axis 0) fun k => st.toInt (xs.getD (flat (J.set axis k) shape) 0) := by
      show Spec.sumTo _ _ = _
      rw [getD_set_idx _ _ _ _ hal, if_pos rfl, show J.getD axis 0 - 1 + 1 = J.getD axis 0 by omega]
      simp only [List.set_set]
    have hS : S J = S (J.set axis (J.getD axis 0 - 1)) + st.toInt (xs.getD i 0) := by
      rw [hSp]
      show Spec.sumTo (J.getD axis 0 + 1) _ = _
      rw [sumTo_succ, set_getD_self _ _ hal, hfl]
    rw [hS, getD_map_ext, low_eq_ofInt]
    apply ofInt_congr
    rw [addU128_emod, Int.add_comm]
    exact add_congr _ _ _ _ _ (emod_of_low_eq st v _ hQ) (toInt_ext st _).symm
  have hfl : flat I shape < (xs.map (ext st)).length := by rw [hn]; exact flat_lt hI
  rw [cumSum_eq, getD_map_low, key.1 hfl]
  simp only [S, Spec.cumSum, Spec.ofFlat, numberToIndex_flat hI]

example : cumSum .i8 [2, 3] [1, 2, 3, 4, 5, 250] 1 = [1, 3, 6, 4, 9, 3] := by decide

/-- **Sub-array slice of one axis = Python/NumPy**: if the builder accepts `b:e:s` for an axis of size
    `dim`, position `j` is selected iff it is in `range(*slice(b,e,s).indices(dim))`, and element `j`
    is read at `start + s·j`, inside the axis. -/
theorem slice1d_eq_spec (dim : Nat) (b e s : Option Int) (c : Nat)
    (h : Slices.getSliceShape1d dim (.sub b e s) = .ok (some c)) :
    s.getD 1 ≠ 0 ∧ 0 < c ∧
    (∀ j : Nat, j < c ↔ Spec.inRange (Spec.pyStart dim b (s.getD 1)) (Spec.pyStop dim e (s.getD 1)) (s.getD 1) j) ∧
    (∀ j : Nat, j < c →
        Slices.slice1dIndex dim b e s j = .ok (Spec.pyStart dim b (s.getD 1) + s.getD 1 * j).toNat ∧
        0 ≤ Spec.pyStart dim b (s.getD 1) + s.getD 1 * j ∧ Spec.pyStart dim b (s.getD 1) + s.getD 1 * j < dim) :=
  Slices.slice1d_spec dim b e s c h

example : Slices.getSliceShape1d 5 (.sub (some (-1)) none (some (-2))) = .ok (some 3) ∧
    Slices.slice1dIndex 5 (some (-1)) none (some (-2)) 2 = .ok 0 := by
  constructor <;> rfl

/-- **Single index**: accepted iff `-dim ≤ i < dim`, and then it denotes `i mod dim`. -/
theorem single_index_eq_spec (dim : Nat) (i : Int) :
    (Slices.getSliceShape1d dim (.single i) = .ok none ↔ (-(dim : Int) ≤ i ∧ i < dim)) ∧
    ((-(dim : Int) ≤ i ∧ i < dim) → (if 0 ≤ i then i else i + dim) = i % (dim : Int)) :=
  ⟨Slices.single_spec dim i, Slices.single_index dim i⟩

example : Slices.getSliceShape1d 5 (.single (-5)) = .ok none := by rfl

/-- **Ellipsis** (`get_clean_slice` only): a slice without ellipsis that is not longer than the rank
    is returned as is; one ellipsis is replaced by `rank - (number of other elements)` full axes. -/
theorem ellipsis_eq_spec (rank : Nat) (pre post : List Slices.SE) (hpre : ∀ x ∈ pre, x ≠ Slices.SE.ellipsis)
    (hpost : ∀ x ∈ post, x ≠ Slices.SE.ellipsis) (hl : pre.length + post.length ≤ rank) :
    Slices.getCleanSlice rank (pre ++ post) = .ok (pre ++ post) ∧
    Slices.getCleanSlice rank (pre ++ [Slices.SE.ellipsis] ++ post)
      = .ok (pre ++ List.replicate (rank - pre.length - post.length) (Slices.SE.sub none none none) ++ post) :=
  ⟨Slices.getCleanSlice_noEllipsis rank (pre ++ post)
      (fun x hx => by rcases List.mem_append.mp hx with h | h; exact hpre x h; exact hpost x h)
      (by simp only [List.length_append]; omega),
   Slices.getCleanSlice_ellipsis rank pre post hpre hpost hl⟩

example : Slices.getSliceShape [5, 4, 3] [.sub (some (-1)) none (some (-2)), .ellipsis, .single (-1)] = .ok [3, 4] := by
  rfl

/-- **GetSlice = NumPy basic slicing** (slices without ellipsis only; what `get_clean_slice` makes of
    an ellipsis is `ellipsis_eq_spec`, and nothing here carries the theorem over to the expanded
    slice): `r[I] = A[Slices.specIndex shape sl I]`, the source index being, axis by axis, `i mod d` for
    a single index, `start + step·I_j` for a sub-array, `I_j` for axes not mentioned. -/
theorem getSlice_eq_spec (shape xs : List Nat) (sl : List Slices.SE) (rd r : List Nat)
    (hne : ∀ x ∈ sl, x ≠ Slices.SE.ellipsis) (hs : Slices.getSliceShape shape sl = .ok rd)
    (h : getSlice shape xs sl rd = .ok r) (I : List Nat) (hI : validIdx I rd) :
    validIdx (Slices.specIndex shape sl I) shape ∧
    r.getD (flat I rd) 0 = Spec.ofFlat shape xs (Slices.specIndex shape sl I) := by
  obtain ⟨di, h1, h2⟩ := Slices.getSlice_entry shape xs sl rd r h (flat I rd) (flat_lt hI)
  rw [numberToIndex_flat hI] at h1
  obtain ⟨s1, s2⟩ := Slices.sliceIndex_spec shape sl rd I hne hs hI
  rw [s1] at h1
  cases h1
  refine ⟨s2, ?_⟩
  rw [h2, indexToNumber_eq_flat s2]
  rfl

example : getSlice [2, 5] [0, 1, 2, 3, 4, 5, 6, 7, 8, 9] [.ellipsis, .sub (some (-1)) none (some (-2))] [2, 3]
    = .ok [4, 2, 0, 9, 7, 5] := by rfl

set_option linter.unusedVariables false in
/-- **Plaintext Truncate**: every entry becomes the denoted integer divided by `scale`,
    rounding toward zero, reduced into the type (all 11 scalar types).  `hs`, `hs'` are the bounds
    the type checker puts on `scale`; they are not used. -/
theorem truncate_eq_spec (st : ST) (scale : Nat) (xs : List Nat) (hs : 0 < scale) (hs' : scale < 2 ^ 127)
    (hx : ∀ x ∈ xs, x < 2 ^ st.bits) :
    truncate st scale xs = xs.map fun r => st.ofInt (Int.tdiv (st.toInt r) scale) :=
  List.map_congr_left fun r hr => truncElem_eq st scale r (hx r hr)

example : truncate .i8 3 [249, 7, 128] = [254, 2, 214] := by decide

/-- **A2B / B2A**: A2B lists the `w` bits of every residue, least significant first; B2A
    packs `w` bits per element (`Σ b_k 2^k`); B2A ∘ A2B is the identity. -/
theorem a2b_b2a_eq_spec (st : ST) (hst : st ≠ .bit) (xs : List Nat) (hx : ∀ x ∈ xs, x < 2 ^ st.bits)
    (cs : List (List Nat)) (hc : ∀ c ∈ cs, c.length = st.bits ∧ ∀ b ∈ c, b < 2) :
    a2b st xs = .ok (xs.flatMap fun x => (List.range st.bits).map fun k => x / 2 ^ k % 2) ∧
    b2a st (cs.flatMap id) = .ok (cs.map Bytes.packBits) ∧
    (∃ bits, a2b st xs = .ok bits ∧ b2a st bits = .ok xs) :=
  ⟨a2b_spec st hst xs hx, b2a_spec st hst cs hc, b2a_a2b st hst xs hx⟩

example : a2b .u8 [5, 255] = .ok [1, 0, 1, 0, 0, 0, 0, 0, 1, 1, 1, 1, 1, 1, 1, 1] := by rfl

/-- **ApplyPermutation on payloads of any rank + round trips** (`p` a permutation of `0..d-1`, payload
    of shape `d × rest`, `rowOf a R k` = the `k`-th block of `R = Π rest` elements): plain: row `i` of
    the result is row `p[i]` of the input; inverse: row `p[i]` of the result is row `i` of the input;
    `apply(inverse_permutation p) ∘ apply(p) = id`, `apply_inverse(p) ∘ apply(p) = id`,
    `apply(p) ∘ apply_inverse(p) = id`. -/
theorem applyPermutation_roundtrip (d : Nat) (rest xs p : List Nat) (hx : xs.length = d * prod rest)
    (hpl : p.length = d) (hnd : p.Nodup) (hlt : ∀ v ∈ p, v < d) :
    ∃ q ys zs, inversePermutation p = .ok q ∧
      applyPermutation false (d :: rest) xs p = .ok ys ∧ ys.length = xs.length ∧
      (∀ i, i < d → rowOf ys (prod rest) i = rowOf xs (prod rest) (p.getD i 0)) ∧
      applyPermutation true (d :: rest) xs p = .ok zs ∧ zs.length = xs.length ∧
      (∀ i, i < d → rowOf zs (prod rest) (p.getD i 0) = rowOf xs (prod rest) i) ∧
      applyPermutation false (d :: rest) ys q = .ok xs ∧
      applyPermutation true (d :: rest) ys p = .ok xs ∧
      applyPermutation false (d :: rest) zs p = .ok xs := by
  subst hpl
  obtain ⟨q, hq, hql, hqnd, hqlt, hqp, hpq⟩ := inversePermutation_perm p hnd hlt
  have hexec : executeInversePermutation p = .ok q := by
    simpa only [inversePermutation, hnd, not_true_eq_false, if_false] using hq
  have hcp := perm_check p p.length rfl hnd hlt
  have hcq := perm_check q p.length hql hqnd hqlt
  have hrows : ∀ (a : List Nat), a.length = p.length → (∀ v ∈ a, v < p.length) →
      (a.flatMap (rowOf xs (prod rest))).length = xs.length ∧
      ∀ i, i < p.length → rowOf (a.flatMap (rowOf xs (prod rest))) (prod rest) i = rowOf xs (prod rest) (a.getD i 0) := by
    intro a hal ha
    have hf : ∀ v ∈ a, (rowOf xs (prod rest) v).length = prod rest :=
      fun v hv => rowOf_length xs _ _ v hx (ha v hv)
    constructor
    · rw [length_flatMap_const a _ _ hf, hal, hx]
    · intro i hi
      exact rowOf_flatMap xs _ _ a hx ha i (hal ▸ hi)
  have hap : ∀ (inv : Bool) (a : List Nat) (w : List Nat), ((a.filter (· < p.length)).eraseDups).length = p.length →
      (if inv then executeInversePermutation a else Except.ok a) = Except.ok w → (∀ v ∈ w, v < p.length) →
      ∀ ws, applyPermutation inv (p.length :: rest) ws a = .ok (w.flatMap (rowOf ws (prod rest))) := by
    intro inv a w hc hw hwlt ws
    have hne : ¬ ((a.filter (· < p.length)).eraseDups).length ≠ p.length := fun h => h hc
    rw [applyPermutation_unfold, if_neg hne, hw]
    exact gather_axis0 p.length rest ws w hwlt
  refine ⟨q, p.flatMap (rowOf xs (prod rest)), q.flatMap (rowOf xs (prod rest)), hq,
    hap false p p hcp rfl hlt xs, (hrows p rfl hlt).1, (hrows p rfl hlt).2,
    hap true p q hcp (by simpa using hexec) hqlt xs, (hrows q hql hqlt).1, ?_, ?_, ?_, ?_⟩
  · intro i hi
    have := (hrows q hql hqlt).2 (p.getD i 0) (hlt _ (getD_mem p i hi 0))
    rw [this, hqp i hi]
  · rw [hap false q q hcq rfl hqlt]
    exact congrArg Except.ok (gather_rows_inverse xs _ _ p q hx rfl hql hlt hqlt hpq)
  · rw [hap true p q hcp (by simpa using hexec) hqlt]
    exact congrArg Except.ok (gather_rows_inverse xs _ _ p q hx rfl hql hlt hqlt hpq)
  · rw [hap false p p hcp rfl hlt]
    exact congrArg Except.ok (gather_rows_inverse xs _ _ q p hx hql rfl hqlt hlt hqp)

example : inversePermutation [2, 0, 1] = .ok [1, 2, 0] ∧
    applyPermutation false [3, 2] [1, 2, 3, 4, 5, 6] [2, 0, 1] = .ok [5, 6, 1, 2, 3, 4] ∧
    applyPermutation false [3, 2] [5, 6, 1, 2, 3, 4] [1, 2, 0] = .ok [1, 2, 3, 4, 5, 6] ∧
    applyPermutation true [3, 2] [5, 6, 1, 2, 3, 4] [2, 0, 1] = .ok [1, 2, 3, 4, 5, 6] := ⟨rfl, rfl, rfl, rfl⟩

/-- **ApplyPermutation** (1-d payload, `p` a permutation of `0..n-1`):
    plain `R[i] = A[p[i]]`, inverse `R[p[i]] = A[i]`; the case `rest = []` of
    `applyPermutation_roundtrip`. -/
theorem applyPermutation_eq_spec (xs p : List Nat) (hlen : p.length = xs.length) (hnd : p.Nodup) (hlt : ∀ v ∈ p, v < p.length) :
    (∃ r, applyPermutation false [xs.length] xs p = .ok r ∧ r.length = xs.length ∧ ∀ i, i < xs.length → r.getD i 0 = xs.getD (p.getD i 0) 0) ∧
    (∃ r, applyPermutation true [xs.length] xs p = .ok r ∧ r.length = xs.length ∧ ∀ i, i < xs.length → r.getD (p.getD i 0) 0 = xs.getD i 0) := by
  obtain ⟨q, ys, zs, -, hy, hyl, hyr, hz, hzl, hzr, -⟩ :=
    applyPermutation_roundtrip xs.length [] xs p (Nat.mul_one _).symm hlen hnd (fun v hv => hlen ▸ hlt v hv)
  have hrow : ∀ (l : List Nat) k, (rowOf l (prod []) k).getD 0 0 = l.getD k 0 := by
    intro l k
    show (slice l (k * 1) 1).getD 0 0 = _
    rw [slice_getD _ _ _ _ Nat.zero_lt_one, Nat.mul_one, Nat.add_zero]
  refine ⟨⟨ys, hy, hyl, fun i hi => ?_⟩, ⟨zs, hz, hzl, fun i hi => ?_⟩⟩
  · rw [← hrow ys, hyr i hi, hrow]
  · rw [← hrow zs, hzr i hi, hrow]

example : applyPermutation true [3] [10, 20, 30] [2, 0, 1] = .ok [20, 30, 10] := by rfl

/-- **SegmentCumSum = the documented iteration** (`output[0] = v`, `output[i] = A[i-1] + B[i-1]·output[i-1]`),
    all scalar types (arithmetic mod 2^w), any number of rows `n` (also `n = 0`), any row shape `rest`
    (`[]` with `first` a scalar). -/
theorem segmentCumSum_eq_spec (st : ST) (rest xs bits first : List Nat)
    (hx : xs.length = bits.length * prod rest) (hf : first.length = prod rest) (hb : ∀ x ∈ bits, x < 2)
    (i : Nat) (J : List Nat) (hi : i ≤ bits.length) (hJ : validIdx J rest) :
    (segmentCumSum st (prod rest) xs bits first).length = (bits.length + 1) * prod rest ∧
    Spec.ofFlat ((bits.length + 1) :: rest) (segmentCumSum st (prod rest) xs bits first) (i :: J)
      = Spec.segmentCumSum st (Spec.ofFlat (bits.length :: rest) xs) (fun t => bits.getD t 0)
          (Spec.ofFlat rest first) (i :: J) :=
  ⟨(segmentCumSum_flat st (prod rest) xs bits first hx hf hb).1,
   (segmentCumSum_flat st (prod rest) xs bits first hx hf hb).2 i (flat J rest) hi (flat_lt hJ)⟩

example : segmentCumSum .i8 2 [1, 2, 3, 4, 250, 6] [1, 1, 0] [100, 127] = [100, 127, 101, 129, 104, 133, 250, 6] := by
  decide

/-- **The iteration is a segment-wise cumulative sum**: with bits `B`, row `i` of the output is the
    first row plus all input rows before `i` when no segment has started (`B[k] = 1` for all `k < i`),
    and otherwise the sum of the input rows `s..i-1`, where `s` is the last position with `B[s] = 0`
    (the row at a segment start is the input row itself). -/
theorem segment_sums (a : Nat → Int) (b : Nat → Nat) (v : Int) (i : Nat) :
    ((∀ k, k < i → b k = 1) → Spec.segIter a b v i = v + Spec.sumFrom 0 i a) ∧
    (∀ s, s < i → b s = 0 → (∀ k, s < k → k < i → b k = 1) → Spec.segIter a b v i = Spec.sumFrom s i a) :=
  ⟨segIter_all_ones a b v i, fun s hs h0 h1 => segIter_segment a b v s i hs h0 h1⟩

example : Spec.segIter (fun k => [1, 2, 3, 4].getD k 0) (fun k => [1, 0, 1, 1].getD k 0) 10 4 = 9 ∧
    Spec.sumFrom 1 4 (fun k => [1, 2, 3, 4].getD k 0) = 9 := by decide

/-- **CuckooHash, placement invariant** (`evaluate_cuckoo`: flat table, insertion loop with
    evictions and the bound of 100 re-insertions; any number of sets, strings, hash functions
    `h ≥ 1`, matrix sizes): if the evaluation succeeds, the result has `numSets · 2^rows` cells and in
    the cells `s·2^rows .. (s+1)·2^rows - 1` of set `s`
    * every string index `i < n` sits in a cell `c` which is one of its hash positions
      (`c = hash_f(string i)` for some `f < h`),
    * no index sits in two cells,
    * every other cell holds the sentinel `CUCKOO_DUMMY_ELEMENT = 2^64 - 1`. -/
theorem cuckooHash_placement (inputBits hm : List Nat) (numSets n b h rows cols : Nat) (hh : 0 < h)
    (hbits : ∀ x ∈ inputBits, x < 2) (hn : n < 2 ^ 64) (r : List Nat)
    (hres : cuckooHash inputBits hm numSets n b h rows cols = .ok r) :
    r.length = numSets * 2 ^ rows ∧
      ∀ s, s < numSets →
        (∀ i, i < n → ∃ c, c < 2 ^ rows ∧ r.getD (s * 2 ^ rows + c) 0 = i ∧
          ∃ f, f < h ∧ cuckooHashAt inputBits hm n b rows cols s f i = c) ∧
        (∀ c c', c < 2 ^ rows → c' < 2 ^ rows → r.getD (s * 2 ^ rows + c) 0 = r.getD (s * 2 ^ rows + c') 0 →
          r.getD (s * 2 ^ rows + c) 0 ≠ cuckooDummy → c = c') ∧
        (∀ c, c < 2 ^ rows → r.getD (s * 2 ^ rows + c) 0 = cuckooDummy ∨ r.getD (s * 2 ^ rows + c) 0 < n) := by
  obtain ⟨hlen, hinv⟩ := cuckooHash_inv inputBits hm numSets n b h rows cols hh hbits hn r hres
  refine ⟨hlen, ?_⟩
  intro s hs
  obtain ⟨used, hi⟩ := hinv s hs
  have hw : ∀ c, c < 2 ^ rows → win (2 ^ rows) s (s * 2 ^ rows + c) :=
    fun c hc => ⟨Nat.le_add_right _ _, Nat.add_lt_add_left hc _⟩
  refine ⟨?_, ?_, ?_⟩
  · intro i hin
    obtain ⟨c', hc', hci⟩ := hi.mem i hin
    have hd : r.getD c' 0 ≠ cuckooDummy := by rw [hci]; unfold cuckooDummy; omega
    have hcell := hi.cell c' hc' hd
    refine ⟨c' - s * 2 ^ rows, by have := hc'.1; have := hc'.2; omega, ?_, used.getD c' 0, hcell.2.1, ?_⟩
    · rw [Nat.add_sub_cancel' hc'.1]; exact hci
    · have h2 := hcell.2.2
      rw [hci] at h2
      have := hc'.1
      omega
  · intro c c' hc hc' heq hd
    have := hi.inj _ _ (hw c hc) (hw c' hc') heq hd
    omega
  · intro c hc
    by_cases hd : r.getD (s * 2 ^ rows + c) 0 = cuckooDummy
    · exact Or.inl hd
    · exact Or.inr (hi.cell _ (hw c hc) hd).1

/-- three strings that all hash to cell 0 under the first hash function: the second evicts the first,
    the third evicts the second; two sets in one flat table; a failing instance (five strings for
    four cells) -/
example : cuckooHash [0, 1, 1, 0, 1, 1] [0, 0, 0, 0, 1, 0, 0, 1, 1, 1, 1, 1] 1 3 2 3 2 2
      = .ok [2, 1, 0, 2 ^ 64 - 1] ∧
    cuckooHash [0, 1, 1, 0, 1, 1, 1, 1, 0, 1, 1, 0] [0, 0, 0, 0, 1, 0, 0, 1, 1, 1, 1, 1] 2 3 2 3 2 2
      = .ok [2, 1, 0, 2 ^ 64 - 1, 2, 2 ^ 64 - 1, 1, 0] ∧
    (∃ e, cuckooHash [0, 1, 1, 0, 1, 1, 0, 0, 0, 1] [0, 0, 0, 0, 1, 0, 0, 1, 1, 1, 1, 1] 1 5 2 3 2 2 = .error e) :=
  ⟨rfl, rfl, _, rfl⟩

/-- **CuckooHash, pigeonhole failure**: with more strings in a set than cells in its table the
    evaluation is a run-time error (consequence of the placement invariant). -/
theorem cuckooHash_overfull (inputBits hm : List Nat) (numSets n b h rows cols : Nat) (hh : 0 < h)
    (hbits : ∀ x ∈ inputBits, x < 2) (hn : n < 2 ^ 64) (hs : 0 < numSets) (hfull : 2 ^ rows < n) :
    ∃ e, cuckooHash inputBits hm numSets n b h rows cols = .error e := by
  cases hres : cuckooHash inputBits hm numSets n b h rows cols with
  | error e => exact ⟨e, rfl⟩
  | ok r =>
    exfalso
    obtain ⟨_, hpl⟩ := cuckooHash_placement inputBits hm numSets n b h rows cols hh hbits hn r hres
    obtain ⟨hmem, _, _⟩ := hpl 0 hs
    have hsub : List.range n ⊆ (List.range (2 ^ rows)).map (fun c => r.getD (0 * 2 ^ rows + c) 0) := by
      intro i hi
      obtain ⟨c, hc, hci, _⟩ := hmem i (List.mem_range.mp hi)
      exact List.mem_map.mpr ⟨c, List.mem_range.mpr hc, hci⟩
    have := List.Nodup.length_le_of_subset List.nodup_range hsub
    simp only [List.length_range, List.length_map] at this
    omega

example : ∃ e, cuckooHash [0, 1, 1, 0, 1, 1, 0, 0, 0, 1] [0, 0, 0, 0, 1, 0, 0, 1, 1, 1, 1, 1] 1 5 2 3 2 2 = .error e :=
  cuckooHash_overfull _ _ 1 5 2 3 2 2 (by decide) (by decide) (by decide) (by decide) (by decide)

/-- **Zip** of `k ≥ 1` vectors of equal length `n`: `n` rows of `k` entries, `result[i][k] = values[k][i]`. -/
theorem zip_eq_spec {α : Type} (values : List (List α)) (n : Nat) (hne : values ≠ [])
    (hl : ∀ v ∈ values, v.length = n) :
    (zip values).length = n ∧
    ∀ i, i < n → ∃ row, (zip values)[i]? = some row ∧ row.length = values.length ∧
      ∀ (k : Nat) (v : List α), values[k]? = some v → row[k]? = v[i]? := by
  have hhead : (values.headD []).length = n := by
    cases values with
    | nil => exact absurd rfl hne
    | cons v vs => exact hl v List.mem_cons_self
  obtain ⟨hlen, hval⟩ := zipLoop_spec values n hl n 0 (by omega)
  unfold zip
  rw [hhead]
  refine ⟨hlen, ?_⟩
  intro i hi
  obtain ⟨row, hrow, hrl, hrv⟩ := zipRow_spec values n i hl hi
  refine ⟨row, ?_, hrl, hrv⟩
  rw [hval i hi, Nat.zero_add, hrow]

example : zip [[1, 2, 3], [4, 5, 6]] = [[1, 4], [2, 5], [3, 6]] := by decide

/-- **Repeat(n)** is `n` copies; **CreateTuple/CreateNamedTuple/CreateVector** followed by
    **TupleGet / VectorGet / NamedTupleGet** returns the selected operand; `VectorGet` beyond the
    length is a run-time error. -/
theorem plumbing_eq_spec {α : Type} (vs : List α) (v : α) (n id : Nat) :
    ((repeatV n v).length = n ∧ ∀ i, i < n → (repeatV n v)[i]? = some v) ∧
    tupleGet (createTuple vs) id = vs[id]? ∧
    (∀ w, vs[id]? = some w → vectorGet (createTuple vs) id = .ok w) ∧
    (vs.length ≤ id → ∃ e, vectorGet (createTuple vs) id = .error e) ∧
    (∀ (names : List String) (name : String), names.findIdx? (· == name) = some id →
      namedTupleGet names (createTuple vs) name = vs[id]?) :=
  ⟨repeat_spec n v, (tuple_get_spec vs id).1, (tuple_get_spec vs id).2.1, (tuple_get_spec vs id).2.2,
    fun names name h => namedTupleGet_spec names vs name id h⟩

example : repeatV 3 [7, 8] = [[7, 8], [7, 8], [7, 8]] ∧ tupleGet (createTuple [10, 20, 30]) 1 = some 20 ∧
    namedTupleGet ["a", "b", "c"] [10, 20, 30] "c" = some 30 := by decide

end CCV.C10
