import CCV.Model.Reshare
import CCV.Lemmas.Run
/-
  Planner safety (C01, T9), model: CCV/Model/Reshare.lean.  First the notions the theorems of
  CCV/Proofs/C01Reshare.lean are stated with (`Unres`, `NeedsReplicated`, `WF`, `PosSizes`, `OutputUnused`,
  `Needed`), then the invariants of the two loops of `compute_graph_resharing` (`MainInv` for safety,
  `PrivInv` / `DisjInv` for the bookkeeping) and of `sanity_pass` (`RecAll`, `SanInv`).
-/
namespace CCV.C01
open CCV.Reshare

/-- a product (Multiply/Dot/Matmul/Gemm) whose operands are all private: translated to the ABY3
    product protocol, whose result is a 3-out-of-3 sharing -/
def AllPrivProduct (g : Graph) (n : Node) : Prop := n.cls = .product ∧ allPriv g n = true

/-- `Unres g P i`: with the plan `P` (= the nodes that get a `reshare` appended), the compiled value
    of node `i` is a 3-out-of-3 sharing that has not been reshared:
    * a private×private product outside the plan, or
    * a private node outside the plan one of whose operands is unreshared (share-wise translation:
      party `j` can only compute component `j`). -/
inductive Unres (g : Graph) (P : List Nat) : Nat → Prop
  | prod {i : Nat} {n : Node} : g.nodes[i]? = some n → n.priv = true → i ∉ P →
      AllPrivProduct g n → Unres g P i
  | prop {i : Nat} {n : Node} {d : Nat} : g.nodes[i]? = some n → n.priv = true → i ∉ P →
      d ∈ n.deps → Unres g P d → Unres g P i

/-- the compiled translation of `n` runs a protocol that reads replicated (2-out-of-3) operands:
    Join, JoinWithColumnMasks, Truncate, A2B, B2A, Sort (and GetSlice, by the planner's policy);
    a product of private operands; MixedMultiply / ApplyPermutation with private bits / permutation -/
def NeedsReplicated (g : Graph) (n : Node) : Prop :=
  n.priv = true ∧
    (n.cls = .need2 ∨ AllPrivProduct g n ∨
      (n.cls = .cond1 ∧ ∃ d0 d1 ds, n.deps = d0 :: d1 :: ds ∧ privAt g d1 = true))

/-- graphs as ciphercore builds them: operands precede the node, inputs have no operands -/
structure WF (g : Graph) : Prop where
  order : ∀ (i : Nat) (n : Node), g.nodes[i]? = some n → ∀ d ∈ n.deps, d < i
  inputs : ∀ (i : Nat) (n : Node), g.nodes[i]? = some n → n.cls = .input → n.deps = []

/-- operands of broadcasting operations (arrays / scalars) have a positive size in bits -/
def PosSizes (g : Graph) : Prop :=
  ∀ (i : Nat) (n : Node), g.nodes[i]? = some n → n.bcast = true → ∀ d ∈ n.deps, 0 < sizeAt g d

/-- no node uses the output node as an operand (the output is the last live node) -/
def OutputUnused (g : Graph) : Prop :=
  ∀ (i : Nat) (n : Node), g.nodes[i]? = some n → g.out ∉ n.deps

/-- a reshared node would be 3-out-of-3 if it were not reshared -/
def Needed (g : Graph) (P : List Nat) (i : Nat) : Prop :=
  ∃ n, g.nodes[i]? = some n ∧ (AllPrivProduct g n ∨ ∃ d ∈ n.deps, Unres g P d)

theorem mem_ins {x y : Nat} {s : List Nat} : y ∈ ins x s ↔ y = x ∨ y ∈ s := by
  unfold ins
  by_cases h : x ∈ s
  · rw [if_pos h]; exact ⟨Or.inr, fun a => a.elim (fun e => e ▸ h) id⟩
  · rw [if_neg h]; exact List.mem_cons

theorem mem_del {x y : Nat} {s : List Nat} : y ∈ del x s ↔ y ∈ s ∧ y ≠ x := by
  simp [del]

theorem del_of_not_mem {x : Nat} {s : List Nat} (h : x ∉ s) : del x s = s :=
  List.filter_eq_self.2 (fun y hy => bne_iff_ne.2 (fun e => h (e ▸ hy)))

theorem mem_ensure_U (ds : List Nat) (s : St) (x : Nat) :
    x ∈ (ensureDeps ds s).unreshared ↔ x ∈ s.unreshared ∧ x ∉ ds := by
  induction ds generalizing s with
  | nil => simp [ensureDeps]
  | cons d ds ih =>
    show x ∈ (ensureDeps ds (if d ∈ s.unreshared then ⟨ins d s.toReshare, del d s.unreshared⟩ else s)).unreshared ↔ _
    rw [ih]
    by_cases hd : d ∈ s.unreshared
    · simp only [hd, if_true, mem_del, List.mem_cons, not_or, and_assoc]
    · by_cases e : x = d
      · simp [e, hd]
      · simp [hd, e]

theorem mem_ensure_R (ds : List Nat) (s : St) (x : Nat) :
    x ∈ (ensureDeps ds s).toReshare ↔ x ∈ s.toReshare ∨ (x ∈ s.unreshared ∧ x ∈ ds) := by
  induction ds generalizing s with
  | nil => simp [ensureDeps]
  | cons d ds ih =>
    show x ∈ (ensureDeps ds (if d ∈ s.unreshared then ⟨ins d s.toReshare, del d s.unreshared⟩ else s)).toReshare ↔ _
    rw [ih]
    by_cases hd : d ∈ s.unreshared
    · by_cases e : x = d
      · simp [e, hd, mem_ins]
      · simp [e, hd, mem_ins, mem_del]
    · by_cases e : x = d
      · simp [e, hd]
      · simp [e, hd]

theorem unresSize_zero (g : Graph) (u ds : List Nat) (h : unresSize g u ds = 0) :
    ∀ d ∈ ds, d ∈ u → sizeAt g d = 0 := by
  induction ds with
  | nil => intro d hd; cases hd
  | cons e ds ih =>
    intro d hd hu
    replace h : (if e ∈ u then sizeAt g e else 0) + unresSize g u ds = 0 := h
    rcases List.mem_cons.1 hd with rfl | hd
    · have : (if d ∈ u then sizeAt g d else 0) = 0 := by omega
      simpa [hu] using this
    · exact ih (by omega) d hd hu

theorem any_mem_false {u ds : List Nat} (h : ds.any (fun d => decide (d ∈ u)) = false) :
    ∀ d ∈ ds, d ∉ u := by
  intro d hd hu
  have : ds.any (fun d => decide (d ∈ u)) = true := List.any_eq_true.2 ⟨d, hd, by simpa using hu⟩
  rw [h] at this; cases this

theorem any_mem_true {u ds : List Nat} (h : ds.any (fun d => decide (d ∈ u)) = true) :
    ∃ d ∈ ds, d ∈ u := by
  obtain ⟨d, hd, hu⟩ := List.any_eq_true.1 h
  exact ⟨d, hd, by simpa using hu⟩

theorem unres_mono {g : Graph} {P P' : List Nat} (h : ∀ x, x ∈ P → x ∈ P') {i : Nat}
    (u : Unres g P' i) : Unres g P i := by
  induction u with
  | prod hn hp hi ha => exact .prod hn hp (fun c => hi (h _ c)) ha
  | prop hn hp hi hd _ ih => exact .prop hn hp (fun c => hi (h _ c)) hd ih

theorem unres_unfold (g : Graph) (P : List Nat) (i : Nat) :
    Unres g P i ↔ ∃ n, g.nodes[i]? = some n ∧ n.priv = true ∧ i ∉ P ∧
      (AllPrivProduct g n ∨ ∃ d ∈ n.deps, Unres g P d) := by
  constructor
  · intro u
    cases u with
    | prod hn hp hi ha => exact ⟨_, hn, hp, hi, Or.inl ha⟩
    | prop hn hp hi hd hu => exact ⟨_, hn, hp, hi, Or.inr ⟨_, hd, hu⟩⟩
  · rintro ⟨n, hn, hp, hi, ha | ⟨d, hd, hu⟩⟩
    · exact .prod hn hp hi ha
    · exact .prop hn hp hi hd hu

theorem unres_not_mem {g : Graph} {P : List Nat} {i : Nat} (u : Unres g P i) : i ∉ P :=
  let ⟨_, _, _, hi, _⟩ := (unres_unfold g P i).1 u; hi

theorem unres_inv {g : Graph} {P : List Nat} {i : Nat} {n : Node} (hn : g.nodes[i]? = some n)
    (u : Unres g P i) :
    n.priv = true ∧ i ∉ P ∧ (AllPrivProduct g n ∨ ∃ d ∈ n.deps, Unres g P d) := by
  obtain ⟨n', hn', h⟩ := (unres_unfold g P i).1 u
  rw [hn] at hn'; cases hn'; exact h

theorem unres_lt {g : Graph} {P : List Nat} {i : Nat} (u : Unres g P i) : i < g.nodes.length :=
  let ⟨_, hn, _⟩ := (unres_unfold g P i).1 u; (List.getElem?_eq_some_iff.1 hn).1

theorem privAt_of {g : Graph} {i : Nat} {n : Node} (hn : g.nodes[i]? = some n) :
    privAt g i = n.priv := by
  simp [privAt, hn]

theorem lt_of_privAt {g : Graph} {i : Nat} (h : privAt g i = true) : i < g.nodes.length := by
  unfold privAt at h
  cases hn : g.nodes[i]? with
  | none => rw [hn] at h; cases h
  | some n => exact (List.getElem?_eq_some_iff.1 hn).1

theorem unres_priv {g : Graph} {P : List Nat} {i : Nat} (u : Unres g P i) : privAt g i = true :=
  let ⟨_, hn, hp, _⟩ := (unres_unfold g P i).1 u; (privAt_of hn).trans hp

theorem unres_del {g : Graph} {R : List Nat} {i : Nat} {n : Node} (hn : g.nodes[i]? = some n)
    (hprod : ¬ AllPrivProduct g n) (hdeps : ∀ d ∈ n.deps, ¬ Unres g R d) {m : Nat}
    (u : Unres g (del i R) m) : Unres g R m := by
  induction u with
  | @prod m n' hn' hp hi ha =>
    by_cases e : m = i
    · subst e; rw [hn] at hn'; cases hn'; exact absurd ha hprod
    · exact .prod hn' hp (fun c => hi (mem_del.2 ⟨c, e⟩)) ha
  | @prop m n' d hn' hp hi hd _ ih =>
    by_cases e : m = i
    · subst e; rw [hn] at hn'; cases hn'; exact absurd ih (hdeps d hd)
    · exact .prop hn' hp (fun c => hi (mem_del.2 ⟨c, e⟩)) hd ih

theorem getElem?_split {α : Type} {l pre : List α} {x : α} {rest : List α} {k : Nat}
    (h : l = pre ++ x :: rest) (hk : pre.length = k) : l[k]? = some x := by
  subst h; subst hk; simp

theorem mainPass_induct {g : Graph} (I : Nat → St → Prop)
    (step : ∀ k n s s', g.nodes[k]? = some n → mainStep g k n s = some s' → I k s → I (k + 1) s')
    {s0 s' : St} (h : mainPass g g.nodes 0 s0 = some s') (h0 : I 0 s0) : I g.nodes.length s' := by
  suffices H : ∀ (ns pre : List Node) (k : Nat) (s : St), g.nodes = pre ++ ns → pre.length = k →
      mainPass g ns k s = some s' → I k s → I g.nodes.length s' from H g.nodes [] 0 s0 rfl rfl h h0
  intro ns
  induction ns with
  | nil =>
    intro pre k s hg hk h inv
    rw [hg, List.append_nil, hk]
    cases h; exact inv
  | cons n ns ih =>
    intro pre k s hg hk h inv
    replace h : (match mainStep g k n s with
      | none => none
      | some s1 => mainPass g ns (k + 1) s1) = some s' := h
    cases hs : mainStep g k n s with
    | none => rw [hs] at h; cases h
    | some s1 =>
      rw [hs] at h
      exact ih (pre ++ [n]) (k + 1) s1 (by rw [hg, List.append_assoc]; rfl)
        (by rw [List.length_append, hk]; rfl) h (step k n s s1 (getElem?_split hg hk) hs inv)

theorem sanityPass_induct {g : Graph} (I : Nat → St → Prop)
    (step : ∀ k n s, g.nodes[k]? = some n → I k s → I (k + 1) (sanityStep g k n s))
    (s0 : St) (h0 : I 0 s0) : I g.nodes.length (sanityPass g g.nodes 0 s0) := by
  suffices H : ∀ (ns pre : List Node) (k : Nat) (s : St), g.nodes = pre ++ ns → pre.length = k →
      I k s → I g.nodes.length (sanityPass g ns k s) from H g.nodes [] 0 s0 rfl rfl h0
  intro ns
  induction ns with
  | nil =>
    intro pre k s hg hk inv
    rw [hg, List.append_nil, hk]; exact inv
  | cons n ns ih =>
    intro pre k s hg hk inv
    exact ih (pre ++ [n]) (k + 1) _ (by rw [hg, List.append_assoc]; rfl)
      (by rw [List.length_append, hk]; rfl) (step k n s (getElem?_split hg hk) inv)

/-- what one iteration of the first loop guarantees, whatever match arm is taken.  `hk` and `hs` assume
    that `unreshared_nodes` records every really unreshared node below `k` FOR THE NEW STATE: the step may
    move operands into the plan, which changes `Unres`, so `mainInv_step` first re-establishes the record
    for `s'` (from `hR`, `hU`) and only then uses them. -/
structure StepOK (g : Graph) (k : Nat) (n : Node) (s s' : St) : Prop where
  hR : ∀ x, x ∈ s.toReshare → x ∈ s'.toReshare
  hU : ∀ x, x ∈ s.unreshared → x ∈ s'.unreshared ∨ x ∈ s'.toReshare
  hk : (∀ m, m < k → Unres g s'.toReshare m → m ∈ s'.unreshared) →
        Unres g s'.toReshare k → k ∈ s'.unreshared
  hs : (∀ m, m < k → Unres g s'.toReshare m → m ∈ s'.unreshared) →
        NeedsReplicated g n → ∀ d ∈ n.deps, ¬ Unres g s'.toReshare d

theorem needsReplicated_cases {g : Graph} {n : Node} (h : NeedsReplicated g n) :
    n.cls = .need2 ∨ AllPrivProduct g n ∨ (n.cls = .cond1 ∧ ∃ d0 d1 ds, n.deps = d0 :: d1 :: ds ∧ privAt g d1 = true) :=
  h.2

theorem stepOK_id {g : Graph} {k : Nat} {n : Node} {s : St}
    (hno : (∀ m, m < k → Unres g s.toReshare m → m ∈ s.unreshared) → ¬ Unres g s.toReshare k)
    (hnr : ¬ NeedsReplicated g n) : StepOK g k n s s :=
  ⟨fun _ h => h, fun _ h => Or.inl h, fun H u => absurd u (hno H), fun _ h => absurd h hnr⟩

theorem ensure_no_unres {g : Graph} {k : Nat} {n : Node} {s : St} (wf : WF g)
    (hn : g.nodes[k]? = some n)
    (H : ∀ m, m < k → Unres g (ensureDeps n.deps s).toReshare m → m ∈ (ensureDeps n.deps s).unreshared) :
    ∀ d ∈ n.deps, ¬ Unres g (ensureDeps n.deps s).toReshare d := by
  intro d hd u
  have := H d (wf.order k n hn d hd) u
  exact ((mem_ensure_U _ _ _).1 this).2 hd

theorem stepOK_ensure {g : Graph} {k : Nat} {n : Node} {s : St} (wf : WF g)
    (hn : g.nodes[k]? = some n) (hprod : ¬ AllPrivProduct g n) :
    StepOK g k n s (ensureDeps n.deps s) where
  hR x h := (mem_ensure_R _ _ _).2 (Or.inl h)
  hU x h := by
    by_cases e : x ∈ n.deps
    · exact Or.inr ((mem_ensure_R _ _ _).2 (Or.inr ⟨h, e⟩))
    · exact Or.inl ((mem_ensure_U _ _ _).2 ⟨h, e⟩)
  hk H u := by
    rcases (unres_inv hn u).2.2 with h | ⟨d, hd, hu⟩
    · exact absurd h hprod
    · exact absurd hu (ensure_no_unres wf hn H d hd)
  hs H _ := ensure_no_unres wf hn H

theorem stepOK_product {g : Graph} {k : Nat} {n : Node} {s : St} (wf : WF g)
    (hn : g.nodes[k]? = some n) :
    StepOK g k n s { ensureDeps n.deps s with unreshared := ins k (ensureDeps n.deps s).unreshared } where
  hR x h := (mem_ensure_R _ _ _).2 (Or.inl h)
  hU x h := by
    by_cases e : x ∈ n.deps
    · exact Or.inr ((mem_ensure_R _ _ _).2 (Or.inr ⟨h, e⟩))
    · exact Or.inl (mem_ins.2 (Or.inr ((mem_ensure_U _ _ _).2 ⟨h, e⟩)))
  hk _ _ := mem_ins.2 (Or.inl rfl)
  hs H _ := by
    intro d hd u
    have hlt := wf.order k n hn d hd
    have := H d hlt u
    rcases mem_ins.1 this with e | h
    · omega
    · exact ((mem_ensure_U _ _ _).1 h).2 hd

theorem localOp_cases (g : Graph) (k : Nat) (n : Node) (s : St) :
    localOp g k n s = ensureDeps n.deps s ∨
      localOp g k n s = { s with unreshared := ins k s.unreshared } ∨
      (localOp g k n s = s ∧ ∀ d ∈ n.deps, d ∈ s.unreshared → n.bcast = true ∧ sizeAt g d = 0) := by
  unfold localOp
  by_cases hb : n.bcast = true
  · rw [if_pos hb]
    by_cases h1 : n.size > unresSize g s.unreshared n.deps
    · exact Or.inl (if_pos h1)
    · by_cases h2 : unresSize g s.unreshared n.deps > 0
      · exact Or.inr (Or.inl ((if_neg h1).trans (if_pos h2)))
      · exact Or.inr (Or.inr ⟨(if_neg h1).trans (if_neg h2), fun d hd hu =>
          ⟨hb, unresSize_zero g s.unreshared n.deps (by omega) d hd hu⟩⟩)
  · rw [if_neg hb]
    by_cases h1 : (n.deps.any fun d => decide (d ∈ s.unreshared)) = true
    · exact Or.inr (Or.inl (if_pos h1))
    · exact Or.inr (Or.inr ⟨if_neg h1, fun d hd hu =>
        absurd hu (any_mem_false (Bool.eq_false_iff.2 h1) d hd)⟩)

theorem stepOK_localOp {g : Graph} {k : Nat} {n : Node} {s : St} (wf : WF g) (ps : PosSizes g)
    (hn : g.nodes[k]? = some n) (hprod : ¬ AllPrivProduct g n) (hnr : ¬ NeedsReplicated g n) :
    StepOK g k n s (localOp g k n s) := by
  rcases localOp_cases g k n s with e | e | ⟨e, hno⟩
  · rw [e]; exact stepOK_ensure wf hn hprod
  · rw [e]
    exact ⟨fun _ h => h, fun _ h => Or.inl (mem_ins.2 (Or.inr h)), fun _ _ => mem_ins.2 (Or.inl rfl),
      fun _ h => absurd h hnr⟩
  · rw [e]
    refine stepOK_id (fun H u => ?_) hnr
    rcases (unres_inv hn u).2.2 with h | ⟨d, hd, hu⟩
    · exact hprod h
    · obtain ⟨hb, z⟩ := hno d hd (H d (wf.order k n hn d hd) hu)
      have := ps k n hn hb d hd
      omega

theorem not_allPrivProduct {g : Graph} {n : Node} (h : n.cls ≠ .product) : ¬ AllPrivProduct g n :=
  fun ha => h ha.1

theorem not_needsReplicated {g : Graph} {n : Node} (h2 : n.cls ≠ .need2) (hp : ¬ AllPrivProduct g n)
    (h1 : n.cls = .cond1 → ∀ d0 d1 ds, n.deps = d0 :: d1 :: ds → privAt g d1 ≠ true) :
    ¬ NeedsReplicated g n := by
  intro h
  rcases h.2 with h | h | ⟨hc, d0, d1, ds, hd, hp1⟩
  · exact h2 h
  · exact hp h
  · exact h1 hc d0 d1 ds hd hp1

/-- the arms of the first loop of `compute_graph_resharing`, each with what the planner knows of the
    node when it takes it -/
theorem mainStep_arms {g : Graph} {k : Nat} {n : Node} {s s' : St} (h : mainStep g k n s = some s') :
    (s' = s ∧ ¬ NeedsReplicated g n ∧ (n.priv = false ∨ n.cls = .input)) ∨ (n.priv = true ∧
      ((¬ AllPrivProduct g n ∧ ¬ NeedsReplicated g n ∧ s' = localOp g k n s) ∨
       s' = { ensureDeps n.deps s with unreshared := ins k (ensureDeps n.deps s).unreshared } ∨
       (¬ AllPrivProduct g n ∧ s' = ensureDeps n.deps s))) := by
  unfold mainStep at h
  cases hp : n.priv with
  | false =>
    rw [hp, if_pos rfl] at h; cases h
    exact Or.inl ⟨rfl, fun hnr => (by have := hnr.1; rw [hp] at this; cases this), Or.inl rfl⟩
  | true =>
    rw [hp, if_neg (fun e => Bool.noConfusion e)] at h
    cases hc : n.cls with
    | other => rw [hc] at h; cases h
    | product =>
      rw [hc] at h
      dsimp only at h
      by_cases ha : allPriv g n = true
      · rw [if_pos ha] at h; cases h; exact Or.inr ⟨rfl, Or.inr (Or.inl rfl)⟩
      · rw [if_neg ha] at h; cases h
        exact Or.inr ⟨rfl, Or.inl ⟨fun hx => ha hx.2, not_needsReplicated (by rw [hc]; decide)
          (fun hx => ha hx.2) (fun e => by rw [hc] at e; cases e), rfl⟩⟩
    | cond1 =>
      rw [hc] at h
      have hprod : ¬ AllPrivProduct g n := not_allPrivProduct (by rw [hc]; decide)
      match hd : n.deps with
      | [] => rw [hd] at h; cases h
      | [_] => rw [hd] at h; cases h
      | d0 :: d1 :: ds =>
        rw [hd] at h
        dsimp only at h
        by_cases h1 : privAt g d1 = true
        · rw [if_pos h1] at h; cases h; exact Or.inr ⟨rfl, Or.inr (Or.inr ⟨hprod, rfl⟩)⟩
        · rw [if_neg h1] at h; cases h
          refine Or.inr ⟨rfl, Or.inl ⟨hprod, not_needsReplicated (by rw [hc]; decide) hprod
            (fun _ e0 e1 es he hp1 => ?_), rfl⟩⟩
          rw [hd] at he; cases he; exact h1 hp1
    | input =>
      rw [hc] at h; cases h
      exact Or.inl ⟨rfl, not_needsReplicated (by rw [hc]; decide) (not_allPrivProduct (by rw [hc]; decide))
        (fun e => by rw [hc] at e; cases e), Or.inr rfl⟩
    | loc =>
      rw [hc] at h; cases h
      have hprod : ¬ AllPrivProduct g n := not_allPrivProduct (by rw [hc]; decide)
      exact Or.inr ⟨rfl, Or.inl ⟨hprod, not_needsReplicated (by rw [hc]; decide) hprod
        (fun e => by rw [hc] at e; cases e), rfl⟩⟩
    | need2 =>
      rw [hc] at h; cases h
      exact Or.inr ⟨rfl, Or.inr (Or.inr ⟨not_allPrivProduct (by rw [hc]; decide), rfl⟩)⟩

theorem mainStep_ok {g : Graph} {k : Nat} {n : Node} {s s' : St} (wf : WF g) (ps : PosSizes g)
    (hn : g.nodes[k]? = some n) (h : mainStep g k n s = some s') : StepOK g k n s s' := by
  rcases mainStep_arms h with ⟨rfl, hnr, hpc⟩ | ⟨_, ⟨hprod, hnr, rfl⟩ | rfl | ⟨hprod, rfl⟩⟩
  · -- nothing done: a public node, or an input, is not unreshared
    refine stepOK_id (fun _ u => ?_) hnr
    rcases hpc with hp | hc
    · have := (unres_inv hn u).1; rw [hp] at this; cases this
    · rcases (unres_inv hn u).2.2 with ha | ⟨d, hd, _⟩
      · have := ha.1; rw [hc] at this; cases this
      · rw [wf.inputs k n hn hc] at hd; cases hd
  · exact stepOK_localOp wf ps hn hprod hnr
  · exact stepOK_product wf hn
  · exact stepOK_ensure wf hn hprod

structure MainInv (g : Graph) (k : Nat) (s : St) : Prop where
  /-- `unreshared_nodes` over-approximates the nodes that are really 3-out-of-3 under the current plan -/
  recd : ∀ m, m < k → Unres g s.toReshare m → m ∈ s.unreshared
  safe : ∀ j n, j < k → g.nodes[j]? = some n → NeedsReplicated g n →
      ∀ d ∈ n.deps, ¬ Unres g s.toReshare d

theorem mainInv_step {g : Graph} {k : Nat} {n : Node} {s s' : St}
    (hn : g.nodes[k]? = some n) (ok : StepOK g k n s s') (inv : MainInv g k s) :
    MainInv g (k + 1) s' := by
  have H : ∀ m, m < k → Unres g s'.toReshare m → m ∈ s'.unreshared := by
    intro m hm u
    rcases ok.hU m (inv.recd m hm (unres_mono ok.hR u)) with h | h
    · exact h
    · exact absurd h (unres_not_mem u)
  constructor
  · intro m hm u
    by_cases e : m = k
    · subst e; exact ok.hk H u
    · exact H m (by omega) u
  · intro j n' hj hn' hnr d hd u
    by_cases e : j = k
    · subst e; rw [hn] at hn'; cases hn'
      exact ok.hs H hnr d hd u
    · exact inv.safe j n' (by omega) hn' hnr d hd (unres_mono ok.hR u)

def RecAll (g : Graph) (s : St) : Prop := ∀ m, Unres g s.toReshare m → m ∈ s.unreshared

theorem sanityStep_eq (g : Graph) (i : Nat) (n : Node) (s : St) :
    sanityStep g i n s =
      if (n.cls = .product ∧ allPriv g n = true) ∨ anyUnres s.unreshared n.deps = true then s
      else ⟨del i s.toReshare, del i s.unreshared⟩ := by
  -- removing an element that is not there changes nothing, so both removals can be unconditional
  have e : ∀ X : List Nat, (if i ∈ X then del i X else X) = del i X := fun X => by
    by_cases c : i ∈ X
    · rw [if_pos c]
    · rw [if_neg c, del_of_not_mem c]
  unfold sanityStep
  by_cases hskip : n.cls = .product ∧ allPriv g n = true
  · simp [hskip]
  · cases hA : anyUnres s.unreshared n.deps <;> simp [hskip, e]

theorem sanityStep_inv {g : Graph} {i : Nat} {n : Node} {s : St} (hn : g.nodes[i]? = some n)
    (inv : RecAll g s) :
    RecAll g (sanityStep g i n s) ∧
      (∀ m, Unres g (sanityStep g i n s).toReshare m → Unres g s.toReshare m) := by
  rw [sanityStep_eq]
  by_cases c : (n.cls = .product ∧ allPriv g n = true) ∨ anyUnres s.unreshared n.deps = true
  · rw [if_pos c]; exact ⟨inv, fun _ h => h⟩
  · rw [if_neg c]
    have hdeps : ∀ d ∈ n.deps, ¬ Unres g s.toReshare d := fun d hd u =>
      any_mem_false (Bool.eq_false_iff.2 (fun h => c (Or.inr h))) d hd (inv d u)
    have hi : ¬ Unres g s.toReshare i := by
      intro u
      rcases (unres_inv hn u).2.2 with h | ⟨d, hd, hu⟩
      · exact c (Or.inl h)
      · exact hdeps d hd hu
    have back : ∀ m, Unres g (del i s.toReshare) m → Unres g s.toReshare m :=
      fun m u => unres_del hn (fun h => c (Or.inl h)) hdeps u
    exact ⟨fun m u => mem_del.2 ⟨inv m (back m u), fun e => hi (e ▸ back m u)⟩, back⟩

theorem outFix_unreshared (g : Graph) (s : St) : (outFix g s).unreshared = s.unreshared := by
  unfold outFix
  by_cases h : g.out ∈ s.unreshared
  · rw [if_pos h]
  · rw [if_neg h]

theorem mem_outFix {g : Graph} {s : St} {x : Nat} :
    x ∈ (outFix g s).toReshare ↔ x ∈ s.toReshare ∨ (x = g.out ∧ g.out ∈ s.unreshared) := by
  unfold outFix
  by_cases h : g.out ∈ s.unreshared
  · rw [if_pos h]
    exact mem_ins.trans ⟨fun a => a.elim (fun e => Or.inr ⟨e, h⟩) Or.inl, fun a => a.elim Or.inr (fun e => Or.inl e.1)⟩
  · rw [if_neg h]
    exact ⟨Or.inl, fun a => a.elim id (fun e => absurd e.2 h)⟩

theorem compute_eq {g : Graph} {s : St} (h : compute g = some s) :
    ∃ s1, mainPass g g.nodes 0 ⟨[], []⟩ = some s1 ∧ s = sanityPass g g.nodes 0 (outFix g s1) := by
  unfold compute at h
  cases hm : mainPass g g.nodes 0 ⟨[], []⟩ with
  | none => rw [hm] at h; cases h
  | some s1 => rw [hm] at h; cases h; exact ⟨s1, rfl, rfl⟩

theorem compute_spec {g : Graph} (wf : WF g) (ps : PosSizes g) {s : St} (h : compute g = some s) :
    ∃ s1 : St, MainInv g g.nodes.length s1 ∧
      (∀ m, Unres g s.toReshare m → Unres g (outFix g s1).toReshare m) ∧
      (∀ x, x ∈ s1.toReshare → x ∈ (outFix g s1).toReshare) ∧
      (g.out ∈ s1.unreshared → g.out ∈ (outFix g s1).toReshare) := by
  obtain ⟨s1, hm, rfl⟩ := compute_eq h
  have inv0 : MainInv g 0 ⟨[], []⟩ := ⟨fun m hm => by omega, fun j _ hj => by omega⟩
  have m1 : MainInv g g.nodes.length s1 := mainPass_induct (MainInv g)
    (fun _ _ _ _ hn hs inv => mainInv_step hn (mainStep_ok wf ps hn hs) inv) hm inv0
  have hsub : ∀ x, x ∈ s1.toReshare → x ∈ (outFix g s1).toReshare := fun x hx => mem_outFix.2 (Or.inl hx)
  have rec2 : RecAll g (outFix g s1) := by
    intro m u
    rw [outFix_unreshared]
    exact m1.recd m (unres_lt u) (unres_mono hsub u)
  have back := sanityPass_induct
    (fun _ s' => RecAll g s' ∧ ∀ m, Unres g s'.toReshare m → Unres g (outFix g s1).toReshare m)
    (fun _ _ _ hn inv => ⟨(sanityStep_inv hn inv.1).1, fun m u => inv.2 m ((sanityStep_inv hn inv.1).2 m u)⟩)
    _ ⟨rec2, fun _ h => h⟩
  exact ⟨s1, m1, back.2, hsub, fun ho => mem_outFix.2 (Or.inr ⟨rfl, ho⟩)⟩

def PrivInv (g : Graph) (s : St) : Prop :=
  (∀ x, x ∈ s.toReshare → privAt g x = true) ∧ (∀ x, x ∈ s.unreshared → privAt g x = true)

theorem privInv_ensure {g : Graph} (ds : List Nat) {s : St} (h : PrivInv g s) :
    PrivInv g (ensureDeps ds s) := by
  constructor
  · intro x hx
    rcases (mem_ensure_R _ _ _).1 hx with a | ⟨a, _⟩
    · exact h.1 x a
    · exact h.2 x a
  · intro x hx; exact h.2 x ((mem_ensure_U _ _ _).1 hx).1

theorem privInv_ins {g : Graph} {k : Nat} {s : St} (hk : privAt g k = true) (h : PrivInv g s) :
    PrivInv g { s with unreshared := ins k s.unreshared } := by
  refine ⟨h.1, fun x hx => ?_⟩
  rcases mem_ins.1 hx with e | a
  · rw [e]; exact hk
  · exact h.2 x a

def DisjInv (k : Nat) (s : St) : Prop :=
  (∀ x, x ∈ s.unreshared → x < k) ∧ (∀ x, x ∈ s.toReshare → x < k) ∧
    (∀ x, x ∈ s.unreshared → x ∉ s.toReshare)

theorem disjInv_ensure {k : Nat} (ds : List Nat) {s : St} (h : DisjInv k s) :
    DisjInv k (ensureDeps ds s) :=
  ⟨fun x hx => h.1 x ((mem_ensure_U _ _ _).1 hx).1,
    fun x hx => ((mem_ensure_R _ _ _).1 hx).elim (h.2.1 x) (fun a => h.1 x a.1),
    fun x hx hr => ((mem_ensure_R _ _ _).1 hr).elim (h.2.2 x ((mem_ensure_U _ _ _).1 hx).1)
      (fun a => ((mem_ensure_U _ _ _).1 hx).2 a.2)⟩

theorem disjInv_ins {k : Nat} {s : St} (h : DisjInv k s) :
    DisjInv (k + 1) { s with unreshared := ins k s.unreshared } :=
  ⟨fun x hx => (mem_ins.1 hx).elim (fun e => e ▸ Nat.lt_succ_self k) (fun a => Nat.lt_succ_of_lt (h.1 x a)),
    fun x hx => Nat.lt_succ_of_lt (h.2.1 x hx),
    fun x hx hr => (mem_ins.1 hx).elim (fun e => Nat.lt_irrefl k (e ▸ h.2.1 x hr)) (fun a => h.2.2 x a hr)⟩

theorem disjInv_mono {k : Nat} {s : St} (h : DisjInv k s) : DisjInv (k + 1) s :=
  ⟨fun x hx => Nat.lt_succ_of_lt (h.1 x hx), fun x hx => Nat.lt_succ_of_lt (h.2.1 x hx), h.2.2⟩

theorem tidy_mainStep {g : Graph} {k : Nat} {n : Node} {s s' : St} (hn : g.nodes[k]? = some n)
    (hs : mainStep g k n s = some s') (h : PrivInv g s ∧ DisjInv k s) :
    PrivInv g s' ∧ DisjInv (k + 1) s' := by
  -- every arm does nothing, or reshares the operands and/or records node `k` as unreshared
  have he : PrivInv g (ensureDeps n.deps s) ∧ DisjInv k (ensureDeps n.deps s) :=
    ⟨privInv_ensure _ h.1, disjInv_ensure _ h.2⟩
  rcases mainStep_arms hs with ⟨rfl, _⟩ | ⟨hp, ⟨_, _, rfl⟩ | rfl | ⟨_, rfl⟩⟩
  · exact ⟨h.1, disjInv_mono h.2⟩
  · rcases localOp_cases g k n s with e | e | ⟨e, _⟩
    · rw [e]; exact ⟨he.1, disjInv_mono he.2⟩
    · rw [e]; exact ⟨privInv_ins ((privAt_of hn).trans hp) h.1, disjInv_ins h.2⟩
    · rw [e]; exact ⟨h.1, disjInv_mono h.2⟩
  · exact ⟨privInv_ins ((privAt_of hn).trans hp) he.1, disjInv_ins he.2⟩
  · exact ⟨he.1, disjInv_mono he.2⟩

theorem tidy_mainPass {g : Graph} {s' : St} (h : mainPass g g.nodes 0 ⟨[], []⟩ = some s') :
    PrivInv g s' ∧ DisjInv g.nodes.length s' :=
  mainPass_induct (fun k s => PrivInv g s ∧ DisjInv k s) (fun _ _ _ _ hn hs inv => tidy_mainStep hn hs inv) h
    ⟨⟨fun _ hx => (nomatch hx), fun _ hx => (nomatch hx)⟩,
      fun _ hx => (nomatch hx), fun _ hx => (nomatch hx), fun _ hx => (nomatch hx)⟩

theorem sanityStep_sub (g : Graph) (i : Nat) (n : Node) (s : St) :
    (∀ x, x ∈ (sanityStep g i n s).toReshare → x ∈ s.toReshare) ∧
      (∀ x, x ∈ (sanityStep g i n s).unreshared → x ∈ s.unreshared) := by
  rw [sanityStep_eq]
  by_cases c : (n.cls = .product ∧ allPriv g n = true) ∨ anyUnres s.unreshared n.deps = true
  · rw [if_pos c]; exact ⟨fun _ h => h, fun _ h => h⟩
  · rw [if_neg c]; exact ⟨fun _ h => (mem_del.1 h).1, fun _ h => (mem_del.1 h).1⟩

theorem privInv_outFix {g : Graph} {s1 : St} (p1 : PrivInv g s1) : PrivInv g (outFix g s1) := by
  refine ⟨fun x hx => ?_, by rw [outFix_unreshared]; exact p1.2⟩
  rcases mem_outFix.1 hx with a | ⟨e, ho⟩
  · exact p1.1 x a
  · rw [e]; exact p1.2 _ ho

theorem compute_priv {g : Graph} {s : St} (h : compute g = some s) : PrivInv g s := by
  obtain ⟨s1, hm, rfl⟩ := compute_eq h
  exact sanityPass_induct (fun _ s => PrivInv g s)
    (fun k n s _ p => ⟨fun x hx => p.1 x ((sanityStep_sub g k n s).1 x hx),
      fun x hx => p.2 x ((sanityStep_sub g k n s).2 x hx)⟩)
    _ (privInv_outFix (tidy_mainPass hm).1)

/-- The two sets meet in the output node at most (`disj`): the output fix inserts it into
    `nodes_to_reshare` without removing it from `unreshared_nodes`. -/
structure SanInv (g : Graph) (k : Nat) (s : St) : Prop where
  priv : PrivInv g s
  disj : ∀ x, x ∈ s.unreshared → x ∈ s.toReshare → x = g.out
  exact : ∀ m, m < k → m ≠ g.out → m ∈ s.unreshared → Unres g s.toReshare m
  needed : ∀ i, i < k → i ∈ s.toReshare → Needed g s.toReshare i

theorem sanInv_step {g : Graph} (wf : WF g) (hu : OutputUnused g) {k : Nat} {n : Node} {s : St}
    (hn : g.nodes[k]? = some n) (inv : SanInv g k s) : SanInv g (k + 1) (sanityStep g k n s) := by
  have sub := sanityStep_sub g k n s
  have mono : ∀ m, Unres g s.toReshare m → Unres g (sanityStep g k n s).toReshare m :=
    fun m u => unres_mono sub.1 u
  -- node `k`, if it stays in one of the sets, is a product of private operands or has an operand
  -- recorded as unreshared; the record is exact for operands
  have kept : k ∈ (sanityStep g k n s).unreshared ∨ k ∈ (sanityStep g k n s).toReshare →
      AllPrivProduct g n ∨ ∃ d ∈ n.deps, Unres g s.toReshare d := by
    intro h
    rw [sanityStep_eq] at h
    by_cases c : (n.cls = .product ∧ allPriv g n = true) ∨ anyUnres s.unreshared n.deps = true
    · rcases c with c | c
      · exact Or.inl c
      · obtain ⟨d, hd, hdu⟩ := any_mem_true c
        exact Or.inr ⟨d, hd, inv.exact d (wf.order k n hn d hd) (fun e => hu k n hn (e ▸ hd)) hdu⟩
    · rw [if_neg c] at h
      rcases h with h | h
      · exact absurd rfl (mem_del.1 h).2
      · exact absurd rfl (mem_del.1 h).2
  refine ⟨⟨fun x hx => inv.priv.1 x (sub.1 x hx), fun x hx => inv.priv.2 x (sub.2 x hx)⟩,
    fun x hx hr => inv.disj x (sub.2 x hx) (sub.1 x hr), ?_, ?_⟩
  · intro m hm hmo hmu
    by_cases e : m = k
    · subst e
      have hmU := sub.2 m hmu
      have hnotR : m ∉ s.toReshare := fun r => hmo (inv.disj m hmU r)
      have hp : n.priv = true := (privAt_of hn).symm.trans (inv.priv.2 m hmU)
      apply mono
      rcases kept (Or.inl hmu) with h | ⟨d, hd, u⟩
      · exact .prod hn hp hnotR h
      · exact .prop hn hp hnotR hd u
    · exact mono m (inv.exact m (by omega) hmo (sub.2 m hmu))
  · intro i hi hir
    by_cases e : i = k
    · subst e
      exact ⟨n, hn, (kept (Or.inr hir)).imp id (fun ⟨d, hd, u⟩ => ⟨d, hd, mono d u⟩)⟩
    · obtain ⟨n', hn', h⟩ := inv.needed i (by omega) (sub.1 i hir)
      exact ⟨n', hn', h.imp id (fun ⟨d, hd, u⟩ => ⟨d, hd, mono d u⟩)⟩

theorem compute_needed {g : Graph} (wf : WF g) (hu : OutputUnused g) {s : St}
    (h : compute g = some s) : ∀ i, i ∈ s.toReshare → Needed g s.toReshare i := by
  obtain ⟨s1, hm, rfl⟩ := compute_eq h
  obtain ⟨p1, d1⟩ := tidy_mainPass hm
  have inv0 : SanInv g 0 (outFix g s1) := by
    refine ⟨privInv_outFix p1, ?_, fun m hm => by omega, fun i hi => by omega⟩
    intro x hx hr
    rw [outFix_unreshared] at hx
    rcases mem_outFix.1 hr with a | ⟨e, _⟩
    · exact absurd a (d1.2.2 x hx)
    · exact e
  have fin := sanityPass_induct (SanInv g) (fun _ _ _ hn inv => sanInv_step wf hu hn inv) _ inv0
  exact fun i hi => fin.needed i (lt_of_privAt (fin.priv.1 i hi)) hi

theorem unresList_spec {g : Graph} (wf : WF g) (P : List Nat) :
    ∀ (ns pre : List Node) (k : Nat) (acc : List Bool), g.nodes = pre ++ ns → pre.length = k →
      acc.length = k → (∀ j, j < k → (acc.getD j false = true ↔ Unres g P j)) →
      (unresList g P ns k acc).length = g.nodes.length ∧
        ∀ j, j < g.nodes.length → ((unresList g P ns k acc).getD j false = true ↔ Unres g P j) := by
  intro ns
  induction ns with
  | nil =>
    intro pre k acc hg hk hl inv
    rw [hg, List.append_nil, hk]; exact ⟨hl, inv⟩
  | cons n ns ih =>
    intro pre k acc hg hk hl inv
    have hn := getElem?_split hg hk
    refine ih (pre ++ [n]) (k + 1) _ (by rw [hg, List.append_assoc]; rfl)
      (by rw [List.length_append, hk]; rfl) (by rw [List.length_append, hl]; rfl) ?_
    intro j hj
    rw [Run.getD_snoc, hl]
    by_cases e : j = k
    · subst e
      have dep : ∀ d ∈ n.deps, (acc.getD d false = true ↔ Unres g P d) :=
        fun d hd => inv d (wf.order j n hn d hd)
      rw [if_pos rfl, unres_unfold]
      simp only [Bool.and_eq_true, Bool.or_eq_true, Bool.not_eq_true', decide_eq_false_iff_not,
        decide_eq_true_eq, List.any_eq_true]
      constructor
      · rintro ⟨⟨hp, hi⟩, h⟩
        exact ⟨n, hn, hp, hi, h.imp id (fun ⟨d, hd, hu⟩ => ⟨d, hd, (dep d hd).1 hu⟩)⟩
      · rintro ⟨n', hn', hp, hi, h⟩
        rw [hn] at hn'; cases hn'
        exact ⟨⟨hp, hi⟩, h.imp id (fun ⟨d, hd, hu⟩ => ⟨d, hd, (dep d hd).2 hu⟩)⟩
    · rw [if_neg e]
      exact inv j (by omega)

end CCV.C01
