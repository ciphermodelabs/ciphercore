import CCV.Lemmas.TypedValue
import CCV.Lemmas.TVArray
import CCV.Lemmas.TVShape
/- `toJ` followed by `ofJ` gives back a value that passes `check_type` and `is_equal`s the original:
   scalars, then the three containers from their children, arrays through TVArray and TVShape,
   and the recursion over the type (`rt_all`). -/
namespace CCV.TV
open CCV CCV.Bytes

mutual
theorem isValid_of_expressible : ∀ t : Ty, expressible t = true → t.isValid = true
  | .scalar _, _ => rfl
  | .array sh _, h => by simpa [expressible, Ty.isValid] using h
  | .vector n t, h => by
    simp only [expressible, Bool.and_eq_true] at h
    simp only [Ty.isValid]; exact isValid_of_expressible t h.2
  | .tuple ts, h => by
    simp only [expressible] at h
    simp only [Ty.isValid]; exact allValid_of_expressibleL ts h
  | .named fs, h => by
    simp only [expressible, Bool.and_eq_true] at h
    simp only [Ty.isValid, Bool.and_eq_true]; exact ⟨h.1.2, allValidN_of_expressibleN fs h.2⟩
theorem allValid_of_expressibleL : ∀ ts : List Ty, expressibleL ts = true → allValid ts = true
  | [], _ => rfl
  | t :: ts, h => by
    simp only [expressibleL, Bool.and_eq_true] at h
    simp only [allValid, Bool.and_eq_true]
    exact ⟨isValid_of_expressible t h.1, allValid_of_expressibleL ts h.2⟩
theorem allValidN_of_expressibleN : ∀ fs : List (String × Ty), expressibleN fs = true → allValidN fs = true
  | [], _ => rfl
  | (_, t) :: fs, h => by
    simp only [expressibleN, Bool.and_eq_true] at h
    simp only [allValidN, Bool.and_eq_true]
    exact ⟨isValid_of_expressible t h.1, allValidN_of_expressibleN fs h.2⟩
end

mutual
theorem Ty.beq_refl : ∀ t : Ty, t.beq t = true
  | .scalar _ => by simp [Ty.beq]
  | .array _ _ => by simp [Ty.beq]
  | .vector _ t => by simp [Ty.beq, Ty.beq_refl t]
  | .tuple ts => by simp [Ty.beq, beqL_refl ts]
  | .named fs => by simp [Ty.beq, beqN_refl fs]
theorem beqL_refl : ∀ ts : List Ty, beqL ts ts = true
  | [] => rfl
  | t :: ts => by simp [beqL, Ty.beq_refl t, beqL_refl ts]
theorem beqN_refl : ∀ fs : List (String × Ty), beqN fs fs = true
  | [] => rfl
  | (_, t) :: fs => by simp [beqN, Ty.beq_refl t, beqN_refl fs]
end

theorem ofJ_tvObj_typed (kind ty : String) (vj : J) (d : SDM) (h : ofJ vj = some d) :
    ofJ (tvObj kind (some ty) vj) = finishMap { kind := some kind, ty := some ty, value := some d } := by
  simp [tvObj, ofJ, ofJF, h]

theorem ofJ_tvObj_untyped (kind : String) (vj : J) (d : SDM) (h : ofJ vj = some d) :
    ofJ (tvObj kind none vj) = finishMap { kind := some kind, value := some d } := by
  simp [tvObj, ofJ, ofJF, h]

theorem ofJ_record (n : String) (vj : J) (d : SDM) (h : ofJ vj = some d) :
    ofJ (.obj [("name", .str n), ("value", vj)]) = finishMap { name := some n, value := some d } := by
  simp [ofJ, ofJF, h]

theorem parse_name (st : ST) : ST.parse st.name = some st := by cases st <;> decide

def RT (t : Ty) (v : Val) : Prop :=
  ∃ j v', toJ t v = some j ∧ ofJ j = some (.val (t, v')) ∧ checkB t v' = true ∧ isEqual t v v' = true

theorem rt_scalar_nonbit (st : ST) (h : st ≠ .bit) (bs : List Nat)
    (hc : checkB (.scalar st) (.bytes bs) = true) (hb : ∀ b ∈ bs, b < 256) :
    RT (.scalar st) (.bytes bs) := by
  have hl : bs.length = st.byteLen := by
    simp only [checkB, checkArrayType, numel_nil, beq_iff_eq] at hc
    simp only [ST.byteLen]; omega
  have hdec : vecU128FromBytes st bs = .ok [signPad 128 st (fromLE (bs.take (128 / 8)))] := by
    have := vecFromBytesW_flatMap 128 st h (fun _ : Unit => bs) [()] (by simp [hl])
    simpa [vecU128FromBytes] using this
  have hto : toU128 (.bytes bs) st = .ok (signPad 128 st (fromLE (bs.take (128 / 8)))) := by
    simp [toU128, hdec]
  have hfrom : fromScalar (readBack st (signPad 128 st (fromLE (bs.take (128 / 8))))) st
      = some (.scalar st, .bytes bs) := by
    simp [fromScalar, vecToBytes_ne_bit st h, elem_back st h bs hl hb]
  refine ⟨tvObj "scalar" (some st.name) (.num (castTo st (signPad 128 st (fromLE (bs.take (128 / 8)))))),
    .bytes bs, by simp only [toJ, hto], ?_, hc, by simp [isEqual, bytesEq_refl]⟩
  rw [ofJ_tvObj_typed "scalar" st.name _
    (.arr [readBack st (signPad 128 st (fromLE (bs.take (128 / 8))))] []) (by simp [ofJ, numToU128_castTo])]
  simp [finishMap, parse_name, hfrom]

theorem rt_scalar_bit (bs : List Nat) (hc : checkB (.scalar .bit) (.bytes bs) = true) :
    RT (.scalar .bit) (.bytes bs) := by
  have hl : bs.length = 1 := by
    simpa [checkB, checkArrayType, numel_nil, ST.bits] using hc
  match bs, hl with
  | [b], _ =>
    have h1 : b % 2 ≤ 1 := Nat.le_of_lt_succ (Nat.mod_lt _ (by decide))
    have hto : toU128 (.bytes [b]) .bit = .ok (b % 2) := by
      simp [toU128, vecU128FromBytes, vecFromBytesW, unpackByte]
    have hfrom : fromScalar (b % 2) .bit = some (.scalar .bit, .bytes [b % 2]) := by
      have : bitsToBytes [((b % 2 : Nat) : Int)] = .ok [b % 2] := by
        rw [bitsToBytes_ok _ (by intro x hx; simp at hx; omega)]
        simp [chunks8_ne_nil, chunks8_nil, packBits]
        omega
      simp only [fromScalar, vecToBytes, this]
    refine ⟨tvObj "scalar" (some ST.bit.name) (.num (castTo .bit (b % 2))), .bytes [b % 2],
      by simp only [toJ, hto], ?_, by simp [checkB, checkArrayType, numel_nil, ST.bits],
      by simp [isEqual, bytesEq, ST.bits]⟩
    rw [ofJ_tvObj_typed "scalar" ST.bit.name _ (.arr [b % 2] []) (by simp [ofJ, numToU128_castTo, readBack_bit _ h1])]
    simp [finishMap, parse_name, hfrom]

/- The round-trip statement for the children of a container.  The parser returns one `SDM` per child: `.val`
   with the child's type for tuples (`RTL`), a one-field `.named` for named tuples (`RTN`); hence the `zipWith`
   over the types, and the equal lengths, which let the types and values be read off again.  Vectors (`RTV`)
   are apart: all children have one type, and the serializer guards each child with `checkOk`. -/
def RTL (ts : List Ty) (vs : List Val) : Prop :=
  ∃ js vs', toJL ts vs = some js ∧
    ofJL js = some (List.zipWith (fun t v' => SDM.val (t, v')) ts vs') ∧
    checkL ts vs' = true ∧ isEqualL ts vs vs' = true ∧ vs'.length = ts.length

def RTN (fs : List (String × Ty)) (vs : List Val) : Prop :=
  ∃ js vs', toJN fs vs = some js ∧
    ofJL js = some (List.zipWith (fun f v' => SDM.named [(f.1, (f.2, v'))]) fs vs') ∧
    checkN fs vs' = true ∧ isEqualN fs vs vs' = true ∧ vs'.length = fs.length

def RTV (t : Ty) (vs : List Val) : Prop :=
  ∃ js vs', vs.mapM (fun v => if checkOk v t then toJ t v else none) = some js ∧
    ofJL js = some (vs'.map (fun v' => SDM.val (t, v'))) ∧
    (∀ v' ∈ vs', checkB t v' = true) ∧ isEqualV t vs vs' = true ∧ vs'.length = vs.length

theorem rtv_of (t : Ty) (hv : t.isValid = true) (vs : List Val)
    (h : ∀ v ∈ vs, checkB t v = true ∧ RT t v) : RTV t vs := by
  induction vs with
  | nil => exact ⟨[], [], rfl, rfl, by simp, by simp [isEqualV], rfl⟩
  | cons v vs ih =>
    obtain ⟨hc, j, v', a1, a2, a3, a4⟩ := h v (by simp)
    obtain ⟨js, vs', b1, b2, b3, b4, b5⟩ := ih (fun w hw => h w (by simp [hw]))
    refine ⟨j :: js, v' :: vs', ?_, ?_, ?_, ?_, ?_⟩
    · have hok : checkOk v t = true := checkOk_of hv hc
      rw [List.mapM_cons]; simp only [hok, if_true, a1, b1]; rfl
    · simp [ofJL, a2, b2]
    · intro w hw
      rcases List.mem_cons.1 hw with rfl | hw
      · exact a3
      · exact b3 w hw
    · simp [isEqualV, a4, b4]
    · simp [b5]

theorem allVal_map {α : Type} (g : α → TVal) (cs : List α) :
    allVal (cs.map fun c => SDM.val (g c)) = some (cs.map g) := by
  induction cs with
  | nil => rfl
  | cons c cs ih => simp [allVal, ih]

theorem finishSeq_val {α : Type} (g : α → TVal) (cs : List α) :
    finishSeq (cs.map fun c => SDM.val (g c)) = some (.vec (cs.map g)) := by
  cases cs with
  | nil => rfl
  | cons c cs =>
    have h := allVal_map g (c :: cs)
    simp only [List.map_cons] at h ⊢
    simp only [finishSeq, h]; rfl

theorem rt_tuple (ts : List Ty) (vs : List Val) (he : allValid ts = true) (h : RTL ts vs) :
    RT (.tuple ts) (.vec vs) := by
  obtain ⟨js, vs', b1, b2, b3, b4, b5⟩ := h
  refine ⟨tvObj "tuple" none (.arr js), .vec vs', by rw [toJ_tuple, b1]; rfl, ?_,
    by simpa [checkB] using b3, by rw [isEqual_tuple]; exact b4⟩
  have hz : List.zipWith (fun t v' => SDM.val (t, v')) ts vs' = (ts.zip vs').map fun c => SDM.val (id c) :=
    List.map_zip_eq_zipWith.symm
  have hv : ofJ (.arr js) = some (.vec (ts.zip vs')) := by
    rw [ofJ, b2, Option.bind_some, hz, finishSeq_val, List.map_id]
  rw [ofJ_tvObj_untyped "tuple" _ _ hv]
  have h1 : (ts.zip vs').map (·.1) = ts := by
    rw [List.map_fst_zip]; omega
  have h2 : (ts.zip vs').map (·.2) = vs' := by
    rw [List.map_snd_zip]; omega
  -- `tupleFrom` re-checks the assembled value against the assembled type
  have hok : checkOk (.vec vs') (.tuple ts) = true :=
    checkOk_of (by simpa [Ty.isValid] using he) (by simpa [checkB] using b3)
  simp [finishMap, tupleFrom, h1, h2, hok]

theorem rt_vector (n : Nat) (t : Ty) (vs : List Val) (hn : 0 < n) (hl : vs.length = n)
    (h : RTV t vs) : RT (.vector n t) (.vec vs) := by
  obtain ⟨js, vs', b1, b2, b3, b4, b5⟩ := h
  refine ⟨tvObj "vector" none (.arr js), .vec vs', by simp [toJ, hl, b1], ?_, ?_, by simpa [isEqual] using b4⟩
  · have hv : ofJ (.arr js) = some (.vec (vs'.map (fun v' => (t, v')))) := by
      rw [ofJ, b2, Option.bind_some, finishSeq_val]
    rw [ofJ_tvObj_untyped "vector" _ _ hv]
    cases vs' with
    | nil => simp at b5; omega
    | cons w ws =>
      have hlen : (w :: ws).length = n := by omega
      -- `vectorFrom` takes the element type from the first child: `0 < n` is what brings `t` back
      simp [finishMap, vectorFrom, Ty.beq_refl, Function.comp_def] at hlen ⊢
      omega
  · simp only [checkB, Bool.and_eq_true, decide_eq_true_eq, List.all_eq_true]
    exact ⟨by omega, b3⟩

theorem allNamed_zipWith (fs : List (String × Ty)) (vs : List Val) :
    allNamed (List.zipWith (fun f v' => SDM.named [(f.1, (f.2, v'))]) fs vs)
      = some (List.zipWith (fun f v' => (f.1, (f.2, v'))) fs vs) := by
  induction fs generalizing vs with
  | nil => simp [allNamed]
  | cons f fs ih =>
    cases vs with
    | nil => simp [allNamed]
    | cons v vs => simp [allNamed, ih]

theorem checkOk_all_of_checkN (fs : List (String × Ty)) (vs : List Val) (hv : allValidN fs = true)
    (hc : checkN fs vs = true) :
    (List.zipWith (fun f v' => (f.1, (f.2, v'))) fs vs).all (fun f => checkOk f.2.2 f.2.1) = true := by
  induction fs generalizing vs with
  | nil => simp
  | cons f fs ih =>
    obtain ⟨n, t⟩ := f
    cases vs with
    | nil => simp
    | cons v vs =>
      simp only [allValidN, Bool.and_eq_true] at hv
      simp only [checkN, Bool.and_eq_true] at hc
      simp only [List.zipWith_cons_cons, List.all_cons, Bool.and_eq_true]
      exact ⟨checkOk_of hv.1 hc.1, ih vs hv.2 hc.2⟩

theorem zipWith_unzip (fs : List (String × Ty)) (vs : List Val) (hl : vs.length = fs.length) :
    (List.zipWith (fun f v' => (f.1, (f.2, v'))) fs vs).map (fun f => (f.1, f.2.1)) = fs ∧
    (List.zipWith (fun f v' => (f.1, (f.2, v'))) fs vs).map (·.2.2) = vs := by
  induction fs generalizing vs with
  | nil => cases vs <;> simp_all
  | cons f fs ih =>
    cases vs with
    | nil => simp at hl
    | cons v vs =>
      have := ih vs (by simpa using hl)
      simp [this.1, this.2]

theorem finishSeq_named (fs : List (String × Ty)) (vs : List Val) (hne : fs ≠ [])
    (hl : vs.length = fs.length) :
    finishSeq (List.zipWith (fun f v' => SDM.named [(f.1, (f.2, v'))]) fs vs)
      = some (.named (List.zipWith (fun f v' => (f.1, (f.2, v'))) fs vs)) := by
  have hz := allNamed_zipWith fs vs
  match fs, vs, hne, hl with
  | f :: fs', w :: ws, _, _ =>
    simp only [List.zipWith_cons_cons] at hz ⊢
    simp only [finishSeq, hz]; rfl

theorem namedFrom_zipWith (fs : List (String × Ty)) (vs : List Val) (hne : fs ≠ [])
    (hl : vs.length = fs.length) (hv : (Ty.named fs).isValid = true) (hc : checkN fs vs = true) :
    namedFrom (List.zipWith (fun f v' => (f.1, (f.2, v'))) fs vs) = some (.named fs, .vec vs) := by
  have hvalid := hv
  simp only [Ty.isValid, Bool.and_eq_true] at hvalid
  have hall := checkOk_all_of_checkN fs vs hvalid.2 hc
  have htypes := zipWith_unzip fs vs hl
  generalize List.zipWith (fun f v' => (f.1, (f.2, v'))) fs vs = z at hall htypes
  cases z with
  | nil => exact absurd htypes.1.symm hne
  | cons a z =>
    simp only [namedFrom, hall, if_true, htypes.1, htypes.2]
    simp [checkOk_of hv (show checkB (.named fs) (.vec vs) = true by simpa [checkB] using hc)]

theorem rt_named (fs : List (String × Ty)) (vs : List Val) (hne : fs ≠ [])
    (hv : (Ty.named fs).isValid = true) (h : RTN fs vs) : RT (.named fs) (.vec vs) := by
  obtain ⟨js, vs', b1, b2, b3, b4, b5⟩ := h
  refine ⟨tvObj "named tuple" none (.arr js), .vec vs', by simp [toJ, b1], ?_, by simpa [checkB] using b3,
    by simpa [isEqual] using b4⟩
  have hv' : ofJ (.arr js) = some (.named (List.zipWith (fun f v' => (f.1, (f.2, v'))) fs vs')) := by
    rw [ofJ, b2, Option.bind_some, finishSeq_named fs vs' hne b5]
  rw [ofJ_tvObj_untyped "named tuple" _ _ hv']
  simp only [finishMap]
  rw [namedFrom_zipWith fs vs' hne b5 hv b3]; rfl

theorem rt_array (sh : List Nat) (st : ST) (bs : List Nat) (hs : isValidShape sh = true)
    (hc : checkB (.array sh st) (.bytes bs) = true) (hb : ∀ b ∈ bs, b < 256) :
    RT (.array sh st) (.bytes bs) := by
  have hl : bs.length = (numel sh * st.bits + 7) / 8 := by
    simpa [checkB, checkArrayType] using hc
  obtain ⟨r, bs', h1, h2, h4, h5, h7⟩ := array_back st sh bs hl hb
  obtain ⟨j, k1, k2⟩ := shaped_back st sh hs r h2
  refine ⟨tvObj "array" (some st.name) j, .bytes bs', by simp [toJ, hs, h1, k1], ?_, ?_, by simpa [isEqual] using h7⟩
  · rw [ofJ_tvObj_typed "array" st.name j _ k2]
    have h4' : vecToBytes st (List.map ((fun x : Nat => (x : Int)) ∘ readBack st) r) = .ok bs' := by
      rw [← List.map_map]; exact h4
    simp [finishMap, parse_name, fromNdarray, h2, h4']
  · simp only [checkB, checkArrayType, beq_iff_eq]; omega

mutual
theorem rt_all : ∀ (t : Ty) (v : Val), expressible t = true → checkB t v = true → bytesOk v = true → RT t v
  | .scalar st, .bytes bs, _, hc, hb => by
    by_cases h : st = .bit
    · subst h; exact rt_scalar_bit bs hc
    · exact rt_scalar_nonbit st h bs hc (bytesOk_bytes bs hb)
  | .array sh st, .bytes bs, he, hc, hb =>
    rt_array sh st bs (by simpa [expressible] using he) hc (bytesOk_bytes bs hb)
  | .vector n t, .vec vs, he, hc, hb => by
    simp only [expressible, Bool.and_eq_true, decide_eq_true_eq] at he
    simp only [checkB, Bool.and_eq_true, decide_eq_true_eq, List.all_eq_true] at hc
    have hbs := (bytesOkL_iff vs).1 (by simpa only [bytesOk] using hb)
    exact rt_vector n t vs he.1 hc.1
      (rtv_of t (isValid_of_expressible t he.2) vs
        (fun v hv => ⟨hc.2 v hv, rt_all t v he.2 (hc.2 v hv) (hbs v hv)⟩))
  | .tuple ts, .vec vs, he, hc, hb => by
    simp only [expressible] at he
    simp only [checkB] at hc
    simp only [bytesOk] at hb
    exact rt_tuple ts vs (allValid_of_expressibleL ts he) (rt_allL ts vs he hc hb)
  | .named fs, .vec vs, he, hc, hb => by
    have hv := isValid_of_expressible _ he
    simp only [expressible, Bool.and_eq_true] at he
    simp only [checkB] at hc
    simp only [bytesOk] at hb
    have hne : fs ≠ [] := by
      intro e; rw [e] at he; simp at he
    exact rt_named fs vs hne hv (rt_allN fs vs he.2 hc hb)
  | .scalar _, .vec _, _, hc, _ => by simp [checkB] at hc
  | .array _ _, .vec _, _, hc, _ => by simp [checkB] at hc
  | .vector _ _, .bytes _, _, hc, _ => by simp [checkB] at hc
  | .tuple _, .bytes _, _, hc, _ => by simp [checkB] at hc
  | .named _, .bytes _, _, hc, _ => by simp [checkB] at hc
theorem rt_allL : ∀ (ts : List Ty) (vs : List Val), expressibleL ts = true → checkL ts vs = true →
    bytesOkL vs = true → RTL ts vs
  | [], [], _, _, _ => ⟨[], [], rfl, rfl, rfl, by simp [isEqualL], rfl⟩
  | t :: ts, v :: vs, he, hc, hb => by
    simp only [expressibleL, Bool.and_eq_true] at he
    simp only [checkL, Bool.and_eq_true] at hc
    simp only [bytesOkL, Bool.and_eq_true] at hb
    obtain ⟨j, v', a1, a2, a3, a4⟩ := rt_all t v he.1 hc.1 hb.1
    obtain ⟨js, vs', b1, b2, b3, b4, b5⟩ := rt_allL ts vs he.2 hc.2 hb.2
    refine ⟨j :: js, v' :: vs', ?_, ?_, ?_, ?_, ?_⟩
    · simp [toJL, checkOk_of (isValid_of_expressible t he.1) hc.1, a1, b1]
    · simp [ofJL, a2, b2]
    · simp [checkL, a3, b3]
    · simp [isEqualL, a4, b4]
    · simp [b5]
  | [], _ :: _, _, hc, _ => by simp [checkL] at hc
  | _ :: _, [], _, hc, _ => by simp [checkL] at hc
theorem rt_allN : ∀ (fs : List (String × Ty)) (vs : List Val), expressibleN fs = true →
    checkN fs vs = true → bytesOkL vs = true → RTN fs vs
  | [], [], _, _, _ => ⟨[], [], rfl, rfl, rfl, by simp [isEqualN], rfl⟩
  | (n, t) :: fs, v :: vs, he, hc, hb => by
    simp only [expressibleN, Bool.and_eq_true] at he
    simp only [checkN, Bool.and_eq_true] at hc
    simp only [bytesOkL, Bool.and_eq_true] at hb
    obtain ⟨j, v', a1, a2, a3, a4⟩ := rt_all t v he.1 hc.1 hb.1
    obtain ⟨js, vs', b1, b2, b3, b4, b5⟩ := rt_allN fs vs he.2 hc.2 hb.2
    refine ⟨.obj [("name", .str n), ("value", j)] :: js, v' :: vs', ?_, ?_, ?_, ?_, ?_⟩
    · simp [toJN, checkOk_of (isValid_of_expressible t he.1) hc.1, a1, b1]
    · rw [ofJL, ofJ_record n j _ a2, b2]
      simp [finishMap]
    · simp [checkN, a3, b3]
    · simp [isEqualN, a4, b4]
    · simp [b5]
  | [], _ :: _, _, hc, _ => by simp [checkN] at hc
  | _ :: _, [], _, hc, _ => by simp [checkN] at hc
end

end CCV.TV
