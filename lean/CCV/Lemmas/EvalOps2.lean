import CCV.Lemmas.EvalOps
import CCV.Lemmas.OpsPerm
import CCV.Lemmas.OpsStruct
import CCV.Lemmas.OpsMisc
import CCV.Lemmas.OpsGemm
import CCV.Lemmas.Slices
/-
  Value-level half of C09: the typing lemma (length of the result, every entry below `2^bits`, and — where the
  kernel can fail — when it succeeds) of the `CCV.Ops` functions that cut the payload into blocks or rows:
  Gemm, Concatenate, A2B / B2A, ArrayToVector / VectorToArray, Gather, InversePermutation, GetSlice.
-/
namespace CCV.EvalOps
open CCV CCV.TV CCV.Shape
open CCV.TI hiding prod broadcastShapes transposeShape

/-- Gemm with the operands described by the oriented sizes `N K M` (result `[N, M]`).  `general_gemm` wants both
    operands with `K` as LAST dimension: the first is transposed when its flag is set, the second when its flag is
    NOT set — hence `gemm_operand` is used with `t0` for the first and with `!t1` for the second operand. -/
theorem gemm_typed (st : ST) (t0 t1 : Bool) (ba bb br xs ys : List Nat) (N K M : Nat)
    (ha : bcOK ba br) (hb : bcOK bb br) (hN : 0 < N) (hK : 0 < K) (hM : 0 < M)
    (hpa : pos ba) (hpb : pos bb) (hpr : pos br)
    (hx : xs.length = prod ba * (N * K)) (hy : ys.length = prod bb * (K * M)) :
    ∃ r, Ops.gemm st t0 t1 (ba ++ (if t0 then [K, N] else [N, K])) xs
        (bb ++ (if t1 then [M, K] else [K, M])) ys (br ++ [N, M]) = .ok r ∧
      flatOk st (prod (br ++ [N, M])) r := by
  have hy' : ys.length = prod bb * (M * K) := by rw [hy, Nat.mul_comm K M]
  obtain ⟨sA, lA, _⟩ := Ops.gemm_operand st t0 ba xs N K hpa hN hK hx
  obtain ⟨sB, lB, _⟩ := Ops.gemm_operand st (!t1) bb ys M K hpb hM hK hy'
  have eB : (if (!t1) = true then [K, M] else [M, K]) = (if t1 = true then [M, K] else [K, M]) := by
    cases t1 <;> rfl
  rw [eB] at sB lB
  have h0 : 0 < prod br := prod_pos hpr
  obtain ⟨r, hr, hl, _⟩ := Ops.generalGemm_spec st ba bb br _ _ N K M ha hb hN hM hpr lA lB
    (numberToIndex 0 br) 0 0 (numberToIndex_valid hpr h0) hN hM
  refine ⟨r.map (Ops.low st), ?_, by simp [hl], map_low_bound st r⟩
  simp only [Ops.gemm]
  rw [sA, sB, hr]

/-- the same with the operands in the layout they are stored in: `[x0, y0]` and `[x1, y1]` are the last
    two dimensions before the transpositions selected by the flags -/
theorem gemm_stored (st : ST) (ta tb : Bool) (ba bb br xs ys : List Nat) (x0 y0 x1 y1 : Nat)
    (hk : (if ta then x0 else y0) = (if tb then y1 else x1))
    (ha : bcOK ba br) (hb : bcOK bb br) (hx0 : 0 < x0) (hy0 : 0 < y0) (hx1 : 0 < x1) (hy1 : 0 < y1)
    (hpa : pos ba) (hpb : pos bb) (hpr : pos br)
    (hx : xs.length = prod (ba ++ [x0, y0])) (hy : ys.length = prod (bb ++ [x1, y1])) :
    ∃ r, Ops.gemm st ta tb (ba ++ [x0, y0]) xs (bb ++ [x1, y1]) ys
        (br ++ [if ta then y0 else x0, if tb then x1 else y1]) = .ok r ∧
      flatOk st (prod (br ++ [if ta then y0 else x0, if tb then x1 else y1])) r := by
  have e : ∀ (b : List Nat) (x y : Nat), prod (b ++ [x, y]) = prod b * (x * y) := fun b x y => by
    rw [prod_append]
    exact congrArg (prod b * ·) (congrArg (x * ·) (Nat.mul_one y))
  rw [e] at hx hy
  cases ta <;> cases tb <;> cases hk
  · exact gemm_typed st false false ba bb br xs ys x0 y0 y1 ha hb hx0 hy0 hy1 hpa hpb hpr hx hy
  · exact gemm_typed st false true ba bb br xs ys x0 y0 x1 ha hb hx0 hy0 hx1 hpa hpb hpr hx (Nat.mul_comm x1 y0 ▸ hy)
  · exact gemm_typed st true false ba bb br xs ys y0 x0 y1 ha hb hy0 hx0 hy1 hpa hpb hpr (Nat.mul_comm x0 y0 ▸ hx) hy
  · exact gemm_typed st true true ba bb br xs ys y0 x0 x1 ha hb hy0 hx0 hx1 hpa hpb hpr (Nat.mul_comm x0 y0 ▸ hx)
      (Nat.mul_comm x1 x0 ▸ hy)

theorem prod_split_axis (s : List Nat) (axis : Nat) (h : axis < s.length) :
    prod s = prod (s.take axis) * s.getD axis 0 * prod (s.drop (axis + 1)) := by
  have e := congrArg prod (Ops.split_axis s axis h)
  rw [prod_append, prod_append] at e
  simp only [prod, Nat.mul_one] at e
  exact e

theorem concatenate_typed (st : ST) (axis : Nat) (inputs : List (List Nat × List Nat)) (sr : List Nat)
    (haxis : axis < sr.length)
    (hshape : ∀ p ∈ inputs, p.2.length = prod (sr.take axis) * p.1.getD axis 0 * prod (sr.drop (axis + 1)))
    (hb : ∀ p ∈ inputs, ∀ x ∈ p.2, x < 2 ^ st.bits)
    (hsum : sr.getD axis 0 = (inputs.map fun p => p.1.getD axis 0).sum) :
    flatOk st (prod sr) (Ops.concatenate axis inputs sr) := by
  simp only [Ops.concatenate]
  constructor
  · rw [Ops.length_flatMap_const _ _ ((inputs.map fun p => p.1.getD axis 0).sum * prod (sr.drop (axis + 1)))]
    · rw [List.length_range, prod_split_axis sr axis haxis, hsum, Nat.mul_assoc]
    · intro ai hai
      have hai := List.mem_range.mp hai
      rw [List.length_flatMap, ← Ops.sum_map_mul]
      congr 1
      apply List.map_congr_left
      intro p hp
      apply Ops.slice_length
      rw [hshape p hp]
      have h1 : (ai + 1) * (p.1.getD axis 0 * prod (sr.drop (axis + 1)))
          ≤ prod (sr.take axis) * (p.1.getD axis 0 * prod (sr.drop (axis + 1))) :=
        Nat.mul_le_mul_right _ hai
      rw [Nat.succ_mul] at h1
      rw [Nat.mul_assoc, Nat.mul_assoc]
      exact h1
  · intro x hx
    obtain ⟨ai, _, hx⟩ := List.mem_flatMap.mp hx
    obtain ⟨p, hp, hx⟩ := List.mem_flatMap.mp hx
    exact hb p hp x (mem_slice hx)

theorem a2b_typed (st : ST) (hst : st ≠ .bit) (xs : List Nat) (hx : ∀ x ∈ xs, x < 2 ^ st.bits) :
    ∃ r, Ops.a2b st xs = .ok r ∧ flatOk .bit (xs.length * st.bits) r := by
  refine ⟨_, Ops.a2b_spec st hst xs hx, ?_, ?_⟩
  · exact Ops.length_flatMap_const _ _ _ (fun a _ => by simp)
  · intro b hb
    obtain ⟨x, _, hb⟩ := List.mem_flatMap.mp hb
    obtain ⟨k, _, rfl⟩ := List.mem_map.mp hb
    have e : (2 : Nat) ^ ST.bit.bits = 2 := rfl
    rw [e]
    exact Nat.mod_lt _ (by decide)

theorem b2a_typed (st : ST) (hst : st ≠ .bit) (d : Nat) (bits : List Nat) (hl : bits.length = d * st.bits)
    (hb : ∀ b ∈ bits, b < 2) : ∃ r, Ops.b2a st bits = .ok r ∧ flatOk st d r := by
  let cs : List (List Nat) := (List.range d).map fun i => Ops.slice bits (i * st.bits) st.bits
  have hcs : cs.flatMap id = bits := by
    simp only [cs, List.flatMap_map, id]
    exact Ops.flatMap_slices _ _ _ hl
  have hc : ∀ c ∈ cs, c.length = st.bits ∧ ∀ b ∈ c, b < 2 := by
    intro c hc
    obtain ⟨i, hi, rfl⟩ := List.mem_map.mp hc
    have hi := List.mem_range.mp hi
    refine ⟨?_, fun b hbm => hb b (mem_slice hbm)⟩
    apply Ops.slice_length
    rw [hl]
    have := Nat.mul_le_mul_right st.bits hi
    rw [Nat.succ_mul] at this
    exact this
  have h := Ops.b2a_spec st hst cs hc
  rw [hcs] at h
  refine ⟨_, h, by simp [cs], ?_⟩
  intro x hx
  obtain ⟨c, hcm, rfl⟩ := List.mem_map.mp hx
  have := Ops.packBits_lt c (hc c hcm).2
  rw [(hc c hcm).1] at this
  exact this

theorem arrayToVector_typed (st : ST) (d : Nat) (rest xs : List Nat) (hx : flatOk st (d * prod rest) xs)
    (hp : 0 < prod rest) :
    (Ops.arrayToVector (d :: rest) xs).length = d ∧
    ∀ row ∈ Ops.arrayToVector (d :: rest) xs, flatOk st (prod rest) row := by
  have hdiv : xs.length / prod rest = d := by rw [hx.1, Nat.mul_div_cancel _ hp]
  simp only [Ops.arrayToVector, Ops.chunks, List.drop_one, List.tail_cons, hdiv]
  refine ⟨by simp, ?_⟩
  intro row hrow
  obtain ⟨i, hi, rfl⟩ := List.mem_map.mp hrow
  have hi := List.mem_range.mp hi
  refine ⟨?_, fun x hxm => hx.2 x (mem_slice hxm)⟩
  apply Ops.slice_length
  rw [hx.1]
  have := Nat.mul_le_mul_right (prod rest) hi
  rw [Nat.succ_mul] at this
  exact this

theorem rowsOf_typed (st : ST) (k : Nat) : ∀ (vs : List EV),
    (∀ v ∈ vs, ∃ xs, v = .arr xs ∧ flatOk st k xs) →
    ∃ rs, rowsOf vs = some rs ∧ rs.length = vs.length ∧ ∀ r ∈ rs, flatOk st k r
  | [], _ => ⟨[], rfl, rfl, by simp⟩
  | v :: vs, h => by
    obtain ⟨xs, rfl, hxs⟩ := h v (by simp)
    obtain ⟨rs, hrs, hl, hr⟩ := rowsOf_typed st k vs (fun w hw => h w (by simp [hw]))
    refine ⟨xs :: rs, by simp [rowsOf, hrs], by simp [hl], ?_⟩
    intro r hrm
    rcases List.mem_cons.mp hrm with rfl | hrm
    · exact hxs
    · exact hr r hrm

theorem vectorToArray_typed (st : ST) (k : Nat) (rs : List (List Nat)) (h : ∀ r ∈ rs, flatOk st k r) :
    flatOk st (rs.length * k) (Ops.vectorToArray rs) := by
  simp only [Ops.vectorToArray]
  refine ⟨Ops.length_flatMap_const _ _ _ (fun r hr => (h r hr).1), ?_⟩
  intro x hx
  obtain ⟨r, hr, hx⟩ := List.mem_flatMap.mp hx
  exact (h r hr).2 x hx

theorem pos_take {s : List Nat} (h : pos s) (k : Nat) : pos (s.take k) :=
  fun d hd => h d (List.mem_of_mem_take hd)

theorem pos_drop {s : List Nat} (h : pos s) (k : Nat) : pos (s.drop k) :=
  fun d hd => h d (List.mem_of_mem_drop hd)

theorem gather_typed (st : ST) (shape xs indices : List Nat) (axis : Nat) (haxis : axis < shape.length)
    (hp : pos shape) (hx : flatOk st (prod shape) xs) :
    ((∀ ie ∈ indices, ie < shape.getD axis 0) →
      ∃ r, Ops.gather shape xs indices axis = .ok r ∧
        flatOk st (prod (shape.take axis) * (indices.length * prod (shape.drop (axis + 1)))) r) ∧
    ((∃ ie ∈ indices, shape.getD axis 0 ≤ ie) → ∃ e, Ops.gather shape xs indices axis = .error e) := by
  refine ⟨?_, Ops.gather_err shape xs indices axis (prod_pos (pos_take hp axis))⟩
  intro hin
  simp only [Ops.gather]
  have e : ((List.range (prod (shape.take axis))).flatMap fun ai => indices.map fun ie =>
        if shape.getD axis 0 ≤ ie then (Except.error "Incorrect index" : Except String (List Nat))
        else Except.ok (Ops.slice xs ((ai * shape.getD axis 0 + ie) * prod (shape.drop (axis + 1)))
          (prod (shape.drop (axis + 1)))))
      = ((List.range (prod (shape.take axis))).flatMap fun ai => indices.map fun ie =>
          Ops.slice xs ((ai * shape.getD axis 0 + ie) * prod (shape.drop (axis + 1)))
            (prod (shape.drop (axis + 1)))).map Except.ok := by
    rw [List.map_flatMap]
    apply Ops.flatMap_congr'
    intro ai _
    rw [List.map_map]
    apply List.map_congr_left
    intro ie hie
    have := hin ie hie
    simp only [Function.comp]
    rw [if_neg (by omega)]
  rw [e, Ops.mapM_id_ok]
  refine ⟨_, rfl, ?_, ?_⟩
  · have hrow : ∀ row ∈ ((List.range (prod (shape.take axis))).flatMap fun ai => indices.map fun ie =>
          Ops.slice xs ((ai * shape.getD axis 0 + ie) * prod (shape.drop (axis + 1)))
            (prod (shape.drop (axis + 1)))), (id row).length = prod (shape.drop (axis + 1)) := by
      intro row hrow
      obtain ⟨ai, hai, hrow⟩ := List.mem_flatMap.mp hrow
      obtain ⟨ie, hie, rfl⟩ := List.mem_map.mp hrow
      apply Ops.slice_length
      rw [hx.1, prod_split_axis shape axis haxis]
      exact Ops.block_le _ (Ops.block_lt (List.mem_range.mp hai) (hin ie hie))
    rw [Ops.length_flatMap_const _ _ _ hrow,
      Ops.length_flatMap_const _ _ indices.length (fun a _ => by simp), List.length_range, Nat.mul_assoc]
  · intro x hxm
    obtain ⟨row, hrow, hxm⟩ := List.mem_flatMap.mp hxm
    obtain ⟨ai, _, hrow⟩ := List.mem_flatMap.mp hrow
    obtain ⟨ie, _, rfl⟩ := List.mem_map.mp hrow
    exact hx.2 x (mem_slice hxm)

theorem inversePermutation_typed (st : ST) (values : List Nat) (hb : ∀ v ∈ values, v < 2 ^ st.bits) :
    (values.Nodup ∧ (∀ v ∈ values, v < values.length) →
      ∃ r, Ops.inversePermutation values = .ok r ∧ flatOk st values.length r) ∧
    (¬ (values.Nodup ∧ ∀ v ∈ values, v < values.length) →
      ∃ e, Ops.inversePermutation values = .error e) := by
  constructor
  · rintro ⟨hnd, hlt⟩
    obtain ⟨r, hr, hl, hget⟩ := Ops.inversePermutation_spec values hnd hlt
    refine ⟨r, hr, hl, ?_⟩
    -- an entry of the inverse is a position `< length`; `length - 1` itself occurs in `values`, so it is `< 2^bits`
    intro x hx
    obtain ⟨p, hp, rfl⟩ := List.getElem_of_mem hx
    rw [hl] at hp
    have hpm := Ops.mem_of_nodup_lt rfl hnd hlt p hp
    obtain ⟨i, hi, hip⟩ := List.getElem_of_mem hpm
    have h1 := hget i hi
    have e1 : values.getD i 0 = p := by simp [List.getD_eq_getElem?_getD, hi, hip]
    rw [e1] at h1
    have e2 : r.getD p 0 = r[p] := by simp [List.getD_eq_getElem?_getD, hl, hp]
    rw [e2] at h1
    rw [h1]
    have hlast := Ops.mem_of_nodup_lt rfl hnd hlt (values.length - 1) (by omega)
    have := hb _ hlast
    omega
  · intro h
    apply Ops.inversePermutation_err
    by_cases hnd : values.Nodup
    · right
      apply Classical.byContradiction
      intro hne
      apply h
      refine ⟨hnd, fun v hv => ?_⟩
      apply Classical.byContradiction
      intro hge
      exact hne ⟨v, hv, by omega⟩
    · exact Or.inl hnd

theorem getSlice_typed (st : ST) (shape xs : List Nat) (sl : List Slices.SE) (rd r : List Nat)
    (hx : ∀ x ∈ xs, x < 2 ^ st.bits) (h : Ops.getSlice shape xs sl rd = .ok r) :
    flatOk st (prod rd) r := by
  unfold Ops.getSlice at h
  obtain ⟨hl, hget⟩ := Slices.mapM_ok_getD _ _ _ h
  rw [List.length_range] at hl
  refine ⟨hl, ?_⟩
  intro x hxm
  obtain ⟨i, hi, rfl⟩ := List.getElem_of_mem hxm
  have hi' : i < (List.range (prod rd)).length := by rw [List.length_range, ← hl]; exact hi
  have hg := hget i hi'
  simp only [List.getElem_range] at hg
  have e2 : r.getD i 0 = r[i] := by simp [List.getD_eq_getElem?_getD, hi]
  rw [e2] at hg
  split at hg
  · cases hg
  · injection hg with hg
    rw [← hg]
    exact Ops.getD_bound (P := fun x => x < 2 ^ st.bits) xs _ (Ops.pow_bits_pos st) hx

end CCV.EvalOps
