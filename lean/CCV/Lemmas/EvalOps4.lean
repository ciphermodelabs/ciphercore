import CCV.Lemmas.EvalOps3
/-
  Value-level half of C09: the operations with a variable number of dependencies, and B2A.  What the accepted
  rules of Stack / Concatenate / B2A say in the vocabulary of the evaluator model (`inferStack_ok`, `inferConcatenate_ok`,
  `b2aInfer_ok`: the same kind of lemma as the `infer…_ok` of Lemmas/TypeInfer.lean and EvalOps3.lean), and the payload extraction `payloads` of
  `evalOp` on well-typed dependency values.
-/
namespace CCV.EvalOps
open CCV CCV.TV CCV.Shape
open CCV.TI hiding prod broadcastShapes transposeShape

theorem bcastFold_flat : ∀ (ts : List Ty) (acc t : Ty), bcastFold acc ts = .ok t → isFlat acc = true →
    isFlat t = true ∧ stE acc = stE t ∧ ∀ ty ∈ ts, isFlat ty = true ∧ stE ty = stE t
  | [], acc, t, h, hf => by
    simp only [bcastFold] at h
    injection h with h; subst h
    exact ⟨hf, rfl, by simp⟩
  | x :: ts, acc, t, h, _ => by
    simp only [bcastFold] at h
    cases hp : broadcastPair acc x with
    | error e => rw [hp] at h; cases h
    | ok r =>
      rw [hp] at h
      obtain ⟨_, f2, f3, e1, e2, _⟩ := broadcastPair_ok hp
      obtain ⟨g1, g2, g3⟩ := bcastFold_flat ts r t h f3
      refine ⟨g1, e1.trans g2, ?_⟩
      intro ty hty
      rcases List.mem_cons.mp hty with rfl | hty
      · exact ⟨f2, e2.trans g2⟩
      · exact g3 ty hty

theorem bcastAdmissible_flat {t : Ty} (h : bcastAdmissible t = true) : isFlat t = true := by
  cases t <;> simp [bcastAdmissible] at h <;> rfl

theorem broadcastArrays_flat {tys : List Ty} {t : Ty} (h : broadcastArrays tys = .ok t) :
    isFlat t = true ∧ ∀ ty ∈ tys, isFlat ty = true ∧ stE ty = stE t := by
  cases tys with
  | nil => simp [broadcastArrays] at h
  | cons a ts =>
    simp only [broadcastArrays] at h
    split at h
    · rename_i hall
      have fa : isFlat a = true :=
        bcastAdmissible_flat (by simpa using (List.all_eq_true.mp hall) a (by simp))
      obtain ⟨g1, g2, g3⟩ := bcastFold_flat ts a t h fa
      refine ⟨g1, ?_⟩
      intro ty hty
      rcases List.mem_cons.mp hty with rfl | hty
      · exact ⟨fa, g2⟩
      · exact g3 ty hty
    · cases h

theorem inferStack_ok {outer : List Nat} {tys : List Ty} {t : Ty} (h : inferStack outer tys = .ok t) :
    ∃ st full, t = .array full st ∧ tys.length = prod outer ∧
      tys.length * prod (if full = outer then [1] else full.drop outer.length) = prod full ∧
      ∀ ty ∈ tys, isFlat ty = true ∧ stE ty = st := by
  unfold inferStack at h
  split at h; · cases h
  split at h; · cases h
  rename_i hlen
  have hlen : tys.length = prod outer := by
    rw [← prod_eq]
    exact Classical.byContradiction fun hne => hlen hne
  cases hb : broadcastArrays tys with
  | error e => rw [hb] at h; cases h
  | ok bt =>
    rw [hb] at h
    obtain ⟨_, hall⟩ := broadcastArrays_flat hb
    cases bt with
    | scalar st =>
      simp only [] at h
      injection h with h; subst h
      refine ⟨st, outer, rfl, hlen, ?_, hall⟩
      rw [if_pos rfl, hlen]
      simp [prod]
    | array s st =>
      simp only [] at h
      injection h with h; subst h
      refine ⟨st, outer ++ s, rfl, hlen, ?_, hall⟩
      rw [hlen, prod_append]
      by_cases hs : s = []
      · subst hs
        rw [if_pos (List.append_nil _)]
        simp [prod]
      · rw [if_neg (by simpa using hs), List.drop_left]
    | vector n e => cases h
    | tuple ts => cases h
    | named fs => cases h

theorem payloads_typed (st : ST) : ∀ (tys : List Ty) (vs : List EV), hasTypeL tys vs →
    (∀ ty ∈ tys, isFlat ty = true ∧ stE ty = st) →
    ∃ ps, payloads tys vs = some ps ∧ ps.length = tys.length ∧ ps.map (·.1) = tys.map dimsE ∧
      ∀ p ∈ ps, flatOk st (prod p.1) p.2
  | [], [], _, _ => ⟨[], rfl, rfl, rfl, by simp⟩
  | [], _ :: _, h, _ => by simp [hasTypeL] at h
  | _ :: _, [], h, _ => by simp [hasTypeL] at h
  | ty :: tys, v :: vs, h, hf => by
    simp only [hasTypeL] at h
    obtain ⟨f1, e1⟩ := hf ty (by simp)
    obtain ⟨xs, rfl, hx⟩ := hasType_flat_arr f1 h.1
    obtain ⟨ps, hps, hl, hm, hok⟩ := payloads_typed st tys vs h.2 (fun t ht => hf t (by simp [ht]))
    refine ⟨(dimsE ty, xs) :: ps, by simp [payloads, hps], by simp [hl], by simp [hm], ?_⟩
    intro p hp
    rcases List.mem_cons.mp hp with rfl | hp
    · exact e1 ▸ hx
    · exact hok p hp

theorem concatGo_facts (axis : Nat) (st : ST) : ∀ (ts : List Ty) (acc rs : List Nat),
    concatGo axis st acc ts = .ok rs → axis < acc.length →
    rs.length = acc.length ∧ (∀ i, i ≠ axis → rs.getD i 0 = acc.getD i 0) ∧
    rs.getD axis 0 = acc.getD axis 0 + (ts.map fun ty => (dimsE ty).getD axis 0).sum ∧
    ∀ ty ∈ ts, ∃ s, ty = .array s st ∧ s.length = acc.length ∧ ∀ i, i ≠ axis → s.getD i 0 = acc.getD i 0
  | [], acc, rs, h, _ => by
    cases h
    exact ⟨rfl, fun _ _ => rfl, (Nat.add_zero _).symm, fun _ hm => nomatch hm⟩
  | .array s st' :: ts, acc, rs, h, hax => by
    obtain ⟨hst, h1⟩ := of_ite_error h
    cases Decidable.of_not_not hst
    obtain ⟨hlen, h2⟩ := of_ite_error h1
    have hlen : acc.length = s.length := Decidable.of_not_not hlen
    obtain ⟨hall, h3⟩ := of_ite_error h2
    have hall : ∀ i, i ≠ axis → s.getD i 0 = acc.getD i 0 := by
      intro i hi
      by_cases hil : i < s.length
      · have := (List.all_eq_true.mp (Bool.of_not_eq_false hall)) i (List.mem_range.mpr hil)
        rcases (Bool.or_eq_true _ _).mp this with h1 | h1
        · exact (beq_iff_eq.mp h1).symm
        · exact absurd (beq_iff_eq.mp h1) hi
      · rw [List.getD_eq_getElem?_getD, List.getD_eq_getElem?_getD,
          List.getElem?_eq_none (Nat.le_of_not_lt hil), List.getElem?_eq_none (hlen ▸ Nat.le_of_not_lt hil)]
    obtain ⟨g1, g2, g3, g4⟩ := concatGo_facts axis st ts _ rs h3 ((List.length_set ..).symm ▸ hax)
    rw [List.length_set] at g1
    refine ⟨g1, fun i hi => ?_, ?_, ?_⟩
    · rw [g2 i hi, Ops.getD_set_ne _ _ _ _ (Ne.symm hi)]
    · rw [g3, Ops.getD_set_self _ _ _ hax, Nat.add_assoc]
      rfl
    · intro ty hty
      rcases List.mem_cons.mp hty with rfl | hty
      · exact ⟨s, rfl, hlen.symm, hall⟩
      · obtain ⟨s', e1, e2, e3⟩ := g4 ty hty
        refine ⟨s', e1, e2.trans (List.length_set ..), fun i hi => ?_⟩
        rw [e3 i hi, Ops.getD_set_ne _ _ _ _ (Ne.symm hi)]
  | .scalar _ :: _, _, _, h, _ | .vector _ _ :: _, _, _, h, _ | .tuple _ :: _, _, _, h, _
  | .named _ :: _, _, _, h, _ => by cases h

/-- **Concatenate**, what an accepted node says, in the form `concatenate_typed` needs -/
theorem inferConcatenate_ok {axis : Nat} {tys : List Ty} {t : Ty} (h : inferConcatenate axis tys = .ok t) :
    ∃ st rs, t = .array rs st ∧ axis < rs.length ∧
      rs.getD axis 0 = (tys.map fun ty => (dimsE ty).getD axis 0).sum ∧
      ∀ ty ∈ tys, isFlat ty = true ∧ stE ty = st ∧
        prod (dimsE ty) = prod (rs.take axis) * (dimsE ty).getD axis 0 * prod (rs.drop (axis + 1)) := by
  unfold inferConcatenate at h
  split at h; · cases h
  split at h; · cases h
  cases tys with
  | nil => cases h
  | cons a rest =>
    cases a with
    | array s0 st =>
      simp only [] at h
      split at h; · cases h
      rename_i hax
      have hax : axis < s0.length := by omega
      cases hg : concatGo axis st s0 rest with
      | error e => rw [hg] at h; cases h
      | ok rs =>
        rw [hg] at h
        injection h with h; subst h
        obtain ⟨g1, g2, g3, g4⟩ := concatGo_facts axis st rest s0 rs hg hax
        refine ⟨st, rs, rfl, by omega, g3, ?_⟩
        have key : ∀ s : List Nat, s.length = s0.length → (∀ i, i ≠ axis → s.getD i 0 = s0.getD i 0) →
            prod s = prod (rs.take axis) * s.getD axis 0 * prod (rs.drop (axis + 1)) := by
          intro s hl hd
          obtain ⟨e1, e2⟩ := Ops.take_drop_eq s rs axis (by omega)
            (fun i hi => by rw [hd i hi, g2 i hi])
          rw [prod_split_axis s axis (by omega), e1, e2]
        intro ty hty
        rcases List.mem_cons.mp hty with rfl | hty
        · exact ⟨rfl, rfl, key s0 rfl (fun _ _ => rfl)⟩
        · obtain ⟨s', rfl, e2, e3⟩ := g4 ty hty
          exact ⟨rfl, rfl, key s' e2 e3⟩
    | scalar sa => cases h
    | vector n e => cases h
    | tuple fs => cases h
    | named fs => cases h

theorem prod_dropLast (s : List Nat) (h : s ≠ []) :
    prod s = prod (dropLast s) * s.getD (s.length - 1) 0 := by
  have hl : 0 < s.length := List.length_pos_iff.mpr h
  have e := prod_split_axis s (s.length - 1) (Nat.sub_lt hl Nat.one_pos)
  rw [List.drop_of_length_le (Nat.le_of_eq (Nat.sub_add_cancel hl).symm)] at e
  exact e.trans (Nat.mul_one _)

theorem b2aInfer_ok {a t : Ty} {st : ST} (h : b2aInfer a st = .ok t) :
    ∃ s, a = .array s .bit ∧ st ≠ .bit ∧ isFlat t = true ∧ stE t = st ∧
      prod s = prod (dimsE t) * st.bits := by
  unfold b2aInfer at h
  obtain ⟨hval, h0⟩ := of_ite_error h
  split at h0
  · rename_i s ast
    obtain ⟨hbit, h1⟩ := of_ite_error h0
    cases Decidable.of_not_not hbit
    obtain ⟨hst, h2⟩ := of_ite_error h1
    obtain ⟨hlast, h3⟩ := of_ite_error h2
    have hp := prod_dropLast s (valid_array (Bool.of_not_eq_false hval)).1
    rw [Decidable.of_not_not hlast] at hp
    rcases ite_cases h3 with ⟨hl1, h'⟩ | ⟨_, h'⟩
    · cases h'
      obtain ⟨d, rfl⟩ := List.length_eq_one_iff.mp hl1
      exact ⟨_, rfl, hst, rfl, rfl, hp⟩
    · cases h'
      exact ⟨_, rfl, hst, rfl, rfl, hp⟩
  · cases h0

end CCV.EvalOps
