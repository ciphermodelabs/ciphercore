import CCV.Lemmas.ApproxFixed
/-
  C20: error recurrence of the Newton iteration for the inverse square root (ops/inverse_sqrt.rs),
  model `sqrtStep` / `sqrtIter` / `inverseSqrt`.  Over ℤ with denominators cleared:
  `P = 2^c`, `Q = 4^c = P²`, `D = d·x²`, `E = Q − D` is `Q` times the relative error `e = 1 − d·x²/4^c`
  of `x` as an approximation of `2^c/√d`.
-/
namespace CCV.Approx

theorem sq_mul_le {d u v x : Int} (hd : 0 ≤ d) (hu : 0 ≤ u) (h : u ≤ v * x) :
    d * (u * u) ≤ v * v * (d * x * x) := by
  have := mul_le_mul_of_nonneg_left (mul_self_le_mul_self hu h) hd
  linarith only [this]

theorem sq_mul_lt {d u v x : Int} (hd : 0 < d) (hv : 0 ≤ v * x) (h : v * x < u) :
    v * v * (d * x * x) < d * (u * u) := by
  have := mul_lt_mul_of_pos_left (mul_self_lt_mul_self hv h) hd
  linarith only [this]

/-- the guard is kept: with `K = 3Q + 2P`, `Q = P²`, the cubic `(K − D)²·D` has its maximum
    `4K³/27` at `D = K/3` (`27·(K − D)²·D = 4K³ − (K − 3D)²·(4K − 3D)`), and `K³ ≤ 27·Q²·(P+2)²`. -/
theorem sqrt_guard_step {P D Y : Int} (hP : 4 ≤ P) (hD : D ≤ (P + 2) * (P + 2))
    (h : 4 * (P * P) * (P * P) * Y ≤ (3 * (P * P) - D + 2 * P) ^ 2 * D) : Y ≤ (P + 2) * (P + 2) := by
  have hQP : 0 ≤ P * (P - 4) := mul_nonneg (by omega) (by omega)
  have hQ : 0 < P * P := by linarith only [hQP, hP]
  have t1 : 0 ≤ (3 * (P * P) + 2 * P - 3 * D) ^ 2 * (4 * (3 * (P * P) + 2 * P) - 3 * D) :=
    mul_nonneg (sq_nonneg _) (by linarith only [hD, hQP, hP])
  have t2 : 0 ≤ (P * P * P) * (54 * (P * P) + 72 * P - 8) :=
    mul_nonneg (mul_nonneg (le_of_lt hQ) (by omega)) (by linarith only [hQ, hP])
  have : (P * P * (P * P)) * Y ≤ (P * P * (P * P)) * ((P + 2) * (P + 2)) := by
    linarith only [h, t1, t2]
  exact le_of_mul_le_mul_left this (mul_pos hQ hQ)

/-- algebraic core of the InverseSqrt step: `P = 2^c`, `Q = P²`, `D = d·x²`, remainders `r₁` (first
    floor, divisor `2P`) and `r₂` (second floor, divisor `P`).  The remainders bracket the next
    iterate, `(3Q − D)·x < 2Q·(y+1)` and `2Q·y ≤ (3Q − D + 2P)·x`; squared and scaled by `d`, with
    the cubic `(3Q − D)²·D = 4Q³ − (Q − D)²·(4Q − D)`, these are the two recurrences.  The n-step
    bound uses the guard and the upper recurrence only. -/
theorem sqrt_core {P d x y r₁ r₂ : Int} (hP : 4 ≤ P) (hd : 0 < d) (hx : 0 ≤ x)
    (hD : d * x * x ≤ (P + 2) * (P + 2)) (h10 : 0 ≤ r₁) (h11 : r₁ < 2 * P) (h20 : 0 ≤ r₂) (h21 : r₂ < P)
    (hy : 0 ≤ y)
    (hlin : 2 * (P * P) * y = (3 * (P * P) - d * x * x + r₁) * x - 2 * P * r₂) :
    d * y * y ≤ (P + 2) * (P + 2) ∧
    4 * (P * P) * (P * P) * (P * P - d * y * y)
      < (P * P - d * x * x) ^ 2 * (3 * (P * P) + (P * P - d * x * x))
        + 4 * (P * P) * (P * P) * (d * (2 * y + 1)) ∧
    (P * P - d * x * x) ^ 2 * (3 * (P * P) + (P * P - d * x * x))
      - (4 * P * (3 * (P * P) - d * x * x) + 4 * (P * P)) * (d * x * x)
      ≤ 4 * (P * P) * (P * P) * (P * P - d * y * y) := by
  have hQP : 0 ≤ P * (P - 4) := mul_nonneg (by omega) (by omega)
  have hr1x0 : 0 ≤ r₁ * x := mul_nonneg h10 hx
  have hr1x1 : r₁ * x ≤ 2 * P * x := mul_le_mul_of_nonneg_right (le_of_lt h11) hx
  have hPr0 : 0 ≤ P * r₂ := mul_nonneg (by omega) h20
  have hPr1 : P * r₂ < P * P := mul_lt_mul_of_pos_left h21 (by omega)
  have hup : 2 * (P * P) * y ≤ (3 * (P * P) - d * x * x + 2 * P) * x := by
    linarith only [hlin, hr1x1, hPr0]
  have hlo : (3 * (P * P) - d * x * x) * x < 2 * (P * P) * (y + 1) := by
    linarith only [hlin, hr1x0, hPr1]
  have hy2 : 0 ≤ 2 * (P * P) * y := mul_nonneg (by linarith only [hQP, hP]) hy
  have ha := sq_mul_le (le_of_lt hd) hy2 hup
  have hb := sq_mul_lt hd (mul_nonneg (by linarith only [hD, hQP, hP]) hx) hlo
  exact ⟨sqrt_guard_step hP hD (by linarith only [ha]), by linarith only [hb], by linarith only [ha]⟩

/-- uniform bound of the rounding term: if `d ≤ T²` and `d·y² ≤ (P+2)²` then
    `d·(2y+1) ≤ T·(2P + 4 + T)` (`d·y = √d·√(d·y²) ≤ T·(P+2)`). -/
theorem sqrt_round_bound {P d y T : Int} (hP : 0 ≤ P) (hd : 0 < d) (hy : 0 ≤ y) (hT : 0 ≤ T)
    (hdT : d ≤ T * T) (hdy : d * y * y ≤ (P + 2) * (P + 2)) :
    d * (2 * y + 1) ≤ T * (2 * P + 4 + T) := by
  have hdy0 : 0 ≤ d * y * y := mul_nonneg (mul_nonneg (le_of_lt hd) hy) hy
  have := mul_le_mul hdT hdy hdy0 (mul_self_nonneg T)
  have h1 : (d * y) * (d * y) ≤ (T * (P + 2)) * (T * (P + 2)) := by linarith only [this]
  have h2 : d * y ≤ T * (P + 2) :=
    nonneg_le_nonneg_of_sq_le_sq (mul_nonneg hT (by omega)) h1
  linarith only [h2, hdT]

/-- for `e ≤ 1` the cubic recurrence `e' < (3e²+e³)/4 + ρ` gives the quadratic `e' ≤ e² + ρ`. -/
theorem cubic_to_quad {Q R E E' : Int} (hQ : 0 < Q) (hE : E ≤ Q)
    (h : 4 * Q * Q * E' < E ^ 2 * (3 * Q + E) + 4 * Q * Q * R) : Q * E' ≤ E ^ 2 + Q * R := by
  have c1 : 0 ≤ E ^ 2 * (Q - E) := mul_nonneg (sq_nonneg E) (Int.sub_nonneg_of_le hE)
  have : (4 * Q) * (Q * E') < (4 * Q) * (E ^ 2 + Q * R) := by linarith only [h, c1]
  exact le_of_lt (lt_of_mul_lt_mul_left this (by omega))

/-- the first two iterations, abstractly: from `0 ≤ e₀ ≤ 3/4`, with the cubic recurrence
    `e' < (3e²+e³)/4 + ρ`, `e ≥ −4ρ`, `ρ ≤ 1/16`: `e₁ < 135/256 + ρ` and `e₂ ≤ 1/4 + 4ρ`. -/
theorem sqrt_first_two {Q R E0 E1 E2 : Int} (hQ : 0 < Q) (hR : 0 ≤ R) (h16 : 16 * R ≤ Q)
    (h00 : 0 ≤ E0) (h01 : 4 * E0 ≤ 3 * Q) (h1lo : -(4 * R) ≤ E1)
    (hr1 : 4 * Q * Q * E1 < E0 ^ 2 * (3 * Q + E0) + 4 * Q * Q * R)
    (hr2 : 4 * Q * Q * E2 < E1 ^ 2 * (3 * Q + E1) + 4 * Q * Q * R) :
    4 * E2 ≤ Q + 4 * R * 4 := by
  have hQQ : 0 < Q * Q := mul_pos hQ hQ
  have hA : 256 * E1 < 135 * Q + 256 * R := by
    have h1 : (4 * E0) * (4 * E0) ≤ (3 * Q) * (3 * Q) := mul_self_le_mul_self (by omega) h01
    have h2 : (4 * E0) * (4 * E0) * (4 * (3 * Q + E0)) ≤ (3 * Q) * (3 * Q) * (15 * Q) :=
      mul_le_mul h1 (by omega) (by omega) (mul_self_nonneg _)
    have h3 : Q * Q * (256 * E1) < Q * Q * (135 * Q + 256 * R) := by linarith only [hr1, h2]
    exact lt_of_mul_lt_mul_left h3 (le_of_lt hQQ)
  -- |32 E1| ≤ 17 Q + 32 R (`135/256 < 17/32`), hence `32·(3Q + E1) ≤ (96 + 17)·Q + 32 R`
  have hsq : (32 * E1) * (32 * E1) ≤ (17 * Q + 32 * R) * (17 * Q + 32 * R) :=
    mul_self_le_mul_self_of_le_of_neg_le (by omega) (by omega)
  have hcub : (32 * E1) * (32 * E1) * (32 * (3 * Q + E1))
      ≤ (17 * Q + 32 * R) * (17 * Q + 32 * R) * (113 * Q + 32 * R) :=
    mul_le_mul hsq (by omega) (by omega) (mul_self_nonneg _)
  -- 32768 · 4Q² E2 < a²(113Q+32R) + 131072 Q² R ≤ 32768 Q² (Q + 16 R)
  have hQR : 0 ≤ Q * R := mul_nonneg (le_of_lt hQ) hR
  have g1 : 0 ≤ Q * R * (Q - 16 * R) := mul_nonneg hQR (Int.sub_nonneg_of_le h16)
  have g2 : 0 ≤ R * R * (Q - 16 * R) := mul_nonneg (mul_nonneg hR hR) (Int.sub_nonneg_of_le h16)
  have g3 : 0 ≤ Q * Q * Q := mul_nonneg (le_of_lt hQQ) (le_of_lt hQ)
  have g4 : 0 ≤ Q * (Q * R) := mul_nonneg (le_of_lt hQ) hQR
  have hfin : Q * Q * (4 * E2) < Q * Q * (Q + 16 * R) := by
    linarith only [hr2, hcub, g1, g2, g3, g4]
  have := lt_of_mul_lt_mul_left hfin (le_of_lt hQQ)
  omega

theorem sqrtConst_eq (sg : Bool) {c : Nat} (hc1 : 1 ≤ c) (hc : c ≤ 30) :
    sqrtConst sg 64 c = 3 * 2 ^ (c - 1) := by
  unfold sqrtConst i32Shl3
  have h1 : (c - 1) % 32 = c - 1 := Nat.mod_eq_of_lt (by omega)
  have hle : (2:Int) ^ (c - 1) ≤ 2 ^ 29 := two_pow_le_two_pow (by omega)
  have hpos : (0:Int) < 2 ^ (c - 1) := two_pow_pos' _
  simp only [h1]
  have hm : (3 * 2 ^ (c - 1) : Int) % 2 ^ 32 = 3 * 2 ^ (c - 1) :=
    Int.emod_eq_of_lt (by omega) (by omega)
  rw [hm, if_neg (by omega)]
  exact wrap64_nonneg sg (by omega) (by omega)

theorem sqrt_guard_of_le {c : Nat} {D : Int} (h : D ≤ 4 ^ c) : D ≤ (2 ^ c + 2) * (2 ^ c + 2) := by
  rw [four_pow_eq] at h
  linarith only [h, two_pow_pos' c]

/-- the first floor `⌊d·x²/2^(c+1)⌋` stays below the constant `3·2^(c-1)` it is subtracted from. -/
theorem sqrt_quot_le {c : Nat} {D : Int} (hc2 : 2 ≤ c) (hD : D ≤ (2 ^ c + 2) * (2 ^ c + 2)) :
    D / 2 ^ (c + 1) ≤ 2 ^ (c - 1) + 2 := by
  have hP4 := four_le_two_pow hc2
  have hpred := two_pow_pred c (by omega)
  rw [two_pow_succ]
  rw [hpred] at hD hP4 ⊢
  generalize (2:Int) ^ (c - 1) = H at hD hP4 ⊢
  have : D < (H + 3) * (2 * (2 * H)) := by linarith only [hD, hP4]
  have := Int.ediv_lt_of_lt_mul (by omega) this
  omega

/-- the rounding budget per step, times `4^c`: `R = T·(2·2^c + 4 + T)` for any `T ≥ √d`
    (`ρ = R/4^c ≈ 2·√d/2^c`: one unit of the iterate `y ≈ 2^c/√d`, relative to `y²`, twice). -/
def sqrtRound (c : Nat) (T : Int) : Int := T * (2 * 2 ^ c + 4 + T)

theorem sqrtRound_ge {c : Nat} {T : Int} (hT : 0 < T) : 2 * 2 ^ c + 5 ≤ sqrtRound c T := by
  have hP : (0:Int) < 2 ^ c := two_pow_pos' c
  have : 0 ≤ (T - 1) * (2 * 2 ^ c + 4 + T) := mul_nonneg (by omega) (by omega)
  unfold sqrtRound
  linarith only [this, hT]

theorem sqrtRound_nonneg {c : Nat} {T : Int} (hT : 0 < T) : 0 ≤ sqrtRound c T := by
  have := sqrtRound_ge (c := c) hT
  have := two_pow_pos' c
  omega

/-- under the guard the error is not below `−4ρ`: `d·x² ≤ (2^c+2)² = 4^c + 4·2^c + 4`. -/
theorem sqrt_err_lo {c : Nat} {T D : Int} (hT : 0 < T) (hD : D ≤ (2 ^ c + 2) * (2 ^ c + 2)) :
    -(4 * sqrtRound c T) ≤ 4 ^ c - D := by
  rw [four_pow_eq]
  linarith only [hD, sqrtRound_ge (c := c) hT, two_pow_pos' c]

/-- invariant carried through the iteration at level `k` (`B = 2^(2^k)`): the guard under which
    nothing wraps, and `B·E ≤ Q + 4·R·B`, i.e. `e ≤ 2^(-2^k) + 4ρ`. -/
def SqrtInv (c : Nat) (d T : Int) (k : Nat) (x : Int) : Prop :=
  0 ≤ x ∧ d * x * x ≤ (2 ^ c + 2) * (2 ^ c + 2) ∧
    2 ^ (2 ^ k) * (4 ^ c - d * x * x) ≤ 4 ^ c + 4 * sqrtRound c T * 2 ^ (2 ^ k)

example : sqrtStep false 64 10 17 128 = 175 := by decide

section
variable (sg : Bool) {c : Nat} {d : Int} (hc2 : 2 ≤ c) (hc : c ≤ 30) (hd : 0 < d)
include hc2 hc hd

/-- under the guard `d·x² ≤ (2^c + 2)²`, which the iteration keeps, `x ≤ 2^c + 2` and
    `⌊d·x²/2^(c+1)⌋ ≤ 2^(c-1) + 2`, so nothing wraps. -/
theorem sqrtStep_eq {x : Int} (hx : 0 ≤ x) (hdx : d * x * x ≤ (2 ^ c + 2) * (2 ^ c + 2)) :
    sqrtStep sg 64 c d x = ((3 * 2 ^ (c - 1) - (d * x * x) / 2 ^ (c + 1)) * x) / 2 ^ c := by
  have hP30 : (2:Int) ^ c ≤ 2 ^ 30 := two_pow_le_two_pow hc
  have hH29 : (2:Int) ^ (c - 1) ≤ 2 ^ 29 := two_pow_le_two_pow (by omega)
  have hP : (0:Int) < 2 ^ c := two_pow_pos' c
  have hH : (0:Int) < 2 ^ (c - 1) := two_pow_pos' _
  have hdx0 : 0 ≤ d * x := mul_nonneg (le_of_lt hd) hx
  have hdxx0 : 0 ≤ d * x * x := mul_nonneg hdx0 hx
  have h61 : ((2:Int) ^ c + 2) * (2 ^ c + 2) ≤ (2 ^ 30 + 2) * (2 ^ 30 + 2) :=
    mul_le_mul (by omega) (by omega) (by omega) (by decide)
  have hdx1 : d * x ≤ d * x * x := by
    rcases eq_or_lt_of_le hx with h | h
    · rw [← h]; simp
    · exact le_mul_of_one_le_right hdx0 h
  have hxx : x * x ≤ d * x * x := by
    rw [Int.mul_assoc]; exact le_mul_of_one_le_left (mul_self_nonneg x) hd
  have hxP : x ≤ 2 ^ c + 2 := nonneg_le_nonneg_of_sq_le_sq (by omega) (le_trans hxx hdx)
  have hq0 : 0 ≤ (d * x * x) / 2 ^ (c + 1) := Int.ediv_nonneg hdxx0 (le_of_lt (two_pow_pos' _))
  have hq1 := sqrt_quot_le hc2 hdx
  have hm1 : (3 * 2 ^ (c - 1) - (d * x * x) / 2 ^ (c + 1)) * x ≤ (3 * 2 ^ 29) * (2 ^ 30 + 2) :=
    mul_le_mul (by omega) (by omega) hx (by decide)
  unfold sqrtStep
  simp only
  rw [sqrtConst_eq sg (by omega) hc, mul64 sg hdx0 (by omega), mul64 sg hdxx0 (by omega),
    trunc_of_nonneg _ hdxx0, sub64 sg (by omega) (by omega),
    mulFixed64 sg c (mul_nonneg (by omega) hx) (lt_of_le_of_lt hm1 (by decide))]

/-- the step as an exact LINEAR identity with the two floor remainders:
    `2·4^c·x' = (3·4^c − d·x² + r₁)·x − 2·2^c·r₂`, `0 ≤ r₁ < 2^(c+1)` (remainder of `d·x² / 2^(c+1)`),
    `0 ≤ r₂ < 2^c` (remainder of the final `/ 2^c`).  Without the remainders this is
    `x' = x·(3 − u)/2`, `u = d·x²/4^c`. -/
theorem sqrtStep_linear {x : Int} (hx : 0 ≤ x) (hdx : d * x * x ≤ (2 ^ c + 2) * (2 ^ c + 2)) :
    ∃ r₁ r₂ : Int, 0 ≤ r₁ ∧ r₁ < 2 ^ (c + 1) ∧ 0 ≤ r₂ ∧ r₂ < 2 ^ c ∧ 0 ≤ sqrtStep sg 64 c d x ∧
      2 * 4 ^ c * sqrtStep sg 64 c d x = (3 * 4 ^ c - d * x * x + r₁) * x - 2 * 2 ^ c * r₂ := by
  have hP : (0:Int) < 2 ^ c := two_pow_pos' c
  have hH : (0:Int) < 2 ^ (c - 1) := two_pow_pos' _
  have hq1 := sqrt_quot_le hc2 hdx
  rw [sqrtStep_eq sg hc2 hc hd hx hdx, four_pow_eq]
  obtain ⟨r₁, h10, h11, e1⟩ := ediv_rem (d * x * x) (two_pow_pos' (c + 1))
  obtain ⟨r₂, h20, h21, e2⟩ :=
    ediv_rem ((3 * 2 ^ (c - 1) - (d * x * x) / 2 ^ (c + 1)) * x) hP
  refine ⟨r₁, r₂, h10, h11, h20, h21,
    Int.ediv_nonneg (mul_nonneg (by omega) hx) (le_of_lt hP), ?_⟩
  -- `D = q·4H + r₁`, `(3H − q)·x = y·2H + r₂` with `2^c = 2H`
  generalize (3 * 2 ^ (c - 1) - (d * x * x) / 2 ^ (c + 1)) * x / 2 ^ c = y at e2 ⊢
  generalize (d * x * x) / 2 ^ (c + 1) = q at e1 e2
  rw [two_pow_succ] at e1
  rw [two_pow_pred c (by omega)] at e1 e2 ⊢
  generalize (2:Int) ^ (c - 1) = H at e1 e2 ⊢
  have e1' : (q * (2 * (2 * H)) + r₁) * x = d * x * x * x := by rw [e1]
  have e2' : 4 * H * (y * (2 * H) + r₂) = 4 * H * ((3 * H - q) * x) := by rw [e2]
  linarith only [e1', e2']

/-- one-step error recurrence: `sqrt_core` at `P = 2^c` (`e' < (3e²+e³)/4 + d·(2y+1)/4^c` above,
    `e' ≥ (3e²+e³)/4 − (3−u+2^-c)·u/2^c` below, `u = d·x²/4^c`). -/
theorem sqrt_error_recurrence {x : Int} (hx : 0 ≤ x) (hdx : d * x * x ≤ (2 ^ c + 2) * (2 ^ c + 2)) :
    0 ≤ sqrtStep sg 64 c d x ∧
    d * sqrtStep sg 64 c d x * sqrtStep sg 64 c d x ≤ (2 ^ c + 2) * (2 ^ c + 2) ∧
    4 * 4 ^ c * 4 ^ c * (4 ^ c - d * sqrtStep sg 64 c d x * sqrtStep sg 64 c d x)
      < (4 ^ c - d * x * x) ^ 2 * (3 * 4 ^ c + (4 ^ c - d * x * x))
        + 4 * 4 ^ c * 4 ^ c * (d * (2 * sqrtStep sg 64 c d x + 1)) ∧
    (4 ^ c - d * x * x) ^ 2 * (3 * 4 ^ c + (4 ^ c - d * x * x))
        - (4 * 2 ^ c * (3 * 4 ^ c - d * x * x) + 4 * 4 ^ c) * (d * x * x)
      ≤ 4 * 4 ^ c * 4 ^ c * (4 ^ c - d * sqrtStep sg 64 c d x * sqrtStep sg 64 c d x) := by
  obtain ⟨r₁, r₂, h10, h11, h20, h21, hy, hlin⟩ := sqrtStep_linear sg hc2 hc hd hx hdx
  rw [four_pow_eq] at hlin ⊢
  rw [two_pow_succ] at h11
  exact ⟨hy, sqrt_core (four_le_two_pow hc2) hd hx hdx h10 h11 h20 h21 hy hlin⟩

variable {T : Int} (hT : 0 < T) (hdT : d ≤ T * T)
include hT hdT

/-- simplified recurrences with the uniform rounding budget: `e' < (3e²+e³)/4 + ρ` and `e' ≤ e² + ρ`. -/
theorem sqrt_step_simple {x : Int} (hx : 0 ≤ x) (hdx : d * x * x ≤ (2 ^ c + 2) * (2 ^ c + 2)) :
    0 ≤ sqrtStep sg 64 c d x ∧
    d * sqrtStep sg 64 c d x * sqrtStep sg 64 c d x ≤ (2 ^ c + 2) * (2 ^ c + 2) ∧
    4 * 4 ^ c * 4 ^ c * (4 ^ c - d * sqrtStep sg 64 c d x * sqrtStep sg 64 c d x)
      < (4 ^ c - d * x * x) ^ 2 * (3 * 4 ^ c + (4 ^ c - d * x * x)) + 4 * 4 ^ c * 4 ^ c * sqrtRound c T ∧
    4 ^ c * (4 ^ c - d * sqrtStep sg 64 c d x * sqrtStep sg 64 c d x)
      ≤ (4 ^ c - d * x * x) ^ 2 + 4 ^ c * sqrtRound c T := by
  obtain ⟨hy, hinv, hup, _⟩ := sqrt_error_recurrence sg hc2 hc hd hx hdx
  have hQ : (0:Int) < 4 ^ c := Int.pow_pos (by decide)
  have hR : d * (2 * sqrtStep sg 64 c d x + 1) ≤ sqrtRound c T :=
    sqrt_round_bound (le_of_lt (two_pow_pos' c)) hd hy (le_of_lt hT) hdT hinv
  have hdxx0 : 0 ≤ d * x * x := mul_nonneg (mul_nonneg (le_of_lt hd) hx) hx
  have hQQ : (0:Int) ≤ 4 * 4 ^ c * 4 ^ c := mul_nonneg (by omega) (le_of_lt hQ)
  have hcub := lt_of_lt_of_le hup (Int.add_le_add_left (mul_le_mul_of_nonneg_left hR hQQ) _)
  exact ⟨hy, hinv, hcub, cubic_to_quad hQ (by omega) hcub⟩

variable (h16 : 16 * sqrtRound c T ≤ 4 ^ c)
include h16

theorem sqrtInv_step {k : Nat} {x : Int} (hk : 1 ≤ k) (h : SqrtInv c d T k x) : SqrtInv c d T (k + 1) (sqrtStep sg 64 c d x) := by
  obtain ⟨hx, hdx, hB⟩ := h
  obtain ⟨h0, h1, _, h2⟩ := sqrt_step_simple sg hc2 hc hd hT hdT hx hdx
  refine ⟨h0, h1, ?_⟩
  rw [two_pow_two_pow_succ]
  exact quad_inv_step (Int.pow_pos (by decide)) (sqrtRound_nonneg hT) h16 (four_le_two_pow_two_pow hk)
    (sqrt_err_lo hT hdx) hB h2

/-- the first two iterations from `1/4 ≤ d·x²/4^c ≤ 1` (e.g. the bit-derived guess). -/
theorem sqrtInv_first_two {x : Int} (hx : 0 ≤ x) (hlo : 4 ^ c ≤ 4 * (d * x * x)) (hhi : d * x * x ≤ 4 ^ c) :
    SqrtInv c d T 1 (sqrtStep sg 64 c d (sqrtStep sg 64 c d x)) := by
  obtain ⟨a0, a1, a2, _⟩ := sqrt_step_simple sg hc2 hc hd hT hdT hx (sqrt_guard_of_le hhi)
  obtain ⟨b0, b1, b2, _⟩ := sqrt_step_simple sg hc2 hc hd hT hdT a0 a1
  exact ⟨b0, b1, sqrt_first_two (Int.pow_pos (by decide)) (sqrtRound_nonneg hT) h16 (by omega) (by omega)
    (sqrt_err_lo hT a1) a2 b2⟩

theorem sqrtInv_iter :
    ∀ (n k : Nat) (x : Int), 1 ≤ k → SqrtInv c d T k x →
      SqrtInv c d T (k + n) (sqrtIter sg 64 c d n x)
  | 0, _, _, _, h => h
  | n + 1, k, x, hk, h => by
    rw [← Nat.add_assoc, Nat.add_right_comm]
    exact sqrtInv_iter n (k + 1) _ (by omega)
      (sqrtInv_step sg hc2 hc hd hT hdT h16 hk h)

end

end CCV.Approx
