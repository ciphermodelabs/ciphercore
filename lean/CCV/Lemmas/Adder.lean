import CCV.Lemmas.BitVal
import CCV.Lemmas.BitsTree
/-
  Carry-lookahead correctness for the model of adder.rs: composition of (propagate, generate)
  pairs, the bottom-up segment tree (`shrink`), the top-down pass (`descendStep`) and the link to
  integer addition.
-/
namespace CCV.Adder
open CCV.Tree

def run (c : Bool) (l : List PG) : Bool := l.foldl (fun c x => applyPG x c) c

/-- the first `k` prefix carries of `l` with carry-in `c`: `[run c (l.take 0), …, run c (l.take (k-1))]`. -/
def prefixCarries (c : Bool) : List PG → Nat → List Bool
  | _, 0 => []
  | [], k + 1 => c :: prefixCarries c [] k
  | x :: l, k + 1 => c :: prefixCarries (applyPG x c) l k

theorem applyPG_join (a b : PG) (c : Bool) : applyPG (joinPG a b) c = applyPG b (applyPG a c) := by
  rcases a with ⟨ap, ag⟩; rcases b with ⟨bp, bg⟩
  cases ap <;> cases bp <;> cases c <;> simp [applyPG, joinPG]

theorem joinPG_assoc (a b c : PG) : joinPG (joinPG a b) c = joinPG a (joinPG b c) := by
  rcases a with ⟨ap, ag⟩; rcases b with ⟨bp, bg⟩; rcases c with ⟨cp, cg⟩
  simp only [joinPG, Bool.and_assoc, Prod.mk.injEq, true_and]
  cases bp <;> cases cp <;> simp

@[simp] theorem run_nil (c : Bool) : run c [] = c := rfl
@[simp] theorem run_cons (c : Bool) (x : PG) (l : List PG) : run c (x :: l) = run (applyPG x c) l := rfl

@[simp] theorem prefixCarries_zero (c : Bool) (l : List PG) : prefixCarries c l 0 = [] := by
  cases l <;> rfl

theorem prefixCarries_one (c : Bool) (l : List PG) : prefixCarries c l 1 = [c] := by
  cases l <;> simp [prefixCarries]

@[simp] theorem prefixCarries_length (c : Bool) (l : List PG) (k : Nat) : (prefixCarries c l k).length = k := by
  induction k generalizing c l with
  | zero => simp
  | succ k ih => cases l <;> simp [prefixCarries, ih]

theorem prefixCarries_take (c : Bool) (l : List PG) (j K : Nat) (h : K ≤ j + 1) :
    prefixCarries c (l.take j) K = prefixCarries c l K := by
  induction K generalizing c l j with
  | zero => simp
  | succ K ih =>
    match l, j with
    | [], _ => simp
    | x :: l, 0 =>
      have : K = 0 := by omega
      subst this
      simp [prefixCarries]
    | x :: l, j + 1 =>
      simp only [List.take_succ_cons, prefixCarries]
      rw [ih]; omega

theorem run_pairUp (c : Bool) (l : List PG) (h : l.length % 2 = 0) : run c (pairUp joinPG l) = run c l :=
  foldl_pairUp joinPG _ (fun c a b => applyPG_join a b c) l c h

theorem shrink_eq (ov : Bool) (l : List PG) :
    shrink ov l = (pairUp joinPG l).take (if ov then l.length / 2 else (l.length - 1) / 2) := by
  simp only [shrink, subSlice, List.drop_zero,
    zipWith_everyOther everyOther rfl (fun _ => rfl) (fun _ _ _ => rfl), Nat.mul_comm _ 2, pairUp_take]

theorem shrink_length (ov : Bool) (l : List PG) :
    (shrink ov l).length = if ov then l.length / 2 else (l.length - 1) / 2 := by
  rw [shrink_eq, List.length_take, pairUp_length]
  cases ov <;> simp only [Bool.false_eq_true, if_false, if_true] <;> omega

theorem step_pairUp (l : List PG) (K : Nat) (c : Bool) (h : 2 * K ≤ l.length + 1) :
    interleave (prefixCarries c (pairUp joinPG l) K)
        (List.zipWith applyPG (everyOther l) (prefixCarries c (pairUp joinPG l) K))
      = prefixCarries c l (2 * K) := by
  induction K generalizing l c with
  | zero => simp [interleave]
  | succ K ih =>
    match l with
    | [] => simp at h; omega
    | [x] =>
      have : K = 0 := by simp at h; omega
      subst this
      simp [prefixCarries, everyOther, interleave]
    | x :: y :: t =>
      have h' : 2 * K ≤ t.length + 1 := by simp at h; omega
      simp only [pairUp_cons_cons, prefixCarries, everyOther, List.zipWith_cons_cons, interleave, applyPG_join,
        Nat.mul_succ, ih t (applyPG y (applyPG x c)) h']

theorem descendStep_shrink (ov : Bool) (l : List PG) (K : Nat) (c : Bool) (h : 2 * K ≤ l.length + 1) :
    descendStep (prefixCarries c (shrink ov l) K) l = prefixCarries c l (2 * K) := by
  unfold descendStep
  rw [subSlice, List.take_length, List.drop_zero, shrink_eq, prefixCarries_take]
  · exact step_pairUp l K c h
  · cases ov <;> simp only [Bool.false_eq_true, if_false, if_true] <;> omega

theorem descend_cons (top : List PG) (below : List (List PG)) (cs : List Bool) :
    descend (top :: below) cs = descend below (descendStep cs top) := rfl

theorem buildNodes_succ (ov : Bool) (f : Nat) (top : List PG) (below : List (List PG)) :
    buildNodes ov (f + 1) (top :: below) =
      if top.length > 1 then buildNodes ov f (shrink ov top :: top :: below) else top :: below := rfl

/-- bottom-up then top-down, as an invariant of the stack of layers: `below` are the layers already
    pushed, `top` is the last one; `buildNodes` pushes the layers above `top`, and descending through
    all of them from `[false]` arrives at `below` with the prefix carries of `top`.  A layer of `2^i` pairs
    (with the overflow bit) resp. `2^i - 1` pairs (without; not empty) yields `2^i` carries; with the
    overflow bit the root layer is a single pair that summarises the word. -/
theorem build_descend (ov : Bool) (fuel : Nat) : ∀ (top : List PG) (below : List (List PG)) (i : Nat),
    top.length + (if ov then 0 else 1) = 2 ^ i → (ov = false → 1 ≤ top.length) → top.length ≤ fuel →
    ∃ root rest, buildNodes ov fuel (top :: below) = root :: rest ∧
      (ov = true → (List.zipWith applyPG root [false]).headD false = run false top) ∧
      descend (if ov then rest else root :: rest) [false]
        = descend below (prefixCarries false top (2 ^ i)) := by
  induction fuel with
  | zero =>
    intro top below i h h1 hf
    have := Nat.two_pow_pos i
    cases ov
    · have := h1 rfl
      omega
    · simp only [if_true] at h
      omega
  | succ f ih =>
    intro top below i h h1 hf
    by_cases hlen : top.length > 1
    · rw [buildNodes_succ, if_pos hlen]
      obtain ⟨i', rfl⟩ : ∃ i', i = i' + 1 := by
        cases i with
        | zero => rw [Nat.pow_zero] at h; split at h <;> omega
        | succ i' => exact ⟨i', rfl⟩
      rw [Nat.pow_succ] at h ⊢
      have hδ : (if ov then 0 else 1) ≤ 1 := by split <;> omega
      have hs : (shrink ov top).length + (if ov then 0 else 1) = 2 ^ i' := by
        rw [shrink_length]
        cases ov <;> simp only [Bool.false_eq_true, if_false, if_true] at h ⊢ <;> omega
      obtain ⟨root, rest, hb, hr, hd⟩ := ih (shrink ov top) (top :: below) i' hs
        (fun e => by subst e; simp only [Bool.false_eq_true, if_false] at h hs; omega) (by omega)
      refine ⟨root, rest, hb, fun e => ?_, ?_⟩
      · subst e
        simp only [if_true, Nat.add_zero] at h
        rw [hr rfl, shrink_eq, if_pos rfl, List.take_of_length_le (by rw [pairUp_length]; omega)]
        exact run_pairUp false top (by omega)
      · rw [hd, descend_cons, descendStep_shrink ov top _ false (by omega), Nat.mul_comm]
    · rw [buildNodes_succ, if_neg hlen]
      have hpos := Nat.two_pow_pos i
      refine ⟨top, below, rfl, fun e => ?_, ?_⟩
      · subst e
        have h1 : top.length = 1 := by simp only [if_true] at h; omega
        match top, h1 with
        | [x], _ => rfl
      · cases ov
        · have h1' := h1 rfl
          have hK := descendStep_shrink false top 1 false (by omega)
          rw [prefixCarries_one] at hK
          simp only [Bool.false_eq_true, if_false] at h ⊢
          rw [descend_cons, hK, ← h, show top.length + 1 = 2 * 1 by omega]
        · simp only [if_true, Nat.add_zero] at h ⊢
          rw [← h, show top.length = 1 by omega, prefixCarries_one]

theorem carryCore_spec (pg : List PG) (ov : Bool) (m : Nat) (h : pg.length = 2 ^ m) :
    carryCore pg ov = (prefixCarries false pg pg.length, if ov then some (run false pg) else none) := by
  have hpos : 2 ^ m ≥ 1 := Nat.two_pow_pos _
  cases ov with
  | true =>
    obtain ⟨root, rest, hb, hr, hd⟩ := build_descend true pg.length pg [] m (by simpa using h)
      (fun e => by cases e) (Nat.le_refl _)
    simp only [if_true] at hd
    simp only [carryCore, Bool.true_eq_false, false_and, if_false, true_or, if_true, hb, hr rfl, hd]
    rw [h]
    rfl
  | false =>
    -- without the overflow bit the layers above `pg` have lengths `2^i - 1`; words of 1 and 2 bits
    -- are special cases of the code
    by_cases h1 : pg.length = 1
    · simp [carryCore, h1, prefixCarries_one]
    · obtain ⟨m', rfl⟩ : ∃ m', m = m' + 1 := by
        cases m with
        | zero => exact absurd h h1
        | succ m' => exact ⟨m', rfl⟩
      rw [Nat.pow_succ] at h
      have hK := descendStep_shrink false pg (2 ^ m') false (by omega)
      rw [Nat.mul_comm, ← h] at hK
      simp only [carryCore, h1, and_false, if_false, Bool.false_eq_true, false_or]
      by_cases h2 : pg.length > 2
      · obtain ⟨f, hf⟩ : ∃ f, pg.length = f + 1 := ⟨pg.length - 1, by omega⟩
        have hl := shrink_length false pg
        simp only [Bool.false_eq_true, if_false] at hl
        obtain ⟨root, rest, hb, _, hd⟩ := build_descend false f (shrink false pg) [pg] m'
          (by simp only [Bool.false_eq_true, if_false]; omega) (fun _ => by omega) (by omega)
        simp only [Bool.false_eq_true, if_false] at hd
        have hbn : buildNodes false pg.length [pg] = buildNodes false f [shrink false pg, pg] := by
          rw [hf, buildNodes_succ, if_pos (by omega)]
        rw [if_pos h2, hbn, hb, hd, descend_cons, hK]
        rfl
      · have hm : 2 ^ m' = 1 := by omega
        rw [if_neg h2, descend_cons, ← hK, hm, prefixCarries_one]
        rfl

theorem isPow2Aux_succ (f k : Nat) : isPow2Aux (f + 1) k =
    if k = 1 then true else if k % 2 = 0 ∧ k ≠ 0 then isPow2Aux f (k / 2) else false := rfl

theorem isPow2Aux_pow (m : Nat) : ∀ fuel, 2 ^ m ≤ fuel → isPow2Aux fuel (2 ^ m) = true := by
  induction m with
  | zero =>
    intro fuel h
    obtain ⟨f, rfl⟩ : ∃ f, fuel = f + 1 := ⟨fuel - 1, by omega⟩
    rfl
  | succ m ih =>
    intro fuel h
    have hpos := Nat.two_pow_pos m
    rw [Nat.pow_succ] at h ⊢
    obtain ⟨f, rfl⟩ : ∃ f, fuel = f + 1 := ⟨fuel - 1, by omega⟩
    rw [isPow2Aux_succ, if_neg (by omega), if_pos (by omega), Nat.mul_div_cancel _ Nat.zero_lt_two]
    exact ih f (by omega)

theorem isPow2_pow (m : Nat) : isPow2 (2 ^ m) = true := isPow2Aux_pow m _ (Nat.le_refl _)

theorem full_adder (x y c : Bool) :
    (xor c (xor x y)).toNat + 2 * (applyPG (xor x y, x && y) c).toNat = x.toNat + y.toNat + c.toNat := by
  cases x <;> cases y <;> cases c <;> rfl

theorem ripple (a : List Bool) : ∀ (b : List Bool) (c : Bool), a.length = b.length →
    val (List.zipWith xor (prefixCarries c (List.zip (List.zipWith xor a b) (List.zipWith and a b)) a.length)
          (List.zipWith xor a b))
      + 2 ^ a.length * (run c (List.zip (List.zipWith xor a b) (List.zipWith and a b))).toNat
      = val a + val b + c.toNat := by
  induction a with
  | nil =>
    intro b c h
    match b, h with
    | [], _ => simp [val_nil]
  | cons x a ih =>
    intro b c h
    match b, h with
    | y :: b, h =>
      have hl : a.length = b.length := by simpa using h
      have := ih b (applyPG (xor x y, x && y) c) hl
      have fa := full_adder x y c
      simp only [List.zipWith_cons_cons, List.zip_cons_cons, List.length_cons, prefixCarries, val_cons,
        run_cons, Nat.pow_succ]
      rw [Nat.mul_comm (2 ^ a.length) 2, Nat.mul_assoc]
      omega

theorem addCore_length (ov : Bool) (a b : List Bool) (m : Nat) (ha : a.length = 2 ^ m) (hb : b.length = 2 ^ m) :
    (addCore ov a b).1.length = 2 ^ m := by
  have hz : (List.zip (List.zipWith xor a b) (List.zipWith and a b)).length = 2 ^ m := by simp [ha, hb]
  simp only [addCore, carryCore_spec _ ov m hz]
  simp [ha, hb]

theorem addCore_sum (ov : Bool) (a b : List Bool) (m : Nat) (ha : a.length = 2 ^ m) (hb : b.length = 2 ^ m) :
    ∃ c : Bool, val (addCore ov a b).1 + 2 ^ (2 ^ m) * c.toNat = val a + val b ∧
      (addCore ov a b).2 = if ov then some c else none := by
  have hz : (List.zip (List.zipWith xor a b) (List.zipWith and a b)).length = 2 ^ m := by simp [ha, hb]
  have hr := ripple a b false (ha.trans hb.symm)
  simp only [addCore, carryCore_spec _ ov m hz, hz]
  rw [ha] at hr
  exact ⟨_, hr, rfl⟩

theorem addCore_spec (ov : Bool) (a b : List Bool) (m : Nat) (ha : a.length = 2 ^ m) (hb : b.length = 2 ^ m) :
    val (addCore ov a b).1 = (val a + val b) % 2 ^ (2 ^ m) ∧
    (addCore ov a b).2 = if ov then some (decide ((val a + val b) / 2 ^ (2 ^ m) = 1)) else none := by
  obtain ⟨c, hs, hc⟩ := addCore_sum ov a b m ha hb
  have hlt := val_lt (addCore ov a b).1
  rw [addCore_length ov a b m ha hb] at hlt
  have hp : 0 < 2 ^ 2 ^ m := Nat.two_pow_pos _
  rw [hc, ← hs, Nat.add_mul_mod_self_left, Nat.mod_eq_of_lt hlt, Nat.add_mul_div_left _ _ hp,
    Nat.div_eq_of_lt hlt]
  cases ov <;> cases c <;> simp

end CCV.Adder
