import CCV.Lemmas.EvalOps6
/-
  Value-level half of C09: ApplyPermutation on arrays of any rank
  (`Ops.applyPermutation`: the validity check of the index array, the optional inversion, `gather`
  along axis 0) on a valid permutation; the validity test (`HashSet` counting) accepts exactly the
  permutations of `0..n-1`.
-/
namespace CCV.EvalOps
open CCV CCV.TV CCV.Shape
open CCV.TI hiding prod broadcastShapes transposeShape

theorem filter_eq_self_of_length {α : Type} (p : α → Bool) : ∀ (l : List α), (l.filter p).length = l.length →
    l.filter p = l
  | [], _ => rfl
  | a :: l, h => by
    have hle := List.length_filter_le p l
    by_cases hpa : p a = true
    · simp only [List.filter_cons, hpa, if_true, List.length_cons] at h ⊢
      rw [filter_eq_self_of_length p l (by omega)]
    · simp only [List.filter_cons, hpa, Bool.false_eq_true, if_false, List.length_cons] at h
      omega

/-- `HashSet` counting: the number of distinct entries is at most the length, with equality only for
    duplicate-free lists.  `n` is only the induction measure: `eraseDups` recurses on the FILTERED tail, which is
    not a structural subterm. -/
theorem eraseDups_length : ∀ (n : Nat) (l : List Nat), l.length ≤ n →
    l.eraseDups.length ≤ l.length ∧ (l.eraseDups.length = l.length → l.Nodup)
  | _, [], _ => by simp
  | 0, _ :: _, h => by simp at h
  | n + 1, a :: l, h => by
    rw [List.eraseDups_cons]
    have hg := List.length_filter_le (fun b => !b == a) l
    obtain ⟨i1, i2⟩ := eraseDups_length n (l.filter fun b => !b == a) (by simp at h; omega)
    simp only [List.length_cons]
    refine ⟨by omega, ?_⟩
    intro he
    have hgl : (l.filter fun b => !b == a).length = l.length := by omega
    have hgeq := filter_eq_self_of_length _ l hgl
    have hnd := i2 (by omega)
    rw [hgeq] at hnd
    refine List.nodup_cons.mpr ⟨?_, hnd⟩
    intro hmem
    have := (List.filter_eq_self.mp hgeq) a hmem
    simp at this

/-- the validity test of ApplyPermutation (`filter(< n)` into a `HashSet`, count `= n`) on an index
    array of length `n` accepts exactly the permutations of `0..n-1` -/
theorem permCheck_iff (perm : List Nat) (d : Nat) (hlen : perm.length = d) :
    ((perm.filter (· < d)).eraseDups).length = d ↔ (perm.Nodup ∧ ∀ v ∈ perm, v < perm.length) := by
  constructor
  · intro h
    have hf := List.length_filter_le (fun x => decide (x < d)) perm
    obtain ⟨i1, i2⟩ := eraseDups_length _ (perm.filter (· < d)) (Nat.le_refl _)
    have hfl : (perm.filter (· < d)).length = perm.length := by omega
    have hfe := filter_eq_self_of_length _ perm hfl
    have hnd := i2 (by omega)
    rw [hfe] at hnd
    refine ⟨hnd, fun v hv => ?_⟩
    have := (List.filter_eq_self.mp hfe) v hv
    rw [hlen]
    simpa using this
  · rintro ⟨hnd, hlt⟩
    have hf : perm.filter (· < d) = perm :=
      List.filter_eq_self.mpr (fun a ha => by simpa [hlen] using hlt a ha)
    rw [hf, Ops.eraseDups_of_nodup perm hnd, hlen]

theorem applyPermutation_typed (st : ST) (inv : Bool) (d : Nat) (ds xs perm : List Nat) (hp : pos (d :: ds))
    (hx : flatOk st (prod (d :: ds)) xs) (hlen : perm.length = d) (hnd : perm.Nodup)
    (hlt : ∀ v ∈ perm, v < perm.length) :
    ∃ r, Ops.applyPermutation inv (d :: ds) xs perm = .ok r ∧ flatOk st (prod (d :: ds)) r := by
  have hlt' : ∀ v ∈ perm, v < d := fun v hv => hlen ▸ hlt v hv
  have hcheck : ((perm.filter (· < d)).eraseDups).length = d := (permCheck_iff perm d hlen).mpr ⟨hnd, hlt⟩
  have hg : ∀ p : List Nat, p.length = d → (∀ v ∈ p, v < d) →
      ∃ r, Ops.gather (d :: ds) xs p 0 = .ok r ∧ flatOk st (prod (d :: ds)) r := by
    intro p hpl hpr
    obtain ⟨r, hr, hok⟩ := (gather_typed st (d :: ds) xs p 0 (Nat.succ_pos _) hp hx).1 hpr
    have hok : flatOk st (1 * (p.length * prod ds)) r := hok
    rw [Nat.one_mul, hpl] at hok
    exact ⟨r, hr, hok⟩
  have hc : ¬ (((perm.filter (· < (d :: ds).headD 0)).eraseDups).length ≠ (d :: ds).headD 0) := fun h => h hcheck
  cases inv with
  | false =>
    obtain ⟨r, hr, hok⟩ := hg perm hlen hlt'
    refine ⟨r, ?_, hok⟩
    unfold Ops.applyPermutation
    simp only []
    rw [if_neg hc]
    simp only [Bool.false_eq_true, if_false]
    exact hr
  | true =>
    obtain ⟨r0, hr0, hrl, hri⟩ := Ops.inversePermutation_spec perm hnd hlt
    simp only [Ops.inversePermutation, hnd, not_true_eq_false, if_false] at hr0
    have hsurj := Ops.mem_of_nodup_lt rfl hnd hlt
    have hrlt : ∀ v ∈ r0, v < d := by
      intro v hv
      obtain ⟨k, hk, rfl⟩ := List.mem_iff_getElem.mp hv
      obtain ⟨j, hj, hjk⟩ := List.mem_iff_getElem.mp (hsurj k (hrl ▸ hk))
      have := hri j hj
      simp only [List.getD_eq_getElem?_getD, List.getElem?_eq_getElem hj, Option.getD_some, hjk,
        List.getElem?_eq_getElem hk] at this
      omega
    obtain ⟨r, hr, hok⟩ := hg r0 (by rw [hrl, hlen]) hrlt
    refine ⟨r, ?_, hok⟩
    unfold Ops.applyPermutation
    simp only []
    rw [if_neg hc]
    simp only [if_true, hr0]
    exact hr

/-- ApplyPermutation on anything but a permutation: the documented run-time error -/
theorem applyPermutation_err (inv : Bool) (d : Nat) (ds xs perm : List Nat) (hlen : perm.length = d)
    (h : ¬ (perm.Nodup ∧ ∀ v ∈ perm, v < perm.length)) :
    Ops.applyPermutation inv (d :: ds) xs perm = .error "Argument 1 doesn't contain a valid permutation." := by
  have hc : ((perm.filter (· < (d :: ds).headD 0)).eraseDups).length ≠ (d :: ds).headD 0 :=
    fun he => h ((permCheck_iff perm d hlen).mp he)
  unfold Ops.applyPermutation
  simp only []
  rw [if_pos hc]

end CCV.EvalOps
