import CCV.Lemmas.OptimizerEvalDefs
import CCV.Lemmas.EvalOps3
/-
  The strict lifting `liftE` of `evalOp` to typed values: when it succeeds and what it then returns
  (`liftE_eq_some` and its unary / binary forms), what `hasTypeB` says by the form of the type
  (`arrOrScalar s st`: a scalar seen as an array without dimensions), and `evalOp` on the structural
  operations the optimiser inspects, each as one equation under the hypothesis that the node is
  accepted.
-/
namespace CCV.OptEval
open CCV CCV.TV CCV.TI CCV.EvalOps

private theorem allSome_map_some {α : Type} : ∀ ws : List α, allSome (ws.map some) = some ws
  | [] => rfl
  | a :: ws => by rw [List.map_cons, allSome, allSome_map_some ws]

theorem allSome_inv {α : Type} : ∀ {vs : List (Option α)} {ws : List α},
    allSome vs = some ws → vs = ws.map some
  | [], ws, h => by
    cases h
    rfl
  | none :: _, ws, h => by cases h
  | some a :: r, ws, h => by
    unfold allSome at h
    split at h
    · rename_i l hr
      cases h
      rw [allSome_inv hr, List.map_cons]
    · cases h

theorem okE_iff {v : VE} : okE v ↔ ∃ r, v = some r := Option.isSome_iff_exists

theorem infer_of_raw {op : TI.Op} {tys : List TV.Ty} {t : TV.Ty} (ha : arityOk op tys.length = true)
    (hr : inferRaw op tys = .ok t) (hv : t.isValid = true) : infer op tys = .ok t := by
  unfold infer
  rw [if_neg (by rw [ha]; exact Bool.noConfusion), hr]
  simp only []
  rw [if_neg (fun h => Bool.noConfusion (hv.symm.trans h.2))]

theorem liftE_eq_some {op : TI.Op} {vs : List VE} {r : TV.Ty × EV} :
    liftE op vs = some r ↔
      ∃ ws : List (TV.Ty × EV), vs = ws.map some ∧ ws.all (fun w => hasTypeB w.1 w.2) = true ∧
        infer op (ws.map (·.1)) = .ok r.1 ∧ evalOp op (ws.map (·.1)) (ws.map (·.2)) = .ok r.2 := by
  constructor
  · intro h
    unfold liftE at h
    split at h
    · cases h
    · rename_i ws ha
      split at h
      · rename_i hall
        split at h
        · rename_i hi he
          cases h
          exact ⟨ws, allSome_inv ha, hall, hi, he⟩
        · cases h
      · cases h
  · rintro ⟨ws, rfl, hall, hi, he⟩
    unfold liftE
    rw [allSome_map_some]
    simp only []
    rw [if_pos hall, hi, he]

theorem liftE_one {op : TI.Op} {a : VE} {r : TV.Ty × EV} :
    liftE op [a] = some r ↔
      ∃ t e, a = some (t, e) ∧ hasTypeB t e = true ∧ infer op [t] = .ok r.1 ∧
        evalOp op [t] [e] = .ok r.2 := by
  rw [liftE_eq_some]
  constructor
  · rintro ⟨ws, h1, h2, h3, h4⟩
    obtain ⟨w, _, rfl, rfl, hs⟩ := List.map_eq_cons_iff.mp h1.symm
    cases List.map_eq_nil_iff.mp hs
    rw [List.all_cons, List.all_nil, Bool.and_true] at h2
    exact ⟨w.1, w.2, rfl, h2, h3, h4⟩
  · rintro ⟨t, e, rfl, h2, h3, h4⟩
    refine ⟨[(t, e)], rfl, ?_, h3, h4⟩
    rw [List.all_cons, List.all_nil, Bool.and_true]
    exact h2

theorem liftE_two {op : TI.Op} {a b : VE} {r : TV.Ty × EV} :
    liftE op [a, b] = some r ↔
      ∃ ta ea tb eb, a = some (ta, ea) ∧ b = some (tb, eb) ∧ hasTypeB ta ea = true ∧
        hasTypeB tb eb = true ∧ infer op [ta, tb] = .ok r.1 ∧ evalOp op [ta, tb] [ea, eb] = .ok r.2 := by
  rw [liftE_eq_some]
  constructor
  · rintro ⟨ws, h1, h2, h3, h4⟩
    obtain ⟨wa, _, rfl, rfl, hs⟩ := List.map_eq_cons_iff.mp h1.symm
    obtain ⟨wb, _, rfl, rfl, hs'⟩ := List.map_eq_cons_iff.mp hs
    cases List.map_eq_nil_iff.mp hs'
    rw [List.all_cons, List.all_cons, List.all_nil, Bool.and_true, Bool.and_eq_true] at h2
    exact ⟨wa.1, wa.2, wb.1, wb.2, rfl, rfl, h2.1, h2.2, h3, h4⟩
  · rintro ⟨ta, ea, tb, eb, rfl, rfl, ha, hb, h3, h4⟩
    refine ⟨[(ta, ea), (tb, eb)], rfl, ?_, h3, h4⟩
    rw [List.all_cons, List.all_cons, List.all_nil, Bool.and_true, ha, hb]
    rfl

theorem liftE_ok_args {op : TI.Op} {vs : List VE} (h : okE (liftE op vs)) : ∀ v ∈ vs, okE v := by
  obtain ⟨r, hr⟩ := okE_iff.mp h
  obtain ⟨ws, rfl, _⟩ := liftE_eq_some.mp hr
  intro v hv
  obtain ⟨w, _, rfl⟩ := List.mem_map.mp hv
  rfl

theorem hasTypeB_scalar {st : ST} {e : EV} (h : hasTypeB (.scalar st) e = true) :
    ∃ xs, e = .arr xs ∧ xs.length = 1 ∧ ∀ x ∈ xs, x < 2 ^ st.bits := by
  cases e with
  | arr xs =>
    have h : (xs.length == 1 && xs.all fun x => decide (x < 2 ^ st.bits)) = true := h
    rw [Bool.and_eq_true, beq_iff_eq, List.all_eq_true] at h
    exact ⟨xs, rfl, h.1, fun x hx => of_decide_eq_true (h.2 x hx)⟩
  | vec vs => cases h

theorem hasTypeB_array {s : List Nat} {st : ST} {e : EV} (h : hasTypeB (.array s st) e = true) :
    ∃ xs, e = .arr xs ∧ xs.length = Shape.prod s ∧ ∀ x ∈ xs, x < 2 ^ st.bits := by
  cases e with
  | arr xs =>
    have h : (xs.length == Shape.prod s && xs.all fun x => decide (x < 2 ^ st.bits)) = true := h
    rw [Bool.and_eq_true, beq_iff_eq, List.all_eq_true] at h
    exact ⟨xs, rfl, h.1, fun x hx => of_decide_eq_true (h.2 x hx)⟩
  | vec vs => cases h

theorem hasTypeB_vector {n : Nat} {t : TV.Ty} {e : EV} (h : hasTypeB (.vector n t) e = true) :
    ∃ cs, e = .vec cs ∧ cs.length = n ∧ hasTypeBAll t cs = true := by
  cases e with
  | arr xs => cases h
  | vec cs =>
    have h : (cs.length == n && hasTypeBAll t cs) = true := h
    rw [Bool.and_eq_true, beq_iff_eq] at h
    exact ⟨cs, rfl, h.1, h.2⟩

theorem hasTypeBAll_getElem (t : TV.Ty) : ∀ (cs : List EV) (x : Nat) (hx : x < cs.length),
    hasTypeBAll t cs = true → hasTypeB t cs[x] = true
  | _ :: _, 0, _, h => ((Bool.and_eq_true _ _).mp h).1
  | _ :: cs, x + 1, hx, h =>
    hasTypeBAll_getElem t cs x (Nat.lt_of_succ_lt_succ hx) ((Bool.and_eq_true _ _).mp h).2

theorem sumTy_arrOrScalar (T : Tab) (s : List Nat) (st : ST) :
    sumTy T (arrOrScalar s st) = .arr s.length (T.stc st) := by
  cases s with
  | nil => rfl
  | cons d s => rfl

theorem pos_of_arrOrScalar_valid {s : List Nat} {st : ST} (h : (arrOrScalar s st).isValid = true) :
    Shape.pos s := by
  cases s with
  | nil => exact fun _ hd => absurd hd List.not_mem_nil
  | cons d s => exact (valid_array h).2

theorem hasTypeB_arrOrScalar {s : List Nat} {st : ST} {e : EV}
    (h : hasTypeB (arrOrScalar s st) e = true) :
    ∃ xs, e = .arr xs ∧ xs.length = Shape.prod s ∧ ∀ x ∈ xs, x < 2 ^ st.bits := by
  cases s with
  | nil => exact hasTypeB_scalar h
  | cons d s => exact hasTypeB_array h

/-! ### `evalOp` on an accepted node, operation by operation

  Each is the branch of `evalOp` for its operation; `unfold evalOp` followed by rewriting the
  `infer` scrutinee is much cheaper to check than `simp only [evalOp]`, which visits all branches. -/

section evalOp
variable {tys : List TV.Ty} {t : TV.Ty}

theorem evalOp_createTuple (vs : List EV) (hi : infer .createTuple tys = .ok t) :
    evalOp .createTuple tys vs = .ok (.vec vs) := by
  unfold evalOp
  rw [hi]

theorem evalOp_createNamedTuple {names : List String} (vs : List EV)
    (hi : infer (.createNamedTuple names) tys = .ok t) :
    evalOp (.createNamedTuple names) tys vs = .ok (.vec vs) := by
  unfold evalOp
  rw [hi]

theorem evalOp_createVector {et : TV.Ty} (vs : List EV) (hi : infer (.createVector et) tys = .ok t) :
    evalOp (.createVector et) tys vs = .ok (.vec vs) := by
  unfold evalOp
  rw [hi]

theorem evalOp_tupleGet {j : Nat} {cs : List EV} {c : EV} (hi : infer (.tupleGet j) tys = .ok t) :
    evalOp (.tupleGet j) tys [.vec cs] = .ok c ↔ cs[j]? = some c := by
  unfold evalOp
  rw [hi]
  simp only []
  cases cs[j]? with
  | none => simp only [reduceCtorEq]
  | some c' => simp only [Except.ok.injEq, Option.some.injEq]

theorem evalOp_namedTupleGet {nm : String} {fs : List (String × TV.Ty)} {cs : List EV} {c : EV}
    (hi : infer (.namedTupleGet nm) [.named fs] = .ok t) :
    evalOp (.namedTupleGet nm) [.named fs] [.vec cs] = .ok c ↔
      ∃ k, fieldIdx nm fs = some k ∧ cs[k]? = some c := by
  unfold evalOp
  rw [hi]
  simp only []
  cases fieldIdx nm fs with
  | none => simp only [reduceCtorEq, false_and, exists_false]
  | some k =>
    simp only [Option.some.injEq, exists_eq_left']
    cases cs[k]? with
    | none => simp only [reduceCtorEq]
    | some c' => simp only [Except.ok.injEq, Option.some.injEq]

theorem evalOp_vectorGet {n x : Nat} {et ti : TV.Ty} {cs : List EV} {c : EV}
    (hi : infer .vectorGet [.vector n et, ti] = .ok t) :
    evalOp .vectorGet [.vector n et, ti] [.vec cs, .arr [x]] = .ok c ↔ x < n ∧ cs[x]? = some c := by
  unfold evalOp
  rw [hi]
  simp only []
  by_cases hx : n ≤ x
  · simp only [if_pos hx, reduceCtorEq, Nat.not_lt.mpr hx, false_and]
  · rw [if_neg hx]
    cases cs[x]? with
    | none => simp only [reduceCtorEq, and_false]
    | some c' => simp only [Except.ok.injEq, Option.some.injEq, Nat.not_le.mp hx, true_and]

theorem evalOp_zip {vs : List EV} {v : EV} (hi : infer .zip tys = .ok t) :
    evalOp .zip tys vs = .ok v ↔ ∃ cols, colsOf vs = some cols ∧ v = .vec (zipRows cols) := by
  unfold evalOp
  rw [hi]
  simp only []
  cases colsOf vs with
  | none => simp only [reduceCtorEq, false_and, exists_false]
  | some cols => simp only [Except.ok.injEq, Option.some.injEq, exists_eq_left', eq_comm]

theorem evalOp_arrayToVector {a : TV.Ty} (xs : List Nat) (hi : infer .arrayToVector [a] = .ok t) :
    evalOp .arrayToVector [a] [.arr xs] = .ok (.vec ((Ops.arrayToVector (dimsE a) xs).map .arr)) := by
  unfold evalOp
  rw [hi]
  rfl

theorem evalOp_get {idx : List Nat} {a : TV.Ty} (xs : List Nat) (hi : infer (.get idx) [a] = .ok t) :
    evalOp (.get idx) [a] [.arr xs] = .ok (.arr (Ops.get (dimsE a) xs idx)) := by
  unfold evalOp
  rw [hi]
  rfl

theorem okArr_ok {r : Except String (List Nat)} {ys : List Nat} {e : EV} (h : r = .ok ys)
    (he : okArr r = .ok e) : e = .arr ys := by
  subst h
  cases he
  rfl

theorem evalOp_getSlice {sl : List SliceEl} {a : TV.Ty} (xs : List Nat)
    (hi : infer (.getSlice sl) [a] = .ok t) :
    evalOp (.getSlice sl) [a] [.arr xs] = okArr (Ops.getSlice (dimsE a) xs (sl.map toSE) (dimsE t)) := by
  unfold evalOp
  rw [hi]
  rfl

theorem evalOp_a2b {a : TV.Ty} (xs : List Nat) (hi : infer .a2b [a] = .ok t) :
    evalOp .a2b [a] [.arr xs] = okArr (Ops.a2b (stE a) xs) := by
  unfold evalOp
  rw [hi]
  rfl

theorem evalOp_b2a {st : ST} {a : TV.Ty} (xs : List Nat) (hi : infer (.b2a st) [a] = .ok t) :
    evalOp (.b2a st) [a] [.arr xs] = okArr (Ops.b2a st xs) := by
  unfold evalOp
  rw [hi]
  rfl

end evalOp

end CCV.OptEval
