import CCV.Model.MaskRev
import CCV.Model.MaskTy
import CCV.Model.Shuffle
import CCV.Lemmas.KnowTrie
/-
  The certificate checkers in the form in which the kernel evaluates them on the generated obligations
  (`Generated/C02*.lean`, `Generated/C03*.lean`): the analysis of every checker is run by `Run.runF`,
  with the environment held as a function, and `discOk_eq`, `revOk_eq`, `freshOk_eq`, `okRevealedT_eq`, `okSharedT_eq`
  say that this is the checker of the model.  An obligation rewrites with one of them and then
  evaluates.  Mathlib-free, like everything the generated modules import.
-/
namespace CCV.Mask
open CCV.Run

/-- `clsNode` over a lookup of the classes of earlier nodes -/
def clsNodeL (v : Nat) (look : Nat → Cls) (n : Node) : Cls :=
  let d (j : Nat) : Cls := look (n.deps.getD j 0)
  match n.k with
  | .hid _ => .indep
  | .own _ => .indep
  | .tapeU w => if w = v then .pos else .indep
  | .tapeK _ => .indep
  | .nop => if n.deps.length = 1 then d 0 else .bad
  | .add => if n.deps.length = 2 then clsAdd (d 0) (d 1) else .bad
  | .sub => if n.deps.length = 2 then clsAdd (d 0) (clsNeg (d 1)) else .bad
  | .op _ => if n.deps.all (fun j => look j == .indep) then .indep else .bad

theorem clsRun_runF (v : Nat) (g : List Node) :
    (fun m => (clsRun v g []).getD m .bad) = runF (fun _ => clsNodeL v) g 0 (fun _ => .bad) :=
  IsRun.getD_eq_runF (F := clsRun v) (step := clsNode v) ⟨fun _ => rfl, fun _ _ _ => rfl⟩
    (fun _ _ => rfl) g []

def discOkAuxF (g : List Node) : Cert → Bool
  | [] => true
  | (m, v) :: rest =>
    let cl := runF (fun _ => clsNodeL v) g 0 (fun _ => .bad)
    (cl m == .pos || cl m == .neg) &&
    rest.all (fun (m', v') => cl m' == .indep && v' != v) &&
    discOkAuxF g rest

def discOkF (g : List Node) (cert : Cert) : Bool :=
  wellScoped g 0 && cert.all (fun (m, _) => decide (m < g.length)) && discOkAuxF g cert

theorem discOkAux_eq (g : List Node) : ∀ cert : Cert, discOkAux g cert = discOkAuxF g cert
  | [] => rfl
  | (m, v) :: rest => by
    unfold discOkAux discOkAuxF
    rw [discOkAux_eq g rest, ← clsRun_runF]

theorem discOk_eq (g : List Node) (cert : Cert) : discOk g cert = discOkF g cert := by
  unfold discOk discOkF
  rw [discOkAux_eq]

/-- `viewNode` over a lookup of the marks of earlier nodes -/
def viewNodeL (msgs : List Nat) (idx : Nat) (look : Nat → Bool) (n : Node) : Bool :=
  msgs.contains idx ||
  (match n.k with
   | .hid _ => false
   | .tapeU _ => false
   | _ => n.deps.all look)

/-- `rclsNode` over lookups of the view and of the classes of earlier nodes -/
def rclsNodeL (r : Nat) (view : Nat → Bool) (idx : Nat) (look : Nat → RCls) (n : Node) : RCls :=
  if idx = r then .plusR
  else if view idx then .det
  else
    let d (j : Nat) : RCls := look (n.deps.getD j 0)
    match n.k with
    | .nop => if n.deps.length = 1 then d 0 else .other
    | .add => if n.deps.length = 2 then rclsAdd (d 0) (d 1) else .other
    | .sub => if n.deps.length = 2 then (match d 0, d 1 with | .plusR, .det => .plusR | .det, .det => .det | _, _ => .other) else .other
    | _ => .other

def revOkF (g : List Node) (msgs : List Nat) (o : Nat) (revs : List Nat) : Bool :=
  wellScoped g 0 && decide (o < g.length) &&
  revs.all (fun r => decide (r < g.length) &&
    runF (rclsNodeL r (runF (viewNodeL msgs) g 0 (fun _ => false))) g 0 (fun _ => .other) o == .plusR)

theorem viewRun_runF (msgs : List Nat) (g : List Node) :
    (fun m => (viewRun msgs g []).getD m false) = runF (viewNodeL msgs) g 0 (fun _ => false) :=
  IsRun.getD_eq_runF (F := viewRun msgs) (step := fun env => viewNode msgs env.length env)
    ⟨fun _ => rfl, fun _ _ _ => rfl⟩ (fun _ _ => rfl) g []

theorem rclsRun_runF (r : Nat) (view : List Bool) (g : List Node) :
    (fun m => (rclsRun r view g []).getD m .other)
      = runF (rclsNodeL r (fun i => view.getD i false)) g 0 (fun _ => .other) :=
  IsRun.getD_eq_runF (F := rclsRun r view) (step := fun env => rclsNode r view env.length env)
    ⟨fun _ => rfl, fun _ _ _ => rfl⟩ (fun _ _ => rfl) g []

theorem revOk_eq (g : List Node) (msgs : List Nat) (o : Nat) (revs : List Nat) :
    revOk g msgs o revs = revOkF g msgs o revs := by
  unfold revOk revOkF
  rw [← viewRun_runF]
  exact congrArg _ (congrArg (List.all revs) (funext fun r => by rw [← rclsRun_runF]))

/-- `compNode` over a lookup of the marks of earlier nodes -/
def compNodeL (look : Nat → Bool) (n : Node) : Bool :=
  match n.k with
  | .hid _ => false
  | .tapeU _ => false
  | _ => n.deps.all look

def compOkF (g : List Node) (ms : List Nat) : Bool :=
  wellScoped g 0 && ms.all (runF (fun _ => compNodeL) g 0 (fun _ => false))

theorem compOk_eq (g : List Node) (ms : List Nat) : compOk g ms = compOkF g ms := by
  unfold compOk compOkF
  exact congrArg _ (congrArg (List.all ms) (IsRun.getD_eq_runF (F := compRun) (step := compNode)
    ⟨fun _ => rfl, fun _ _ _ => rfl⟩ (fun _ _ => rfl) g []))

/-- `tyNodeOk` over a lookup of the type tags -/
def tyNodeOkL (vty : List Nat) (ty : Nat → Nat) (idx : Nat) (n : Node) : Bool :=
  let t := ty idx
  match n.k with
  | .tapeU v => decide (v < vty.length) && vty.getD v 0 == t
  | .nop => n.deps.all (fun d => ty d == t)
  | .add => n.deps.all (fun d => ty d == t)
  | .sub => n.deps.all (fun d => ty d == t)
  | _ => true

/-- `ts` = the tags from node `k` on, `look` = the tags before it.  A node reads the tags up to its own
    through `look`; the tag of a later node, which a scoped graph never asks for, still comes from `tys`. -/
def tyRunOkF (tys vty : List Nat) : List Nat → List Node → Nat → (Nat → Nat) → Bool
  | _, [], _, _ => true
  | ts, n :: g, k, look =>
    tyNodeOkL vty (fun d => if d ≤ k then (if d = k then ts.headD 0 else look d) else tys.getD d 0) k n &&
    tyRunOkF tys vty ts.tail g (k + 1) (fun d => if d = k then ts.headD 0 else look d)

def tyOkF (g : List Node) (tys vty : List Nat) (cert : Cert) : Bool :=
  decide (tys.length = g.length) && tyRunOkF tys vty tys g 0 (fun _ => 0) &&
  cert.all (fun (m, v) => decide (v < vty.length) && tys.getD m 0 == vty.getD v 0)

theorem tyRunOk_eq (tys vty : List Nat) : ∀ (g : List Node) (k : Nat) (look : Nat → Nat),
    (∀ d, d < k → look d = tys.getD d 0) →
    tyRunOk tys vty g k = tyRunOkF tys vty (tys.drop k) g k look
  | [], _, _, _ => rfl
  | n :: g, k, look, h => by
    have h' : ∀ d, d < k + 1 → (if d = k then (tys.drop k).headD 0 else look d) = tys.getD d 0 := by
      intro d hd
      by_cases e : d = k
      · rw [if_pos e, e, List.headD_eq_head?_getD, List.head?_drop, List.getD_eq_getElem?_getD]
      · rw [if_neg e]; exact h d (by omega)
    have hty : (fun d => if d ≤ k then (if d = k then (tys.drop k).headD 0 else look d) else tys.getD d 0)
        = fun d => tys.getD d 0 := by
      funext d
      by_cases hd : d ≤ k
      · rw [if_pos hd]; exact h' d (by omega)
      · rw [if_neg hd]
    unfold tyRunOkF
    rw [List.tail_drop, ← tyRunOk_eq tys vty g (k + 1) _ h', hty]
    rfl

theorem tyOk_eq (g : List Node) (tys vty : List Nat) (cert : Cert) :
    tyOk g tys vty cert = tyOkF g tys vty cert := by
  unfold tyOk tyOkF
  rw [tyRunOk_eq tys vty g 0 (fun _ => 0) (fun _ hd => absurd hd (Nat.not_lt_zero _)), List.drop_zero]

end CCV.Mask

namespace CCV.Shuffle
open CCV.Run

/-- `clsNode` over a lookup of the classes of earlier nodes -/
def clsNodeL (v : Nat) (look : Nat → Cls) (n : Node) : Cls :=
  match n.k with
  | .hid _ => .indep
  | .mask w => if w = v then .pos else .indep
  | .mul => if n.deps.length = 2 then clsMul (look (n.deps.getD 0 0)) (look (n.deps.getD 1 0)) else .bad
  | .op _ => if n.deps.all (fun j => look j == .indep) then .indep else .bad

theorem clsRun_runF (v : Nat) (g : List Node) :
    (fun m => (clsRun v g []).getD m .bad) = runF (fun _ => clsNodeL v) g 0 (fun _ => .bad) :=
  IsRun.getD_eq_runF (F := clsRun v) (step := clsNode v) ⟨fun _ => rfl, fun _ _ _ => rfl⟩
    (fun _ _ => rfl) g []

def freshOkAuxF (g : List Node) : Cert → Bool
  | [] => true
  | (o, v) :: rest =>
    let cl := runF (fun _ => clsNodeL v) g 0 (fun _ => .bad)
    cl o == .pos &&
    rest.all (fun (o', v') => cl o' == .indep && v' != v) &&
    freshOkAuxF g rest

def freshOkF (g : List Node) (cert : Cert) : Bool :=
  wellScoped g 0 && cert.all (fun (o, _) => decide (o < g.length)) &&
  (cert.map (·.1) == mulNodes g 0 []) && freshOkAuxF g cert

theorem freshOkAux_eq (g : List Node) : ∀ cert : Cert, freshOkAux g cert = freshOkAuxF g cert
  | [] => rfl
  | (o, v) :: rest => by
    unfold freshOkAux freshOkAuxF
    rw [freshOkAux_eq g rest, ← clsRun_runF]

theorem freshOk_eq (g : List Node) (cert : Cert) : freshOk g cert = freshOkF g cert := by
  unfold freshOk freshOkF
  rw [freshOkAux_eq]

end CCV.Shuffle

namespace CCV.Know
open CCV.Run

/-- the holder tree of node `out`, by `runF`; `hBaseF` already reads earlier trees through a lookup -/
def holderF (inStat : Nat → HT) (owner : Nat → Nat) (g : List Node) (out : Nat) : HT :=
  runF (fun _ look n => applySendsHT n.sends (hBaseF inStat owner look n)) g 0 (fun _ => .leaf PS.none) out

theorem hRun_runF (inStat : Nat → HT) (owner : Nat → Nat) (g : List Node) (out : Nat) :
    (hRun inStat owner g []).getD out (.leaf PS.none) = holderF inStat owner g out :=
  congrFun (IsRun.getD_eq_runF (F := hRun inStat owner) (step := hNode inStat owner)
    ⟨fun _ => rfl, fun _ _ _ => rfl⟩ (fun _ _ => rfl) g []) out

/-- the guards of the trie checkers come last: the kernel evaluates the analysis twice as fast before
    `wellScoped` has walked the graph as after it -/
def okRevealedF (inStat : Nat → HT) (owner : Nat → Nat) (g : List Node) (out : Nat) (outs : PS) : Bool :=
  PS.subset outs (meet (holderF inStat owner g out)) &&
  (wellScoped g 0 && decide (g.length ≤ 2 ^ trieDepth) && decide (out < g.length))

def okSharedF (inStat : Nat → HT) (owner : Nat → Nat) (g : List Node) (out : Nat) : Bool :=
  let t := holderF inStat owner g out
  (PS.mem 0 (meet (nthHT 0 t)) && PS.mem 0 (meet (nthHT 1 t)) &&
   PS.mem 1 (meet (nthHT 1 t)) && PS.mem 1 (meet (nthHT 2 t)) &&
   PS.mem 2 (meet (nthHT 2 t)) && PS.mem 2 (meet (nthHT 0 t))) &&
  (wellScoped g 0 && decide (g.length ≤ 2 ^ trieDepth) && decide (out < g.length))

/-- under the three guards of the trie checkers the trie holds the tree that `holderF` computes; where
    a guard fails both checkers answer `false` -/
theorem trie_holderF (inStat : Nat → HT) (owner : Nat → Nat) (g : List Node) (out : Nat)
    (h : (wellScoped g 0 && decide (g.length ≤ 2 ^ trieDepth) && decide (out < g.length)) = true) :
    (Trie.get trieDepth (hRunT inStat owner g 0 .leaf) out).getD (.leaf PS.none)
      = holderF inStat owner g out := by
  simp only [Bool.and_eq_true, decide_eq_true_eq] at h
  rw [hRunT_get inStat owner g out h.1.1 h.1.2 h.2, hRun_runF]

theorem okRevealedT_eq (inStat : Nat → HT) (owner : Nat → Nat) (g : List Node) (out : Nat) (outs : PS) :
    okRevealedT inStat owner g out outs = okRevealedF inStat owner g out outs := by
  unfold okRevealedT okRevealedF
  cases h : wellScoped g 0 && decide (g.length ≤ 2 ^ trieDepth) && decide (out < g.length)
  · rw [Bool.false_and, Bool.and_false]
  · rw [trie_holderF inStat owner g out h, Bool.true_and, Bool.and_true]

theorem okSharedT_eq (inStat : Nat → HT) (owner : Nat → Nat) (g : List Node) (out : Nat) :
    okSharedT inStat owner g out = okSharedF inStat owner g out := by
  unfold okSharedT okSharedF
  cases h : wellScoped g 0 && decide (g.length ≤ 2 ^ trieDepth) && decide (out < g.length)
  · simp only [Bool.false_and, Bool.and_false]
  · simp only [trie_holderF inStat owner g out h, Bool.true_and, Bool.and_true, Bool.and_assoc]

end CCV.Know
