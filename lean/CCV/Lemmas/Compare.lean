import CCV.Model.Compare
import CCV.Lemmas.BitVal
import CCV.Lemmas.BitsTree
import CCV.Lemmas.Mux
/-
  Helper lemmas for C16: the shrink tree of `build_comparison_graph` computes the fold of `join`
  over the positions, low → high; the folded state decides the order of the encoded naturals.
-/
namespace CCV.Compare
open CCV.Tree

theorem join_assoc (x y z : St) : join (join x y) z = join x (join y z) := by
  obtain ⟨xe, xa⟩ := x
  obtain ⟨ye, ya⟩ := y
  obtain ⟨ze, za⟩ := z
  simp only [join, Bool.and_assoc, St.mk.injEq, true_and]
  -- the `a` component: the highest segment that is not `eq` decides
  cases ye <;> cases ze <;> simp

def joinO : Option St → Option St → Option St
  | none, y => y
  | some x, none => some x
  | some x, some y => some (join x y)

@[simp] theorem joinO_none_left (y : Option St) : joinO none y = y := rfl
@[simp] theorem joinO_none_right (x : Option St) : joinO x none = x := by cases x <;> rfl
@[simp] theorem joinO_some (x y : St) : joinO (some x) (some y) = some (join x y) := rfl

theorem joinO_assoc (x y z : Option St) : joinO (joinO x y) z = joinO x (joinO y z) := by
  cases x <;> cases y <;> cases z <;> simp only [joinO, join_assoc]

def foldJ : List St → Option St
  | [] => none
  | x :: xs => joinO (some x) (foldJ xs)

@[simp] theorem foldJ_nil : foldJ [] = none := rfl
@[simp] theorem foldJ_cons (x : St) (xs : List St) : foldJ (x :: xs) = joinO (some x) (foldJ xs) := rfl

theorem foldJ_append (l1 l2 : List St) : foldJ (l1 ++ l2) = joinO (foldJ l1) (foldJ l2) := by
  induction l1 with
  | nil => rfl
  | cons x xs ih => rw [List.cons_append, foldJ_cons, ih, foldJ_cons, joinO_assoc]

/-- the left fold used by `build_comparison_graph` (`res = res.join(remainder)`) is `foldJ` -/
theorem foldl_join_eq (xs : List St) (x : St) : some (xs.foldl join x) = joinO (some x) (foldJ xs) := by
  induction xs generalizing x with
  | nil => rfl
  | cons y ys ih => rw [List.foldl_cons, ih, foldJ_cons, ← joinO_assoc, joinO_some]

theorem foldJ_pairUp (l : List St) (h : l.length % 2 = 0) : foldJ (pairUp join l) = foldJ l := by
  match l, h with
  | [], _ => rfl
  | x :: y :: t, h =>
    have ht : t.length % 2 = 0 := by simp only [List.length_cons] at h; omega
    rw [pairUp_cons_cons, foldJ_cons, ← foldl_join_eq,
      foldl_pairUp join join (fun c a b => (join_assoc c a b).symm) t _ ht, foldJ_cons, ← foldl_join_eq]
    rfl

theorem shrink_eq (l : List St) :
    shrink l = (if l.length ≤ 1 then none else some (pairUp join (l.drop (l.length % 2))),
                if l.length % 2 = 0 then none else l.head?) := by
  simp only [shrink, subSlice, ← List.drop_drop,
    zipWith_everyOther everyOther rfl (fun _ => rfl) (fun _ _ _ => rfl)]

theorem foldJ_loop (fuel : Nat) (l rems : List St) (h : l.length ≤ fuel) :
    foldJ (loop fuel l rems) = joinO (foldJ rems) (foldJ l) := by
  induction fuel generalizing l rems with
  | zero =>
    have : l = [] := List.eq_nil_of_length_eq_zero (by omega)
    subst this; simp [loop]
  | succ fuel ih =>
    match l, h with
    | [], _ => exact (joinO_none_right _).symm
    | [x], _ => exact foldJ_append rems [x]
    | x :: y :: t, h =>
      simp only [loop, shrink_eq]
      have hlen : ∀ l' : List St, l'.length ≤ t.length + 2 → (pairUp join l').length ≤ fuel := by
        intro l' hl'
        rw [pairUp_length]
        simp only [List.length_cons] at h
        omega
      simp only [List.length_cons, show ¬ (t.length + 1 + 1 ≤ 1) by omega, if_false]
      by_cases hpar : (t.length + 1 + 1) % 2 = 0
      · simp only [hpar, if_true, List.drop_zero]
        rw [ih _ _ (hlen _ (Nat.le_refl _)), foldJ_pairUp (x :: y :: t) hpar]
      · have h1 : (t.length + 1 + 1) % 2 = 1 := by omega
        simp only [h1, Nat.succ_ne_zero, if_false, List.head?_cons, List.drop_succ_cons, List.drop_zero]
        rw [ih _ _ (hlen _ (Nat.le_succ _)), foldJ_pairUp _ (by simp only [List.length_cons]; omega),
          foldJ_append, joinO_assoc]
        rfl

theorem build_eq_foldJ (l : List St) : build l = foldJ l := by
  have h := foldJ_loop l.length l [] (Nat.le_refl _)
  rw [foldJ_nil, joinO_none_left] at h
  unfold build
  cases hl : loop l.length l [] with
  | nil => rw [← h, hl]; rfl
  | cons r0 rest => rw [← h, hl]; exact foldl_join_eq rest r0

def Good (s : St) (A B : Int) : Prop :=
  (s.eq = true ↔ A = B) ∧ (s.eq = false → (s.a = true ↔ B < A))

/-- a bit as a number (`Bool.toNat`, written as the `if` of `ofBits`). -/
def bit (b : Bool) : Nat := if b then 1 else 0

theorem ofBits_cons (b : Bool) (bs : List Bool) : ofBits (b :: bs) = bit b + 2 * ofBits bs := rfl

theorem good_fromAB (a b : Bool) : Good (fromAB a b) (bit a) (bit b) := by
  cases a <;> cases b <;> simp [Good, fromAB, bit]

theorem good_join (lo hi : St) (a0 b0 : Bool) (A B : Int)
    (hlo : Good lo (bit a0) (bit b0)) (hhi : Good hi A B) :
    Good (join lo hi) (bit a0 + 2 * A) (bit b0 + 2 * B) := by
  have ha : (bit a0 : Int) = 0 ∨ (bit a0 : Int) = 1 := by cases a0 <;> simp [bit]
  have hb : (bit b0 : Int) = 0 ∨ (bit b0 : Int) = 1 := by cases b0 <;> simp [bit]
  obtain ⟨le, la⟩ := lo
  obtain ⟨he, ha'⟩ := hi
  cases he
  · have hne : A ≠ B := fun e => by simpa using hhi.1.mpr e
    have hlt := hhi.2 rfl
    simp only [join, Bool.and_false, Bool.false_xor, Bool.and_true]
    exact ⟨⟨fun h => by simp at h, fun h => by omega⟩, fun _ => by rw [hlt]; omega⟩
  · have he : A = B := hhi.1.mp rfl
    subst he
    simp only [join, Bool.and_true, Bool.xor_true, Bool.not_true, Bool.and_false, Bool.xor_false]
    exact ⟨by rw [hlo.1]; omega, fun h => by rw [hlo.2 h]; omega⟩

theorem good_shift (s : St) (A B c : Int) (h : Good s (A + c) (B + c)) : Good s A B := by
  obtain ⟨h1, h2⟩ := h
  refine ⟨?_, ?_⟩
  · rw [h1]; omega
  · intro he; rw [h2 he]; omega

theorem foldJ_good (a b : List Bool) (h : a.length = b.length) (hne : a ≠ []) :
    ∃ s, foldJ (List.zipWith fromAB a b) = some s ∧ Good s (ofBits a) (ofBits b) := by
  induction a generalizing b with
  | nil => exact absurd rfl hne
  | cons x xs ih =>
    match b, h with
    | y :: ys, h =>
      simp only [List.length_cons, Nat.add_right_cancel_iff] at h
      simp only [List.zipWith_cons_cons, foldJ_cons, ofBits_cons]
      by_cases hx : xs = []
      · subst hx
        have : ys = [] := List.eq_nil_of_length_eq_zero (by simpa using h.symm)
        subst this
        refine ⟨fromAB x y, by simp, ?_⟩
        simpa [ofBits] using good_fromAB x y
      · obtain ⟨s, hs, hg⟩ := ih ys h hx
        refine ⟨join (fromAB x y) s, by simp [hs], ?_⟩
        have := good_join (fromAB x y) s x y _ _ (good_fromAB x y) hg
        simpa [Int.natCast_add, Int.natCast_mul] using this

def Op.spec : Op → Int → Int → Bool
  | .eq, x, y => decide (x = y)
  | .ne, x, y => decide (x ≠ y)
  | .lt, x, y => decide (x < y)
  | .gt, x, y => decide (y < x)
  | .le, x, y => decide (x ≤ y)
  | .ge, x, y => decide (y ≤ x)

theorem post_of_good (op : Op) (s : St) (A B : Int) (h : Good s A B) : op.post s = op.spec A B := by
  obtain ⟨e, a⟩ := s
  cases e <;> cases a <;> simp only [Good, Bool.false_eq_true, false_iff, true_iff, forall_const,
      Bool.true_eq_false, false_implies, and_true] at h <;>
    cases op <;>
    simp only [Op.post, Op.spec, St.equal, St.notEqual, St.lessThan, St.greaterThan, St.lessThanEqualTo,
      St.greaterThanEqualTo, St.notA, Bool.xor_true, Bool.not_true, Bool.not_false, Bool.and_true,
      Bool.and_false, Bool.and_self, Bool.true_eq, Bool.false_eq, decide_eq_true_eq, decide_eq_false_iff_not] <;>
    omega

theorem compare_unsigned_eq (op : Op) (a b : List Bool) (h : a.length = b.length) (hne : a ≠ []) :
    compare op false a b = some (op.spec (ofBits a) (ofBits b)) := by
  obtain ⟨s, hs, hg⟩ := foldJ_good a b h hne
  simp [compare, h, build_eq_foldJ, hs, post_of_good op s _ _ hg]

theorem zipWith_mux (c : Bool) (x y : List Bool) (h : x.length = y.length) :
    List.zipWith (fun x1 x0 => mux c x1 x0) x y = if c then x else y :=
  Mux.muxBits_eq c x y h

theorem toBits_eq (w n : Nat) : toBits w n = Adder.bitsOf w n := by
  induction w generalizing n with
  | zero => rfl
  | succ w ih => exact congrArg _ (ih _)

theorem ofBits_eq (l : List Bool) : ofBits l = Adder.val l := by
  induction l with
  | nil => rfl
  | cons b t ih =>
    rw [ofBits_cons, ih, Adder.val_cons]
    cases b <;> rfl

theorem toBits_length (w n : Nat) : (toBits w n).length = w := by
  rw [toBits_eq, Adder.bitsOf_length]

theorem ofBits_toBits (w n : Nat) (h : n < 2 ^ w) : ofBits (toBits w n) = n := by
  rw [ofBits_eq, toBits_eq, Adder.val_bitsOf, Nat.mod_eq_of_lt h]

theorem toBits_ne_nil (w n : Nat) (hw : 1 ≤ w) : toBits w n ≠ [] := by
  intro e
  have := toBits_length w n
  rw [e] at this
  exact absurd this (by simp only [List.length_nil]; omega)

/-- two's-complement value of a bit string (index 0 least significant, last index = sign) -/
def sval : List Bool → Int
  | [] => 0
  | [m] => -(bit m : Int)
  | b :: c :: t => (bit b : Int) + 2 * sval (c :: t)

theorem flipMsb_single (m : Bool) : flipMsb [m] = [m ^^ true] := rfl

theorem flipMsb_cons (b c : Bool) (t : List Bool) : flipMsb (b :: c :: t) = b :: flipMsb (c :: t) := by
  simp [flipMsb, List.replicate_succ]

theorem flipMsb_length (l : List Bool) (h : l ≠ []) : (flipMsb l).length = l.length := by
  cases l with
  | nil => exact absurd rfl h
  | cons x xs => simp [flipMsb]

theorem ofBits_flipMsb (l : List Bool) (h : l ≠ []) :
    (ofBits (flipMsb l) : Int) = sval l + 2 ^ (l.length - 1) := by
  induction l with
  | nil => exact absurd rfl h
  | cons b t ih =>
    cases t with
    | nil => cases b <;> simp [flipMsb_single, ofBits, sval, bit]
    | cons c t =>
      have ih := ih (by simp)
      rw [flipMsb_cons, ofBits_cons, sval]
      simp only [Int.natCast_add, Int.natCast_mul, ih, List.length_cons, Nat.add_sub_cancel]
      rw [show t.length + 1 = (t.length + 1 - 1) + 1 by omega, Int.pow_succ]
      simp; omega

def toInt (w n : Nat) : Int := if n < 2 ^ (w - 1) then (n : Int) else (n : Int) - 2 ^ w

theorem sval_eq_toInt (l : List Bool) (h : l ≠ []) : sval l = toInt l.length (ofBits l) := by
  induction l with
  | nil => exact absurd rfl h
  | cons b t ih =>
    cases t with
    | nil => cases b <;> decide
    | cons c t =>
      have hb : bit b ≤ 1 := by cases b <;> decide
      have hp : ((2 ^ t.length : Nat) : Int) = (2 : Int) ^ t.length := Int.natCast_pow 2 _
      rw [sval, ih (List.cons_ne_nil c t), ofBits_cons b (c :: t)]
      simp only [toInt, List.length_cons, Nat.add_sub_cancel, Nat.pow_succ, Int.pow_succ]
      generalize ofBits (c :: t) = M
      generalize (2 : Int) ^ t.length = P at hp ⊢
      split <;> split <;> omega

theorem sval_eq_adder (l : List Bool) : sval l = Adder.sval l := by
  cases l with
  | nil => rfl
  | cons b t =>
    have hne : b :: t ≠ [] := List.cons_ne_nil b t
    have hm := Adder.msb_iff (b :: t) hne
    have hp := Adder.two_pow_length (b :: t) hne
    rw [sval_eq_toInt _ hne, ofBits_eq, toInt, Adder.sval, Int.natCast_pow]
    cases hmx : Adder.msb (b :: t)
    · have : ¬ 2 ^ (b :: t).length ≤ 2 * Adder.val (b :: t) := fun c => by rw [hm.mpr c] at hmx; cases hmx
      rw [if_pos (by omega)]
      rfl
    · have := hm.mp hmx
      rw [if_neg (by omega)]
      rfl

theorem sval_toBits (w n : Nat) (hw : 1 ≤ w) (h : n < 2 ^ w) : sval (toBits w n) = toInt w n := by
  rw [sval_eq_toInt _ (toBits_ne_nil w n hw), toBits_length, ofBits_toBits w n h]

/-- signed mode: flipping the sign bit adds `2^(w-1)` to both two's-complement values (`ofBits_flipMsb`),
    so the unsigned comparison of the flipped strings is the signed comparison (`good_shift`). -/
theorem compare_signed_eq (op : Op) (a b : List Bool) (h : a.length = b.length) (h2 : 2 ≤ a.length) :
    compare op true a b = some (op.spec (sval a) (sval b)) := by
  have hna : a ≠ [] := by intro e; simp [e] at h2
  have hnb : b ≠ [] := by intro e; rw [e] at h; simp [h] at h2
  have hnf : flipMsb a ≠ [] := by
    intro e; have := flipMsb_length a hna; rw [e] at this; simp at this; omega
  obtain ⟨s, hs, hg⟩ := foldJ_good (flipMsb a) (flipMsb b)
    (by rw [flipMsb_length a hna, flipMsb_length b hnb, h]) hnf
  rw [ofBits_flipMsb a hna, ofBits_flipMsb b hnb, ← h] at hg
  have hg' := good_shift s _ _ _ hg
  simp [compare, h, build_eq_foldJ, hs, post_of_good op s _ _ hg']
  -- left: the width guard of the code, `2 ≤ b.length`
  omega

theorem compare_some (op : Op) (signed : Bool) (a b : List Bool) (h : a.length = b.length)
    (h1 : 1 ≤ a.length) (hs : signed = true → 2 ≤ a.length) : ∃ c, compare op signed a b = some c := by
  cases signed
  · exact ⟨_, compare_unsigned_eq op a b h (by intro e; simp [e] at h1)⟩
  · exact ⟨_, compare_signed_eq op a b h (hs rfl)⟩

end CCV.Compare
