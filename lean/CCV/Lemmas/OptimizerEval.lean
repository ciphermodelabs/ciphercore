import CCV.Lemmas.OptimizerEvalB
import CCV.Lemmas.OptimizerEvalC
import CCV.Lemmas.OptimizerSpec
import CCV.Proofs.C09Values
/-
  The evaluator model satisfies the laws of the meta-operation pass (C06): `evLaws`.

  `semE T` (Lemmas/OptimizerEvalDefs.lean) is `CCV.EvalOps.evalOp` — the model of
  `SimpleEvaluator::evaluate_node` compared with the Rust evaluator on every run of C09 — lifted to
  typed values with failure.  This file shows

    * faithfulness: on arguments that have their types (`hasType`, i.e. `Value::check_type`),
      `liftE op` IS `evalOp op` with the type `TI.infer op` (`liftE_faithful`), and for the 28 total
      operations of C09 it succeeds with a value of that type (`liftE_total`); the executable guard
      `hasTypeB` is `hasType` (`hasTypeB_iff`);
    * `evLaws`: all eleven laws of `Optimizer.MetaLaws` and strictness of CreateTuple hold for
      `semE T` relative to the success predicate `okV` (left-hand side evaluates successfully, to a
      value of a valid type).
      Two harmless table conditions: interned field names are distinct strings (`T.nm` injective),
      scalar-type codes decode to themselves.

  Why the side conditions are needed (the unconditional laws are FALSE for a strict evaluator):
    * `A2B(B2A_st x) = x` fails when `x` is not a bit array whose last dimension is `bits st`
      (B2A fails, hence A2B ∘ B2A fails, but `x` is a perfectly good value);
    * `TupleGet_j(CreateTuple vs) = vs[j]` fails when another component `vs[k]` failed;
    * `tyv (Get(a,[c])) = arr 0 st` fails when `c` is out of range (the Get fails);
    * `B2A_st(A2B x) = x` fails for the value `x = (array [] u8, [5])` of an INVALID type: A2B does
      not look at validity and yields `(array [8] bit, …)`, B2A yields `(scalar u8, [5])` ≠ `x`
      although both have the summary `arr 0 u8` (`b2a_a2b_counterexample` in OptimizerEvalC.lean).
      ciphercore never produces values of invalid types (`register_result`); accordingly the
      success predicate `okV` is "evaluated successfully, to a value of a valid type".
  In the Rust pass the guard is implicit: the pass runs on a type-checked graph whose nodes all
  evaluate, so the replaced node evaluated successfully (`ValOK`).

  `CCV.Proofs.C09Values` is imported for `C09.eval_hasType`, which `liftE_total` rests on.
-/
/- Executable forms of the graph hypotheses `TyOK`, `ValOK`, `VecWF`, `hor` (any semantics), by which a
   concrete graph is shown to meet them by evaluation (Proofs/C06.lean, `gEv`). -/
namespace CCV.Optimizer
variable {V : Type}

theorem tyOK_of_map {sem : Op → List V → V} {inp : Nat → V} {dv : V} {rnd : Nat → List V → V}
    {tyv : V → Ty} {ns : List Node}
    (h : (eval sem inp dv rnd ns).map tyv = ns.map (·.ty)) : TyOK sem inp dv rnd tyv ns := by
  intro i n hn
  have h1 := congrArg (fun l => l[i]?) h
  simp only [List.getElem?_map, hn, Option.map_some] at h1
  rw [List.getD_eq_getElem?_getD]
  cases hv : (eval sem inp dv rnd ns)[i]? with
  | none => rw [hv] at h1; simp at h1
  | some v => rw [hv] at h1; simpa using h1

theorem valOK_of_all {ok : V → Prop} {okb : V → Bool} (hb : ∀ v, okb v = true → ok v)
    {sem : Op → List V → V} {inp : Nat → V} {dv : V} {rnd : Nat → List V → V} {ns : List Node}
    (h : (eval sem inp dv rnd ns).all okb = true) : ValOK ok sem inp dv rnd ns := by
  intro i hi
  rw [List.all_eq_true] at h
  have hl : i < (eval sem inp dv rnd ns).length := by rw [eval_length]; exact hi
  rw [List.getD_eq_getElem?_getD, List.getElem?_eq_getElem hl]
  exact hb _ (h _ (List.getElem_mem hl))

def Ty.isVec : Ty → Bool
  | .vec _ => true
  | _ => false

theorem Ty.isVec_spec {t : Ty} (h : t.isVec = true) : ∃ e, t = .vec e := by
  cases t <;> simp [Ty.isVec] at h
  exact ⟨_, rfl⟩

def vecWFb (ns : List Node) : Bool :=
  ns.all fun n =>
    (!(n.op == .vectorGet) || (match n.deps.head? with
      | some d => (tyOf ns d).isVec
      | none => true)) &&
    (!(n.op == .zip) || n.deps.all fun d => (tyOf ns d).isVec)

theorem vecWF_of_check {ns : List Node} (h : vecWFb ns = true) : VecWF ns := by
  intro i n hn
  unfold vecWFb at h
  rw [List.all_eq_true] at h
  have := h n (List.mem_of_getElem? hn)
  simp only [Bool.and_eq_true, Bool.or_eq_true, Bool.not_eq_true', beq_eq_false_iff_ne, ne_eq] at this
  refine ⟨fun hop d hd => ?_, fun hop d hd => ?_⟩
  · rcases this.1 with h1 | h1
    · exact absurd hop h1
    · rw [hd] at h1; exact Ty.isVec_spec h1
  · rcases this.2 with h1 | h1
    · exact absurd hop h1
    · rw [List.all_eq_true] at h1; exact Ty.isVec_spec (h1 d hd)

def noFold (oracle : Nat → Nat × Option Nat) (g : Graph) : Bool :=
  (List.range g.nodes.length).all fun i =>
    match (constants oracle g).2.getD i none with
    | some k => ((constants oracle g).1.nodes.getD k default).op == (g.nodes.getD i default).op
    | none => true

theorem hor_of_noFold {oracle : Nat → Nat × Option Nat} {g : Graph} (h : noFold oracle g = true)
    (sem : Op → List V → V) (val : Nat → V) :
    ∀ i k n n', Maps (constants oracle g).2 i k → g.nodes[i]? = some n →
      (constants oracle g).1.nodes[k]? = some n' → n'.op.isConstant → n'.op ≠ n.op →
      sem n'.op [] = val i := by
  intro i k n n' hm hn hk _ hne
  exfalso
  unfold noFold at h
  rw [List.all_eq_true] at h
  have := h i (List.mem_range.mpr (lt_of_getElem?_some hn))
  unfold Maps at hm
  simp only [List.getD_eq_getElem?_getD, hm, hn, hk, Option.getD_some, beq_iff_eq] at this
  exact hne this

end CCV.Optimizer

namespace CCV.OptEval
open CCV CCV.TV CCV.TI CCV.EvalOps

mutual
theorem hasTypeB_iff : ∀ (t : TV.Ty) (v : EV), hasTypeB t v = true ↔ hasType t v
  | .scalar st, .arr xs => by
    simp only [hasTypeB, hasType, flatOk, Bool.and_eq_true, beq_iff_eq, List.all_eq_true, decide_eq_true_eq]
  | .array s st, .arr xs => by
    simp only [hasTypeB, hasType, flatOk, Bool.and_eq_true, beq_iff_eq, List.all_eq_true, decide_eq_true_eq]
  | .vector n t, .vec vs => by
    simp only [hasTypeB, hasType, Bool.and_eq_true, beq_iff_eq, hasTypeBAll_iff t vs]
  | .tuple ts, .vec vs => by simp only [hasTypeB, hasType, hasTypeBL_iff ts vs]
  | .named fs, .vec vs => by simp only [hasTypeB, hasType, hasTypeBN_iff fs vs]
  | .scalar _, .vec _ | .array _ _, .vec _ | .vector _ _, .arr _ | .tuple _, .arr _ | .named _, .arr _ => by
    simp [hasTypeB, hasType]
theorem hasTypeBAll_iff : ∀ (t : TV.Ty) (vs : List EV), hasTypeBAll t vs = true ↔ ∀ v ∈ vs, hasType t v
  | _, [] => by simp [hasTypeBAll]
  | t, v :: vs => by
    simp only [hasTypeBAll, Bool.and_eq_true, hasTypeB_iff t v, hasTypeBAll_iff t vs, List.mem_cons,
      forall_eq_or_imp]
theorem hasTypeBL_iff : ∀ (ts : List TV.Ty) (vs : List EV), hasTypeBL ts vs = true ↔ hasTypeL ts vs
  | [], [] => by simp [hasTypeBL, hasTypeL]
  | t :: ts, v :: vs => by
    simp only [hasTypeBL, hasTypeL, Bool.and_eq_true, hasTypeB_iff t v, hasTypeBL_iff ts vs]
  | [], _ :: _ => by simp [hasTypeBL, hasTypeL]
  | _ :: _, [] => by simp [hasTypeBL, hasTypeL]
theorem hasTypeBN_iff : ∀ (fs : List (String × TV.Ty)) (vs : List EV), hasTypeBN fs vs = true ↔ hasTypeN fs vs
  | [], [] => by simp [hasTypeBN, hasTypeN]
  | (_, t) :: fs, v :: vs => by
    simp only [hasTypeBN, hasTypeN, Bool.and_eq_true, hasTypeB_iff t v, hasTypeBN_iff fs vs]
  | [], _ :: _ => by simp [hasTypeBN, hasTypeN]
  | _ :: _, [] => by simp [hasTypeBN, hasTypeN]
end

theorem all_hasTypeB_of_hasTypeL : ∀ (ws : List (TV.Ty × EV)),
    hasTypeL (ws.map (·.1)) (ws.map (·.2)) → ws.all (fun w => hasTypeB w.1 w.2) = true
  | [], _ => rfl
  | w :: ws, h => by
    simp only [List.map_cons, hasTypeL] at h
    simp only [List.all_cons, Bool.and_eq_true]
    exact ⟨(hasTypeB_iff _ _).mpr h.1, all_hasTypeB_of_hasTypeL ws h.2⟩

theorem liftE_faithful (op : TI.Op) (ws : List (TV.Ty × EV))
    (h : hasTypeL (ws.map (·.1)) (ws.map (·.2))) (t : TV.Ty) (v : EV) :
    liftE op (ws.map some) = some (t, v) ↔
      TI.infer op (ws.map (·.1)) = .ok t ∧ evalOp op (ws.map (·.1)) (ws.map (·.2)) = .ok v := by
  constructor
  · intro hl
    obtain ⟨ws', hws, _, hi, he⟩ := liftE_eq_some.mp hl
    cases (List.map_inj_right fun _ _ => Option.some.inj).mp hws
    exact ⟨hi, he⟩
  · rintro ⟨hi, he⟩
    exact liftE_eq_some.mpr ⟨ws, rfl, all_hasTypeB_of_hasTypeL ws h, hi, he⟩

theorem liftE_total (op : TI.Op) (htot : C09.totalOp op = true) (ws : List (TV.Ty × EV)) (t : TV.Ty)
    (hval : ∀ ty ∈ ws.map (·.1), ty.isValid = true) (hinf : TI.infer op (ws.map (·.1)) = .ok t)
    (h : hasTypeL (ws.map (·.1)) (ws.map (·.2))) :
    ∃ v, evalOp op (ws.map (·.1)) (ws.map (·.2)) = .ok v ∧ liftE op (ws.map some) = some (t, v) ∧
      hasType t v := by
  obtain ⟨v, hv, hty⟩ := C09.eval_hasType op htot _ t _ hval hinf h
  refine ⟨v, hv, ?_, hty⟩
  exact (liftE_faithful op ws h t v).mpr ⟨hinf, hv⟩

-- `okE` (OptimizerEvalDefs.lean) is bare success and all the law lemmas need (`okV.okE`); `evLaws` is for
-- the stronger `okV`, because `B2A_st(A2B x) = x` is false for an `x` of an invalid type.
def okV (v : VE) : Prop := ∃ t e, v = some (t, e) ∧ t.isValid = true

def okVb : VE → Bool
  | some (t, _) => t.isValid
  | none => false

theorem okVb_spec {v : VE} (h : okVb v = true) : okV v := by
  match v, h with
  | some (t, e), h => exact ⟨t, e, rfl, h⟩

theorem okV.okE {v : VE} (h : okV v) : okE v := by
  obtain ⟨t, e, rfl, _⟩ := h; rfl

theorem isValid_of_allValid : ∀ (ts : List TV.Ty), allValid ts = true → ∀ t ∈ ts, t.isValid = true
  | [], _, t, ht => by cases ht
  | a :: ts, h, t, ht => by
    have h := (Bool.and_eq_true _ _).mp h
    rcases List.mem_cons.mp ht with rfl | ht
    · exact h.1
    · exact isValid_of_allValid ts h.2 t ht

theorem evLaws (T : Tab) (hinj : Function.Injective T.nm) (hst : ∀ s, T.st (T.stc s) = s) :
    Optimizer.MetaLaws okV (semE T) (tyvE T) where
  tupleGet := fun vs j h hok => tupleGet_law vs j h hok.okE
  namedGet := fun names vs j h hl hnd hok => namedGet_law T.nm hinj names vs j h hl hnd hok.okE
  vectorGet := fun t vs vid c h hok => vectorGet_law T t vs vid c h hok.okE
  zipGet := fun vs i hok => zipGet_law vs i hok.okE
  a2vGet := fun a vid c hok => a2vGet_law T a vid c hok.okE
  a2b_b2a := fun x st hok => a2b_b2a_law x (T.st st) hok.okE
  b2a_a2b := fun x nd st h hx hok => b2a_a2b_law T hst x nd st h (by
    obtain ⟨t, e, rfl, hv⟩ := hx
    intro st' e' heq
    cases heq
    exact Bool.noConfusion hv) hok.okE
  ty_get := fun a c st h hok => ty_get_law T a c st h hok.okE
  ty_getSlice := fun a c hok => ty_getSlice_law T a c hok.okE
  ty_vectorGet := fun v i e h hok => ty_vectorGet_law T v i e h hok.okE
  ty_createTuple := fun vs => ty_createTuple_law T vs
  ok_createTuple := fun vs h v hv => by
    obtain ⟨t, e, h, _⟩ := h
    obtain ⟨us, rfl, _, hval, _⟩ := createTuple_eq_some.mp h
    obtain ⟨u, hu, rfl⟩ := List.mem_map.mp hv
    exact ⟨u.1, u.2, rfl, isValid_of_allValid _ hval u.1 (List.mem_map_of_mem hu)⟩

end CCV.OptEval
