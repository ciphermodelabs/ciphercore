import CCV.Model.Context
/-
  Helper lemmas for C11: association lists (`tget`/`tremove`/`tinsert`/`tpush`), then positions of
  a list after `set` and `++ [a]`.  Core only.
-/
namespace CCV.Context

variable {K V : Type} [DecidableEq K]

theorem tget_tremove (t : List (K × V)) (k k' : K) :
    tget (tremove t k) k' = if k = k' then none else tget t k' := by
  induction t with
  | nil => simp [tremove, tget]
  | cons p t ih =>
    obtain ⟨a, v⟩ := p
    by_cases h1 : a = k <;> by_cases h2 : a = k' <;> by_cases h3 : k = k' <;>
      simp_all [tremove, tget]

theorem tget_tinsert (t : List (K × V)) (k k' : K) (v : V) :
    tget (tinsert t k v) k' = if k = k' then some v else tget t k' := by
  by_cases h : k = k'
  · simp [tinsert, tget, h]
  · simp [tinsert, tget, h, tget_tremove]

theorem tremove_of_tget_none (t : List (K × V)) (k : K) (h : tget t k = none) :
    tremove t k = t := by
  induction t with
  | nil => rfl
  | cons p t ih =>
    obtain ⟨a, v⟩ := p
    by_cases h1 : a = k
    · simp [tget, h1] at h
    · simp [tget, h1] at h
      simp [tremove, h1, ih h]

theorem tpush_eq (t : List (K × List Nat)) (k : K) (a : Nat) :
    tpush t k a = tinsert t k ((tget t k).getD [] ++ [a]) := by
  unfold tpush
  cases tget t k <;> rfl

theorem tget_tpush (t : List (K × List Nat)) (k k' : K) (a : Nat) :
    tget (tpush t k a) k' = if k = k' then some ((tget t k).getD [] ++ [a]) else tget t k' := by
  rw [tpush_eq, tget_tinsert]

theorem tget_tinsert_iff {A B C D : Type} [DecidableEq A] [DecidableEq C]
    {t : List (A × B)} {u : List (C × D)} {a₀ a : A} {b₀ b : B} {c₀ c : C} {d₀ d : D}
    (ht : tget t a₀ = none) (hu : tget u c₀ = none)
    (hp : a₀ = a ∧ b₀ = b ↔ c₀ = c ∧ d₀ = d)
    (hb : tget t a = some b ↔ tget u c = some d) :
    tget (tinsert t a₀ b₀) a = some b ↔ tget (tinsert u c₀ d₀) c = some d := by
  rw [tget_tinsert, tget_tinsert]
  by_cases ha : a₀ = a <;> by_cases hc : c₀ = c
  · rw [if_pos ha, if_pos hc, Option.some.injEq, Option.some.injEq]
    exact ⟨fun e => (hp.1 ⟨ha, e⟩).2, fun e => (hp.2 ⟨hc, e⟩).2⟩
  · rw [if_pos ha, if_neg hc, ← hb, ← ha, ht]
    exact ⟨fun e => absurd (hp.1 ⟨ha, Option.some.inj e⟩).1 hc, nofun⟩
  · rw [if_neg ha, if_pos hc, hb, ← hc, hu]
    exact ⟨nofun, fun e => absurd (hp.2 ⟨hc, Option.some.inj e⟩).1 ha⟩
  · rw [if_neg ha, if_neg hc]
    exact hb

theorem tget_tinsert_range {P : K → Prop} {t : List (K × V)} {k : K} {v : V} (hk : P k)
    (ht : ∀ k' v', tget t k' = some v' → P k') :
    ∀ k' v', tget (tinsert t k v) k' = some v' → P k' := by
  intro k' v'
  rw [tget_tinsert]
  split
  · next e => exact fun _ => e ▸ hk
  · exact ht k' v'

def keys (t : List (K × V)) : List K := t.map (·.1)

theorem keys_tremove (t : List (K × V)) (k : K) :
    keys (tremove t k) = (keys t).filter (· ≠ k) := by
  induction t with
  | nil => rfl
  | cons p t ih =>
    unfold tremove keys
    rw [List.map_cons, List.filter_cons]
    by_cases h : p.1 = k
    · rw [if_pos h, if_neg (by simpa using h)]
      exact ih
    · rw [if_neg h, if_pos (by simpa using h), List.map_cons]
      exact congrArg _ ih

theorem mem_keys_tremove (t : List (K × V)) (k x : K) :
    x ∈ keys (tremove t k) ↔ x ∈ keys t ∧ x ≠ k := by
  rw [keys_tremove, List.mem_filter, decide_eq_true_eq]

theorem nodup_keys_tremove {t : List (K × V)} (k : K) (h : (keys t).Nodup) :
    (keys (tremove t k)).Nodup :=
  keys_tremove t k ▸ h.sublist List.filter_sublist

theorem nodup_keys_tinsert {t : List (K × V)} {k : K} {v : V} (h : (keys t).Nodup) :
    (keys (tinsert t k v)).Nodup :=
  List.nodup_cons.2 ⟨fun hm => ((mem_keys_tremove t k k).1 hm).2 rfl, nodup_keys_tremove k h⟩

theorem nodup_keys_tpush {t : List (K × List Nat)} {k : K} {a : Nat} (h : (keys t).Nodup) :
    (keys (tpush t k a)).Nodup := by
  rw [tpush_eq]
  exact nodup_keys_tinsert h

theorem lt_of_getElem? {α} {l : List α} {i : Nat} {a : α} (h : l[i]? = some a) : i < l.length :=
  (List.getElem?_eq_some_iff.1 h).1

theorem lt_of_not_isNone {α} {l : List α} {i : Nat} (h : ¬(l[i]?).isNone = true) : i < l.length := by
  rw [Option.isNone_iff_eq_none, List.getElem?_eq_none_iff, Nat.not_le] at h
  exact h

theorem set_self {α} {l : List α} {i : Nat} {a : α} (h : l[i]? = some a) : l.set i a = l := by
  obtain ⟨hlt, hv⟩ := List.getElem?_eq_some_iff.1 h
  subst hv
  exact List.set_getElem_self hlt

theorem getElem?_set_some {α} {l : List α} {g i : Nat} {a x : α} (h : (l.set g a)[i]? = some x) :
    g = i ∧ x = a ∨ l[i]? = some x := by
  by_cases e : g = i
  · subst e
    rw [List.getElem?_set_self (by simpa using lt_of_getElem? h)] at h
    exact .inl ⟨rfl, (Option.some.inj h).symm⟩
  · rw [List.getElem?_set_ne e] at h
    exact .inr h

theorem getElem?_concat_some {α} {l : List α} {i : Nat} {a x : α} (h : (l ++ [a])[i]? = some x) :
    l[i]? = some x ∨ i = l.length ∧ x = a := by
  by_cases e : i < l.length
  · rw [List.getElem?_append_left e] at h
    exact .inl h
  · have hi := lt_of_getElem? h
    rw [List.length_append, List.length_singleton] at hi
    obtain rfl : i = l.length := by omega
    rw [List.getElem?_concat_length] at h
    exact .inr ⟨rfl, (Option.some.inj h).symm⟩

end CCV.Context
