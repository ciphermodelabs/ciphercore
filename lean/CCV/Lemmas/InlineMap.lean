import CCV.Lemmas.Inline
/-
  Map naturality: a homomorphism `h : α → β` from `(α, f)` to `(β, f')` commutes with every
  depth-optimised prefix/sum algorithm of the inliner (first components only; traces are ignored).
  With it, for states made of independent rows, `iterVia_hom_rows` (at the end): a batched strategy
  whose combiner is, row by row, a homomorphic image in an associative one equals the reference loop.
-/
namespace CCV.Inline

section MapNaturality

variable {α β : Type} (h : α → β) (f : α → α → α) (f' : β → β → β)
  (hom : ∀ a b, h (f a b) = f' (h a) (h b))
include hom

theorem pairUp_map : ∀ (l : List α), (pairUp f' (l.map h)).1 = (pairUp f l).1.map h
  | [] => rfl
  | [_] => rfl
  | a :: b :: rest => by
    simp only [List.map_cons, pairUp, pairUp_map rest, hom]

theorem ldLoop_map : ∀ (fuel : Nat) (c : List α), (ldLoop f' fuel (c.map h)).1 = (ldLoop f fuel c).1.map h
  | 0, _ => rfl
  | fuel + 1, c => by
    unfold ldLoop
    simp only [List.length_map]
    split
    · simp only
      rw [pairUp_map h f f' hom, ldLoop_map fuel]
    · rfl

theorem logDepthSum_map (items : List α) : logDepthSum f' (items.map h) = (logDepthSum f items).map h := by
  unfold logDepthSum logDepthSumT
  cases items with
  | nil => rfl
  | cons a l =>
    simp only [List.length_map]
    simp only [List.map_cons, List.isEmpty_cons, Bool.false_eq_true, if_false]
    rw [← List.map_cons, ldLoop_map h f f' hom, List.head?_map]

theorem baStep_map (depth : Nat) (c : List α) : (baStep f' depth (c.map h)).1 = (baStep f depth c).1.map h := by
  simp only [baStep, List.map_append, List.map_take, List.map_zipWith, hom]
  rw [← List.map_drop, List.zipWith_map]

theorem baLoop_map :
    ∀ (fuel depth : Nat) (c : List α), (baLoop f' fuel depth (c.map h)).1 = (baLoop f fuel depth c).1.map h
  | 0, _, _ => rfl
  | fuel + 1, depth, c => by
    unfold baLoop
    simp only [List.length_map]
    split
    · simp only
      rw [baStep_map h f f' hom, baLoop_map fuel]
    · rfl

theorem prefixBinaryAscent_map (items : List α) :
    prefixBinaryAscent f' (items.map h) = (prefixBinaryAscent f items).map h := by
  unfold prefixBinaryAscent prefixBinaryAscentT
  rw [List.length_map]
  exact baLoop_map h f f' hom _ _ _

theorem sqrtPass1_map (block : Nat) : ∀ (xs : List α) (i : Nat) (prev : α),
      (sqrtPass1 f' block i (h prev) (xs.map h)).1 = (sqrtPass1 f block i prev xs).1.map h
  | [], _, _ => by simp [sqrtPass1]
  | x :: xs, i, prev => by
    by_cases hm : i % block = 0
    · simp only [List.map_cons, sqrtPass1, hm, ne_eq, not_true_eq_false, if_false]
      rw [sqrtPass1_map block xs]
    · simp only [List.map_cons, sqrtPass1, hm, ne_eq, not_false_eq_true, if_true]
      rw [← hom, sqrtPass1_map block xs]

theorem sqrtPass2_map (block : Nat) : ∀ (ys : List α) (i : Nat) (carry prev : α),
      (sqrtPass2 f' block i (h carry) (h prev) (ys.map h)).1
        = (sqrtPass2 f block i carry prev ys).1.map h
  | [], _, _, _ => by simp [sqrtPass2]
  | y :: ys, i, carry, prev => by
    by_cases hlt : i < block
    · simp only [List.map_cons, sqrtPass2, hlt, if_true]
      rw [sqrtPass2_map block ys]
    · by_cases hm : i % block = 0
      · simp only [List.map_cons, sqrtPass2, hlt, hm, if_true, if_false]
        rw [← hom, sqrtPass2_map block ys]
      · simp only [List.map_cons, sqrtPass2, hlt, hm, if_false]
        rw [← hom, sqrtPass2_map block ys]

theorem prefixSqrtBT_map (block : Nat) :
    ∀ (items : List α), (prefixSqrtBT f' block (items.map h)).1 = (prefixSqrtBT f block items).1.map h
  | [] => rfl
  | x :: xs => by
    simp only [List.map_cons, prefixSqrtBT]
    rw [← List.map_cons, sqrtPass1_map h f f' hom, sqrtPass2_map h f f' hom]

theorem prefixSqrt_map (items : List α) : prefixSqrt f' (items.map h) = (prefixSqrt f items).map h := by
  unfold prefixSqrt prefixSqrtT
  rw [List.length_map]
  exact prefixSqrtBT_map h f f' hom _ _

theorem stBuild_map : ∀ (fuel : Nat) (c : List α),
      (stBuild f' fuel (c.map h)).1 = (stBuild f fuel c).1.map (List.map h)
  | 0, _ => rfl
  | fuel + 1, c => by
    unfold stBuild
    simp only [List.length_map]
    split
    · simp only [List.map_cons]
      rw [pairUp_map h f f' hom, stBuild_map fuel]
    · rfl

theorem stDownRest_map : ∀ (l : List α) (p : α) (ups : List α),
      (stDownRest f' (h p) (l.map h) (ups.map h)).1 = (stDownRest f p l ups).1.map h
  | [], _, _ => by simp [stDownRest]
  | [e], _, _ => by simp [stDownRest, hom]
  | e :: e' :: rest, p, [] => by simp [stDownRest, hom]
  | e :: e' :: rest, p, p' :: ups => by
    simp only [List.map_cons, stDownRest, hom]
    rw [stDownRest_map rest p' ups]

theorem stDown_map : ∀ (l ups : List α), (stDown f' (l.map h) (ups.map h)).1 = (stDown f l ups).1.map h
  | [], _ => by simp [stDown]
  | [e], _ => by simp [stDown]
  | e0 :: e1 :: rest, [] => by simp [stDown]
  | e0 :: e1 :: rest, p0 :: ups => by
    simp only [List.map_cons, stDown]
    rw [stDownRest_map h f f' hom rest p0 ups]

theorem stDescend_map : ∀ (ls : List (List α)), (stDescend f' (ls.map (List.map h))).1 = (stDescend f ls).1.map h
  | [] => rfl
  | [_] => rfl
  | l :: r :: rs => by
    simp only [List.map_cons, stDescend]
    rw [← List.map_cons, stDescend_map (r :: rs), stDown_map h f f' hom]

theorem prefixSegmentTree_map (items : List α) :
    prefixSegmentTree f' (items.map h) = (prefixSegmentTree f items).map h := by
  unfold prefixSegmentTree prefixSegmentTreeT
  cases items with
  | nil => rfl
  | cons a l =>
    simp only [List.length_map]
    simp only [List.map_cons, List.isEmpty_cons, Bool.false_eq_true, if_false]
    rw [← List.map_cons, stBuild_map h f f' hom, stDescend_map h f f' hom]

theorem pick_map (level : Level) (n : Nat) (items : List α) :
    pick level n f' (items.map h) = (pick level n f items).map h := by
  unfold pick pickT
  cases level with
  | extreme => exact prefixBinaryAscent_map h f f' hom items
  | default =>
    simp only
    split
    · exact prefixSqrt_map h f f' hom items
    · exact prefixSegmentTree_map h f f' hom items

end MapNaturality

section
variable {α β : Type} (h : α → β) (f : α → α → α) (f' : β → β → β)

theorem scanAux_map (hom : ∀ a b, h (f a b) = f' (h a) (h b)) :
    ∀ (xs : List α) (acc : α), scanAux f' (h acc) (xs.map h) = (scanAux f acc xs).map h
  | [], _ => rfl
  | x :: xs, acc => by
    simp only [List.map_cons, scanAux, hom]
    rw [← hom, scanAux_map hom xs]

theorem scanl1_map (hom : ∀ a b, h (f a b) = f' (h a) (h b)) (items : List α) :
    scanl1 f' (items.map h) = (scanl1 f items).map h := by
  cases items with
  | nil => rfl
  | cons x xs => simp only [List.map_cons, scanl1, scanAux_map h f f' hom]

theorem foldl_map_hom (hom : ∀ a b, h (f a b) = f' (h a) (h b)) :
    ∀ (xs : List α) (acc : α), (xs.map h).foldl f' (h acc) = h (xs.foldl f acc)
  | [], _ => rfl
  | x :: xs, acc => by
    simp only [List.map_cons, List.foldl_cons]
    rw [← hom, foldl_map_hom hom xs]

theorem sumO_map (hom : ∀ a b, h (f a b) = f' (h a) (h b)) (items : List α) :
    sumO f' (items.map h) = (sumO f items).map h := by
  cases items with
  | nil => rfl
  | cons x xs => simp only [List.map_cons, sumO, Option.map_some, foldl_map_hom h f f' hom]

end

/-! ### states made of independent rows

  A state `S` (satisfying `WF`) is read through rows `row i S`, `i` ranging over `V`; a step acts on
  row `i` as `step' i`.  In the two extensionality lemmas `e i p` is what the mapping `p` does to row `i`
  of the initial state, and the hypothesis `hext` says that the extraction `ext p` is determined by the
  rows; `hV` (there is a row) rules out that an empty family of rows lets `none` and `some` agree. -/

section Rows
variable {ι S S' M I : Type} {V : ι → Prop} {WF : S → Prop} {row : ι → S → S'}
  {step : S → I → S} {step' : ι → S' → I → S'} {ext : M → S} {e : ι → M → S'}

theorem stepScan_WF (hwf : ∀ S x, WF S → WF (step S x)) : ∀ (xs : List I) (s : S), WF s →
    ∀ T ∈ stepScan step s xs, WF T
  | [], _, _, _, h => nomatch h
  | x :: xs, s, hs, T, h => by
    rcases List.mem_cons.mp h with rfl | h
    · exact hwf s x hs
    · exact stepScan_WF hwf xs _ (hwf s x hs) T h

theorem stepScan_row (hwf : ∀ S x, WF S → WF (step S x))
    (hrow : ∀ i S x, V i → WF S → row i (step S x) = step' i (row i S) x) {i : ι} (hi : V i) :
    ∀ (xs : List I) (s : S), WF s → (stepScan step s xs).map (row i) = stepScan (step' i) (row i s) xs
  | [], _, _ => rfl
  | x :: xs, s, hs => by
    simp only [stepScan, List.map_cons]
    rw [stepScan_row hwf hrow hi xs _ (hwf s x hs), hrow i s x hi hs]

theorem option_ext_rows (hV : ∃ i, V i)
    (hext : ∀ p T, WF T → (∀ i, V i → e i p = row i T) → ext p = T) {o : Option M} {To : Option S}
    (hT : ∀ T, To = some T → WF T) (h : ∀ i, V i → o.map (e i) = To.map (row i)) : o.map ext = To := by
  obtain ⟨i0, h0⟩ := hV
  cases o with
  | none =>
    cases To with
    | none => rfl
    | some T => cases h i0 h0
  | some p =>
    cases To with
    | none => cases h i0 h0
    | some T => exact congrArg some (hext p T (hT T rfl) fun i hi => Option.some.inj (h i hi))

theorem list_ext_rows (hV : ∃ i, V i)
    (hext : ∀ p T, WF T → (∀ i, V i → e i p = row i T) → ext p = T) {ps : List M} {Ts : List S}
    (hT : ∀ T ∈ Ts, WF T) (h : ∀ i, V i → ps.map (e i) = Ts.map (row i)) : ps.map ext = Ts := by
  apply List.ext_getElem?
  intro n
  rw [List.getElem?_map]
  apply option_ext_rows hV hext (fun T hn => hT T (List.mem_of_getElem? hn))
  intro i hi
  rw [← List.getElem?_map, ← List.getElem?_map, h i hi]

/-- a row body has no output of its own: `u` fills the place -/
theorem iterRef_row {O O' : Type} (G : S → I → S × O) (hwf : ∀ S x, WF S → WF (G S x).1)
    (hrow : ∀ i S x, V i → WF S → row i (G S x).1 = step' i (row i S) x) (u : O') {i : ι} (hi : V i)
    (s : S) (hs : WF s) (xs : List I) :
    row i (iterRef G s xs).1 = (iterRef (fun st x => (step' i st x, u)) (row i s) xs).1 := by
  rw [iterRef_closed, iterRef_closed, ← Option.getD_map (row i), ← List.getLast?_map,
    stepScan_row (step := fun a b => (G a b).1) hwf hrow hi xs s hs]

end Rows

/-- `iterVia_ref` row by row, for a combiner that need not be associative itself: reading row `i` of a
    mapping (`hm i`) is a homomorphism to an associative combiner on rows, and `e' i` extracts from the
    row of a mapping the row of the state -/
theorem iterVia_hom_rows {ι S S' M M' I O : Type} {V : ι → Prop} {WF : S → Prop} {row : ι → S → S'}
    {step' : ι → S' → I → S'} {ext : M → S} {emptyOut : Bool} {unit : O}
    (hu : emptyOut = true → ∀ o : O, o = unit) (G : S → I → S × O) (hV : ∃ i, V i)
    (hwf : ∀ S x, WF S → WF (G S x).1)
    (hrow : ∀ i S x, V i → WF S → row i (G S x).1 = step' i (row i S) x)
    {comb : M → M → M} {comb' : M' → M' → M'} (hassoc : Assoc comb') {hm : ι → M → M'}
    (hhom : ∀ i, V i → ∀ a b, hm i (comb a b) = comb' (hm i a) (hm i b)) {e' : ι → M' → S'}
    (hext : ∀ p T, WF T → (∀ i, V i → e' i (hm i p) = row i T) → ext p = T) (dflt : M) (ms : List M)
    (s : S) (hs : WF s) (xs : List I)
    (hL : ∀ i, V i → (scanl1 comb' (ms.map (hm i))).map (e' i) = stepScan (step' i) (row i s) xs)
    (level : Level) (n : Nat) :
    iterVia emptyOut unit G ext dflt (logDepthSum comb ms) (pick level n comb ms) s xs = iterRef G s xs := by
  have hW := stepScan_WF (step := fun a b => (G a b).1) hwf xs s hs
  have hR := fun i hi => stepScan_row (step := fun a b => (G a b).1) hwf hrow (i := i) hi xs s hs
  have h := fun i hi => algs_ext hassoc ((hL i hi).trans (hR i hi).symm) level n
  apply iterVia_ref hu
  · apply list_ext_rows hV hext hW
    intro i hi
    rw [← (h i hi).1, pick_map (hm i) comb comb' (hhom i hi), List.map_map]
    rfl
  · apply option_ext_rows hV hext (fun T hl => hW T (List.mem_of_getLast? hl))
    intro i hi
    rw [← List.getLast?_map, ← (h i hi).2, logDepthSum_map (hm i) comb comb' (hhom i hi), Option.map_map]
    rfl

end CCV.Inline
