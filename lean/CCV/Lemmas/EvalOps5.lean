import CCV.Lemmas.EvalOps4
/-
  Value-level half of C09, GetSlice totality:
  the two models of slices.rs — the `CCV.TI` copy used by the typing rule (`infer (.getSlice sl)`) and
  the `CCV.Slices` copy used by the evaluator model (`Ops.getSlice`) — agree on every accepted slice
  (`get_clean_slice`, `get_slice_shape`), and on an accepted slice the evaluator loop of
  `Ops.getSlice` never fails.
-/
namespace CCV.EvalOps
open CCV CCV.TV CCV.Shape
open CCV.TI hiding prod broadcastShapes transposeShape

theorem toSE_beq_ellipsis (x : SliceEl) : (toSE x == Slices.SE.ellipsis) = (x == SliceEl.ellipsis) := by
  cases x <;> rfl

/-- the expansion step of `Slices.getCleanSlice` -/
def padF (n : Nat) : Slices.SE → List Slices.SE :=
  fun x => if x == Slices.SE.ellipsis then List.replicate n (Slices.SE.sub none none none) else [x]

theorem cleanGo_agree (rank len : Nat) : ∀ (sl clean : List SliceEl), cleanGo rank len sl = .ok clean →
    clean.map toSE = (sl.map toSE).flatMap (padF ((rank : Int) - (len : Int) + 1).toNat) ∧
    ((sl.map toSE).any (· == Slices.SE.ellipsis) = true → ¬ ((rank : Int) - (len : Int) + 1 < 0))
  | [], clean, h => by
    cases h
    exact ⟨rfl, fun h => nomatch h⟩
  | .ellipsis :: xs, clean, h => by
    obtain ⟨hpad, h1⟩ := of_ite_error h
    cases hr : cleanGo rank len xs with
    | error e => rw [hr] at h1; cases h1
    | ok r =>
      rw [hr] at h1
      cases h1
      refine ⟨?_, fun _ => hpad⟩
      have e : rank + 1 - len = ((rank : Int) - (len : Int) + 1).toNat := by omega
      rw [List.map_append, List.map_replicate, (cleanGo_agree rank len xs r hr).1, e]
      rfl
  | .single i :: xs, clean, h => by
    cases hr : cleanGo rank len xs with
    | error e => simp only [cleanGo, hr] at h; cases h
    | ok r =>
      simp only [cleanGo, hr] at h
      cases h
      exact ⟨congrArg (toSE (.single i) :: ·) (cleanGo_agree rank len xs r hr).1, (cleanGo_agree rank len xs r hr).2⟩
  | .sub b e s :: xs, clean, h => by
    cases hr : cleanGo rank len xs with
    | error e => simp only [cleanGo, hr] at h; cases h
    | ok r =>
      simp only [cleanGo, hr] at h
      cases h
      exact ⟨congrArg (toSE (.sub b e s) :: ·) (cleanGo_agree rank len xs r hr).1, (cleanGo_agree rank len xs r hr).2⟩

theorem filter_ellipsis_length (sl : List SliceEl) :
    ((sl.map toSE).filter (· == Slices.SE.ellipsis)).length = (sl.filter (fun x => x == SliceEl.ellipsis)).length := by
  induction sl with
  | nil => rfl
  | cons x xs ih =>
    simp only [List.map_cons, List.filter_cons, toSE_beq_ellipsis]
    split <;> simp [ih]

theorem getCleanSlice_agree {rank : Nat} {sl clean : List SliceEl} (h : TI.getCleanSlice rank sl = .ok clean) :
    Slices.getCleanSlice rank (sl.map toSE) = .ok (clean.map toSE) := by
  unfold TI.getCleanSlice at h
  split at h; · cases h
  rename_i hmult
  cases hg : cleanGo rank sl.length sl with
  | error e => rw [hg] at h; cases h
  | ok r =>
    rw [hg] at h
    simp only [] at h
    split at h; · cases h
    rename_i hlong
    injection h with h; subst h
    obtain ⟨i1, i2⟩ := cleanGo_agree rank sl.length sl r hg
    unfold Slices.getCleanSlice
    rw [if_neg (by rw [filter_ellipsis_length]; exact hmult)]
    simp only [List.length_map]
    rw [if_neg (fun hc => i2 hc.1 hc.2)]
    have e : ((sl.map toSE).flatMap fun x =>
        if x == Slices.SE.ellipsis then
          List.replicate ((rank : Int) - (sl.length : Int) + 1).toNat (Slices.SE.sub none none none)
        else [x]) = r.map toSE := i1.symm
    rw [e]
    rw [if_neg (by simpa using hlong)]

theorem sliceLoop_eq_countLoop (dim : Nat) (e s : Int) : ∀ (fuel : Nat) (cur : Int) (cnt : Nat),
    sliceLoop dim e s fuel cur cnt = Slices.countLoop dim e s fuel cur cnt
  | 0, _, _ => rfl
  | fuel + 1, cur, cnt => by
    simp only [sliceLoop, Slices.countLoop]
    split
    · rfl
    · split
      · rfl
      · exact sliceLoop_eq_countLoop dim e s fuel _ _

theorem sliceShape1d_agree {d : Nat} {el : SliceEl} {r : Option Nat} (h : sliceShape1d d el = .ok r) :
    Slices.getSliceShape1d d (toSE el) = .ok r := by
  cases el with
  | single i =>
    simp only [sliceShape1d] at h
    simp only [toSE, Slices.getSliceShape1d]
    exact h
  | sub b e s =>
    simp only [sliceShape1d] at h
    simp only [toSE, Slices.getSliceShape1d]
    have en : Slices.normalizeSubarray d b e s = normalizeSub d b e s := rfl
    rw [en]
    cases hn : normalizeSub d b e s with
    | error m => rw [hn] at h; cases h
    | ok tr =>
      obtain ⟨bg, en_, sp⟩ := tr
      rw [hn] at h
      simp only [] at h ⊢
      rw [← sliceLoop_eq_countLoop]
      cases hl : sliceLoop d en_ sp (d + 1) bg 0 with
      | error m => rw [hl] at h; cases h
      | ok c =>
        rw [hl] at h
        simp only [] at h ⊢
        cases c with
        | zero => simp at h
        | succ c => simpa using h
  | ellipsis => simp [sliceShape1d] at h

theorem sliceShapeGo_agree : ∀ (shape : List Nat) (clean : List SliceEl) (rs : List Nat),
    sliceShapeGo shape clean = .ok rs → Slices.sliceShapeLoop shape (clean.map toSE) = .ok rs
  | [], _, rs, h => by
    simp only [sliceShapeGo] at h
    simp only [Slices.sliceShapeLoop]
    exact h
  | d :: ds, [], rs, h => by
    simp only [sliceShapeGo] at h
    cases hr : sliceShapeGo ds [] with
    | error e => rw [hr] at h; cases h
    | ok r =>
      rw [hr] at h
      injection h with h; subst h
      have := sliceShapeGo_agree ds [] r hr
      simp only [List.map_nil] at this
      simp only [List.map_nil, Slices.sliceShapeLoop, this]
      rfl
  | d :: ds, el :: els, rs, h => by
    simp only [sliceShapeGo] at h
    cases h1 : sliceShape1d d el with
    | error e => rw [h1] at h; cases h
    | ok r1 =>
      rw [h1] at h
      have a1 := sliceShape1d_agree h1
      cases r1 with
      | none =>
        simp only [] at h
        have := sliceShapeGo_agree ds els rs h
        simp only [List.map_cons, Slices.sliceShapeLoop, a1, this]
      | some c =>
        simp only [] at h
        cases hr : sliceShapeGo ds els with
        | error e => rw [hr] at h; cases h
        | ok r =>
          rw [hr] at h
          injection h with h; subst h
          have := sliceShapeGo_agree ds els r hr
          simp only [List.map_cons, Slices.sliceShapeLoop, a1, this]

theorem getSliceShape_agree {shape : List Nat} {sl : List SliceEl} {rs : List Nat}
    (h : TI.getSliceShape shape sl = .ok rs) :
    ∃ clean, Slices.getCleanSlice shape.length (sl.map toSE) = .ok clean ∧
      Slices.sliceShapeLoop shape clean = .ok rs ∧ Slices.getSliceShape shape (sl.map toSE) = .ok rs := by
  unfold TI.getSliceShape at h
  cases hc : TI.getCleanSlice shape.length sl with
  | error e => rw [hc] at h; cases h
  | ok clean =>
    rw [hc] at h
    simp only [] at h
    have a1 := getCleanSlice_agree hc
    have a2 := sliceShapeGo_agree shape clean rs h
    refine ⟨clean.map toSE, a1, a2, ?_⟩
    unfold Slices.getSliceShape
    rw [a1]
    exact a2

/-- scalar result (every axis is consumed by a single index): the index loop reads no result digit -/
theorem sliceIndexLoop_scalar : ∀ (shape : List Nat) (clean : List Slices.SE) (idx : List Nat) (j : Nat),
    Slices.sliceShapeLoop shape clean = .ok [] → ∃ r, Slices.sliceIndexLoop shape clean idx j = .ok (r, j)
  | [], _, idx, j, _ => ⟨[], by simp [Slices.sliceIndexLoop]⟩
  | d :: ds, [], idx, j, h => by
    simp only [Slices.sliceShapeLoop] at h
    cases hr : Slices.sliceShapeLoop ds [] with
    | error m => rw [hr] at h; cases h
    | ok rest => rw [hr] at h; cases h
  | d :: ds, se :: ses, idx, j, h => by
    simp only [Slices.sliceShapeLoop] at h
    cases h1 : Slices.getSliceShape1d d se with
    | error m => rw [h1] at h; cases h
    | ok r =>
      cases hrest : Slices.sliceShapeLoop ds ses with
      | error m => rw [h1, hrest] at h; cases h
      | ok rest =>
        rw [h1, hrest] at h
        cases se with
        | ellipsis => simp [Slices.getSliceShape1d] at h1
        | single i =>
          have hr := Slices.getSliceShape1d_single_none d i r h1
          subst hr
          simp only [] at h
          injection h with h; subst h
          obtain ⟨r', hr'⟩ := sliceIndexLoop_scalar ds ses idx j hrest
          have hrange := (Slices.single_spec d i).mp h1
          have hreal : ¬ ((if 0 ≤ i then i else i + (d : Int)) < 0) := by split <;> omega
          refine ⟨(if 0 ≤ i then i else i + (d : Int)).toNat :: r', ?_⟩
          simp only [Slices.sliceIndexLoop, if_neg hreal, hr']
        | sub b e s =>
          obtain ⟨c, hr⟩ := Slices.getSliceShape1d_sub_some d b e s r h1
          subst hr
          simp only [] at h
          injection h with h
          cases h

theorem mapM_ok_of_forall {α : Type} (f : α → Except String Nat) : ∀ (l : List α),
    (∀ a ∈ l, ∃ b, f a = .ok b) → ∃ r, l.mapM f = .ok r
  | [], _ => ⟨[], rfl⟩
  | a :: l, h => by
    obtain ⟨b, hb⟩ := h a (by simp)
    obtain ⟨r, hr⟩ := mapM_ok_of_forall f l (fun x hx => h x (by simp [hx]))
    exact ⟨b :: r, by rw [List.mapM_cons, hb, hr]; rfl⟩

theorem getSlice_total (shape xs : List Nat) (sl : List Slices.SE) (rs : List Nat) (st : ST)
    (hs : Slices.getSliceShape shape sl = .ok rs) (hp : pos rs) :
    ∃ r, Ops.getSlice shape xs sl (dimsE (arrOrScalar rs st)) = .ok r := by
  unfold Ops.getSlice
  apply mapM_ok_of_forall
  intro i hi
  have hi := List.mem_range.mp hi
  unfold Slices.getSliceShape at hs
  cases hc : Slices.getCleanSlice shape.length sl with
  | error m => rw [hc] at hs; cases hs
  | ok clean =>
    rw [hc] at hs
    simp only [] at hs
    have key : ∃ di, Slices.sliceIndex shape sl (numberToIndex i (dimsE (arrOrScalar rs st))) = .ok di := by
      unfold Slices.sliceIndex
      rw [hc]
      simp only []
      cases rs with
      | nil =>
        obtain ⟨r, hr⟩ := sliceIndexLoop_scalar shape clean (numberToIndex i (dimsE (arrOrScalar [] st))) 0 hs
        rw [hr]
        have hi0 : i = 0 := by
          simp only [arrOrScalar, List.isEmpty_nil, if_true, dimsE, prod, Nat.mul_one] at hi
          omega
        subst hi0
        have e : numberToIndex 0 (dimsE (arrOrScalar [] st)) = [0] := by
          simp [arrOrScalar, dimsE, numberToIndex, n2iAux, prod]
        rw [e]
        exact ⟨r, by simp⟩
      | cons d ds =>
        have e : dimsE (arrOrScalar (d :: ds) st) = d :: ds := rfl
        rw [e] at hi ⊢
        have hJ := numberToIndex_valid hp hi
        obtain ⟨i1, _⟩ := Slices.sliceLoops_spec shape clean (d :: ds) _ 0 hs hJ
        rw [i1]
        simp only [Nat.zero_add]
        refine ⟨Slices.specIndex shape clean (numberToIndex i (d :: ds)), ?_⟩
        split
        · rfl
        · simp
    obtain ⟨di, hdi⟩ := key
    exact ⟨_, by rw [hdi]⟩

end CCV.EvalOps
