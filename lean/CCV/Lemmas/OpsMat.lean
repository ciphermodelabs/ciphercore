import CCV.Model.Ops
import CCV.Model.Spec
import CCV.Lemmas.Shape
import CCV.Lemmas.Kernels
import CCV.Lemmas.Blocks
/-
  Arithmetic with broadcasting, MixedMultiply, the accumulation loop of Dot / Matmul / Gemm
  (`dotFold_range_spec`) and Matmul with broadcast batch dimensions:
  the evaluator-shaped model `CCV.Ops` computes the NumPy-style index semantics `CCV.Spec`.
-/
namespace CCV.Ops
open CCV CCV.Shape

theorem ext_zero (st : ST) : ext st 0 = 0 := by
  unfold ext
  split
  · rename_i h
    have : 0 < 2 ^ (st.bits - 1) := Nat.pow_pos (by decide)
    omega
  · rfl

theorem getD_map_ext (st : ST) (xs : List Nat) (k : Nat) :
    (xs.map (ext st)).getD k 0 = ext st (xs.getD k 0) :=
  getD_map_zero _ (ext_zero st) xs k

theorem getD_map_low (st : ST) (r : List Nat) (p : Nat) :
    (r.map (low st)).getD p 0 = low st (r.getD p 0) :=
  getD_map_zero (low st) (Nat.zero_mod _) r p

theorem zipK_ok (f : Nat → Nat → Option Nat → Nat) (a b : List Nat) (m : Option Nat)
    (h : a.length = b.length) : zipK f a b m = .ok (List.zipWith (fun x y => f x y m) a b) := by
  simp [zipK, h]

def Arith.int : Arith → Int → Int → Int
  | .add => (· + ·) | .sub => (· - ·) | .mul => (· * ·)

theorem arith_kernel (op : Arith) (st : ST) (a b : Nat) :
    low st (op.kernel (ext st a) (ext st b) (modulus st)) = st.ofInt (op.int (st.toInt a) (st.toInt b)) := by
  cases op
  · exact add_kernel st a b
  · exact sub_kernel st a b
  · exact mul_kernel st a b

/-- the shape shared by `arith` and `mixedMultiply` -/
theorem bcZip_spec (k : Nat → Nat → Option Nat → Nat) (st : ST) (s1 as s2 bs sr : List Nat)
    (h1 : bcOK s1 sr) (h2 : bcOK s2 sr) :
    ∃ r, (match zipK k (broadcastToShape as s1 sr) (broadcastToShape bs s2 sr) (modulus st) with
        | .error e => Except.error e
        | .ok r => Except.ok (r.map (low st))) = .ok r ∧ r.length = prod sr ∧
      ∀ I, validIdx I sr → r.getD (flat I sr) 0
        = low st (k (as.getD (flat (bcIdx s1 I) s1) 0) (bs.getD (flat (bcIdx s2 I) s2) 0) (modulus st)) := by
  have hl : (broadcastToShape as s1 sr).length = (broadcastToShape bs s2 sr).length := by
    rw [broadcastToShape_length, broadcastToShape_length]
  refine ⟨(List.zipWith (fun x y => k x y (modulus st))
    (broadcastToShape as s1 sr) (broadcastToShape bs s2 sr)).map (low st), ?_, ?_, ?_⟩
  · simp only [zipK_ok _ _ _ _ hl]
  · simp only [List.length_map, List.length_zipWith, broadcastToShape_length, Nat.min_self]
  · intro I hI
    have hlt := flat_lt hI
    rw [getD_map_low, getD_zipWith _ _ _ _ (by rw [broadcastToShape_length]; exact hlt)
      (by rw [broadcastToShape_length]; exact hlt),
      broadcastToShape_getD _ h1 hI, broadcastToShape_getD _ h2 hI]

/-- Add / Subtract / Multiply with NumPy broadcasting, all 11 scalar types, all shapes, all values. -/
theorem arith_spec (op : Arith) (st : ST) (s1 xs s2 ys sr : List Nat) (h1 : bcOK s1 sr) (h2 : bcOK s2 sr) :
    ∃ r, arith op st s1 xs s2 ys sr = .ok r ∧ r.length = prod sr ∧
      ∀ I, validIdx I sr →
        r.getD (flat I sr) 0 = Spec.arith st op.int (Spec.ofFlat s1 xs) s1 (Spec.ofFlat s2 ys) s2 I := by
  obtain ⟨r, hr, hlen, hget⟩ := bcZip_spec op.kernel st s1 (xs.map (ext st)) s2 (ys.map (ext st)) sr h1 h2
  refine ⟨r, hr, hlen, fun I hI => ?_⟩
  rw [hget I hI, getD_map_ext, getD_map_ext, arith_kernel]
  rfl

example : arith .sub .i8 [3] [1, 2, 3] [2, 1] [5, 250] [2, 3] = .ok [252, 253, 254, 7, 8, 9] := by rfl

example : arith .mul .u128 [1] [2 ^ 127 + 1] [2] [2, 3] [2] = .ok [2, 2 ^ 127 + 3] := by rfl

theorem mixedMultiply_spec (st : ST) (s1 xs s2 bits sr : List Nat) (h1 : bcOK s1 sr) (h2 : bcOK s2 sr) :
    ∃ r, mixedMultiply st s1 xs s2 bits sr = .ok r ∧ r.length = prod sr ∧
      ∀ I, validIdx I sr →
        r.getD (flat I sr) 0 = Spec.mixedMultiply st (Spec.ofFlat s1 xs) s1 (Spec.ofFlat s2 bits) s2 I := by
  obtain ⟨r, hr, hlen, hget⟩ := bcZip_spec mulU128 st s1 (xs.map (ext st)) s2 bits sr h1 h2
  refine ⟨r, hr, hlen, fun I hI => ?_⟩
  rw [hget I hI, getD_map_ext, mixed_mul_kernel]
  rfl

example : mixedMultiply .i16 [2, 2] [65535, 7, 9, 65000] [2] [1, 0] [2, 2] = .ok [65535, 0, 9, 0] := by
  rfl

theorem dotFold_range_spec (st : ST) (K : Nat) (p q P Q : Nat → Nat)
    (hp : ∀ k, k < K → p k = ext st (P k)) (hq : ∀ k, k < K → q k = ext st (Q k)) :
    low st (dotFold addU128 mulU128 (modulus st) ((List.range K).map fun k => (p k, q k)))
      = st.ofInt (Spec.sumTo K fun k => st.toInt (P k) * st.toInt (Q k)) := by
  have h : (List.range K).map (fun k => (p k, q k))
      = ((List.range K).map fun k => (P k, Q k)).map fun r => (ext st r.1, ext st r.2) := by
    rw [List.map_map]
    apply List.map_congr_left
    intro k hk
    rw [Function.comp, hp k (List.mem_range.mp hk), hq k (List.mem_range.mp hk)]
  rw [h, dotFold_spec, List.map_map]
  rfl

theorem dotAcc_spec' (st : ST) (xs ys : List Nat) (f0 f1 g0 g1 : Nat → Nat) (K : Nat)
    (h0 : ∀ k, k < K → f0 k = g0 k) (h1 : ∀ k, k < K → f1 k = g1 k) :
    low st (dotAcc (modulus st) (xs.map (ext st)) (ys.map (ext st)) f0 f1 K)
      = st.ofInt (Spec.sumTo K fun k => st.toInt (xs.getD (g0 k) 0) * st.toInt (ys.getD (g1 k) 0)) :=
  dotFold_range_spec st K _ _ (fun k => xs.getD (g0 k) 0) (fun k => ys.getD (g1 k) 0)
    (fun k hk => by rw [getD_map_ext, h0 k hk]) (fun k hk => by rw [getD_map_ext, h1 k hk])

theorem dotAcc_spec (st : ST) (xs ys : List Nat) (f0 f1 : Nat → Nat) (K : Nat) :
    low st (dotAcc (modulus st) (xs.map (ext st)) (ys.map (ext st)) f0 f1 K)
      = st.ofInt (Spec.sumTo K fun k => st.toInt (xs.getD (f0 k) 0) * st.toInt (ys.getD (f1 k) 0)) :=
  dotAcc_spec' st xs ys f0 f1 f0 f1 K (fun _ _ => rfl) (fun _ _ => rfl)

example : low .i8 (dotAcc (modulus .i8) ([255, 3].map (ext .i8)) ([2, 252].map (ext .i8)) id id 2) = 242 := by
  decide

set_option linter.unusedVariables false in
/-- Matmul of two arrays of rank ≥ 2 with broadcast batch dimensions (NumPy matmul)
    (`hK` is not used) -/
theorem matmul_spec (st : ST) (ba bb br xs ys : List Nat) (N K M : Nat)
    (ha : bcOK ba br) (hb : bcOK bb br) (hK : 0 < K)
    (β : List Nat) (i j : Nat) (hβ : validIdx β br) (hi : i < N) (hj : j < M) :
    (matmul st (ba ++ [N, K]) xs (bb ++ [K, M]) ys (br ++ [N, M])).getD (flat (β ++ [i, j]) (br ++ [N, M])) 0
      = st.ofInt (Spec.sumTo K fun k =>
          st.toInt (Spec.ofFlat (ba ++ [N, K]) xs (bcIdx ba β ++ [i, k])) *
          st.toInt (Spec.ofFlat (bb ++ [K, M]) ys (bcIdx bb β ++ [k, j]))) := by
  have hv : validIdx (β ++ [i, j]) (br ++ [N, M]) := validIdx_append hβ (validIdx_pair hi hj)
  have hle : ∀ s : List Nat, br.length - s.length ≤ β.length := fun s =>
    validIdx_length hβ ▸ Nat.sub_le _ _
  have h0 := length_append_pair_ne_one ba N K
  have hne : ¬ ((ba ++ [N, K]).length = 1 ∧ (bb ++ [K, M]).length = 1) := fun h => h0 h.1
  simp only [matmul, if_neg hne, if_neg h0, if_neg (length_append_pair_ne_one bb K M)]
  rw [getD_map_range _ _ _ (flat_lt hv)]
  simp only [numberToIndex_flat hv, length_append_pair, (getD_append_pair bb K M).1,
    Nat.add_sub_add_right, Nat.add_sub_cancel, Nat.add_one_sub_one,
    List.drop_append_of_le_length (hle _)]
  unfold Spec.ofFlat
  refine dotAcc_spec' st xs ys _ _ (fun k => flat (bcIdx ba β ++ [i, k]) (ba ++ [N, K]))
    (fun k => flat (bcIdx bb β ++ [k, j]) (bb ++ [K, M])) K ?_ ?_
  · intro k hk
    rw [take_append_pair _ _ (bcDrop_length ha hβ)]
    exact broadcast_index_law_append ha hβ (validIdx_pair hi hk)
  · intro k hk
    rw [set_append_pair _ _ (bcDrop_length hb hβ)]
    exact broadcast_index_law_append hb hβ (validIdx_pair hk hj)

example : matmul .i8 [1, 2, 2] [1, 255, 2, 3] [2, 2, 1] [5, 254, 1, 1] [2, 2, 1] = [7, 4, 0, 5] := by decide

end CCV.Ops
