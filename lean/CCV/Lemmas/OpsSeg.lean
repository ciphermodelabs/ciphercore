import CCV.Model.OpsExt
import CCV.Model.Spec
import CCV.Lemmas.Kernels
import CCV.Lemmas.OpsMat
/-!
  `SegmentCumSum`: the append loop of the evaluator computes the documented iteration
  `output[0] = v`, `output[i+1] = A[i] + B[i]·output[i]` (mod 2^w), and the iteration is the sum of
  the input rows since the last segment start (plus the first row when no segment has started).
-/
namespace CCV.Ops
open CCV

theorem sumFrom_succ_of_le (s i : Nat) (a : Nat → Int) (h : s ≤ i) :
    Spec.sumFrom s (i + 1) a = Spec.sumFrom s i a + a i := by
  unfold Spec.sumFrom
  rw [List.range_succ, List.filter_append, List.map_append, List.sum_append]
  simp [h]

theorem sumFrom_self (i : Nat) (a : Nat → Int) : Spec.sumFrom i i a = 0 := by
  unfold Spec.sumFrom
  have : (List.range i).filter (fun x => decide (i ≤ x)) = [] := by
    apply List.filter_eq_nil_iff.mpr
    intro x hx
    have := List.mem_range.mp hx
    simp; omega
  rw [this]; rfl

theorem segIter_all_ones (a : Nat → Int) (b : Nat → Nat) (v : Int) (i : Nat)
    (h : ∀ k, k < i → b k = 1) : Spec.segIter a b v i = v + Spec.sumFrom 0 i a := by
  induction i with
  | zero => simp [Spec.segIter, Spec.sumFrom]
  | succ i ih =>
    rw [Spec.segIter, h i (Nat.lt_succ_self i), ih (fun k hk => h k (Nat.lt_succ_of_lt hk)),
      sumFrom_succ_of_le 0 i a (Nat.zero_le i)]
    omega

theorem segIter_segment (a : Nat → Int) (b : Nat → Nat) (v : Int) (s i : Nat) (hs : s < i)
    (h0 : b s = 0) (h1 : ∀ k, s < k → k < i → b k = 1) :
    Spec.segIter a b v i = Spec.sumFrom s i a := by
  induction i with
  | zero => omega
  | succ i ih =>
    rw [Spec.segIter]
    by_cases hsi : s = i
    · subst hsi
      rw [h0, sumFrom_succ_of_le s s a (Nat.le_refl s), sumFrom_self]
      simp
    · have hlt : s < i := by omega
      rw [h1 i hlt (Nat.lt_succ_self i), ih hlt (fun k hk hki => h1 k hk (Nat.lt_succ_of_lt hki)),
        sumFrom_succ_of_le s i a (Nat.le_of_lt hlt)]
      omega

theorem segStep_getD_old (m : Option Nat) (R : Nat) (inp bits res : List Nat) (i p : Nat)
    (hp : p < res.length) : (segStep m R inp bits res i).getD p 0 = res.getD p 0 := by
  unfold segStep
  simp only [List.getD_eq_getElem?_getD]
  rw [List.getElem?_append_left hp]

theorem segStep_getD_new (m : Option Nat) (R : Nat) (inp bits res : List Nat) (i j : Nat) (hj : j < R)
    (hinp : i * R + R ≤ inp.length) (hres : i * R + R ≤ res.length) :
    (segStep m R inp bits res i).getD (res.length + j) 0
      = if bits.getD i 0 = 0 then inp.getD (i * R + j) 0
        else addU128 (inp.getD (i * R + j) 0) (res.getD (i * R + j) 0) m := by
  unfold segStep
  simp only []
  rw [List.getD_eq_getElem?_getD, List.getElem?_append_right (Nat.le_add_right _ _),
    Nat.add_sub_cancel_left, ← List.getD_eq_getElem?_getD]
  split
  · exact slice_getD _ _ _ _ hj
  · rw [getD_zipWith _ _ _ _ (by rw [slice_length _ _ _ hinp]; exact hj)
      (by rw [slice_length _ _ _ hres]; exact hj), slice_getD _ _ _ _ hj, slice_getD _ _ _ _ hj]

theorem segStep_length (m : Option Nat) (R : Nat) (inp bits res : List Nat) (i : Nat)
    (hinp : i * R + R ≤ inp.length) (hres : i * R + R ≤ res.length) :
    (segStep m R inp bits res i).length = res.length + R := by
  unfold segStep
  simp only []
  rw [List.length_append]
  split
  · rw [slice_length _ _ _ hinp]
  · rw [List.length_zipWith, slice_length _ _ _ hinp, slice_length _ _ _ hres, Nat.min_self]

theorem seg_loop_inv (st : ST) (R : Nat) (xs bits first : List Nat) (hx : xs.length = bits.length * R)
    (hf : first.length = R) (hb : ∀ x ∈ bits, x < 2) (k : Nat) (hk : k ≤ bits.length) :
    let res := (List.range k).foldl (segStep (modulus st) R (xs.map (ext st)) bits) (first.map (ext st))
    res.length = (k + 1) * R ∧
    ∀ i j, i ≤ k → j < R →
      ((res.getD (i * R + j) 0 : Nat) : Int) % ((2 ^ st.bits : Nat) : Int)
        = Spec.segIter (fun t => st.toInt (xs.getD (t * R + j) 0)) (fun t => bits.getD t 0)
            (st.toInt (first.getD j 0)) i % ((2 ^ st.bits : Nat) : Int) := by
  induction k with
  | zero =>
    refine ⟨by simp [hf], ?_⟩
    intro i j hi hj
    have : i = 0 := by omega
    subst this
    simp only [List.range_zero, List.foldl_nil, Nat.zero_mul, Nat.zero_add, Spec.segIter]
    rw [getD_map_ext]
    exact (toInt_ext st _).symm
  | succ k ih =>
    obtain ⟨hlen, hval⟩ := ih (by omega)
    simp only [List.range_succ, List.foldl_append, List.foldl_cons, List.foldl_nil]
    generalize hres : (List.range k).foldl (segStep (modulus st) R (xs.map (ext st)) bits) (first.map (ext st)) = res at hlen hval
    have hkl : k < bits.length := by omega
    have hinp : k * R + R ≤ (xs.map (ext st)).length := by
      rw [List.length_map, hx]
      exact block_le R hkl
    have hrs : k * R + R ≤ res.length := Nat.le_of_eq (by rw [hlen, Nat.succ_mul])
    refine ⟨by rw [segStep_length _ _ _ _ _ _ hinp hrs, hlen, Nat.succ_mul (k + 1)], ?_⟩
    intro i j hi hj
    by_cases hik : i ≤ k
    · rw [segStep_getD_old _ _ _ _ _ _ _ (by rw [hlen]; exact block_lt (Nat.lt_succ_of_le hik) hj)]
      exact hval i j hik hj
    · have hi' : i = k + 1 := by omega
      subst hi'
      have hbk : bits.getD k 0 < 2 := hb _ (getD_mem bits k hkl 0)
      have hprev := hval k j (Nat.le_refl k) hj
      rw [← hlen, segStep_getD_new _ _ _ _ _ _ _ hj hinp hrs, Spec.segIter, getD_map_ext]
      split
      · rename_i hb0
        rw [hb0]
        simp only [Int.natCast_zero, Int.zero_mul, Int.add_zero]
        exact (toInt_ext st _).symm
      · have hb1 : bits.getD k 0 = 1 := by omega
        rw [hb1, addU128_emod]
        simp only [Int.natCast_one, Int.one_mul]
        exact add_congr _ _ _ _ _ (toInt_ext st _).symm hprev

theorem segmentCumSum_flat (st : ST) (R : Nat) (xs bits first : List Nat) (hx : xs.length = bits.length * R)
    (hf : first.length = R) (hb : ∀ x ∈ bits, x < 2) :
    (segmentCumSum st R xs bits first).length = (bits.length + 1) * R ∧
    ∀ i j, i ≤ bits.length → j < R →
      (segmentCumSum st R xs bits first).getD (i * R + j) 0
        = st.ofInt (Spec.segIter (fun t => st.toInt (xs.getD (t * R + j) 0)) (fun t => bits.getD t 0)
            (st.toInt (first.getD j 0)) i) := by
  obtain ⟨hlen, hval⟩ := seg_loop_inv st R xs bits first hx hf hb bits.length (Nat.le_refl _)
  refine ⟨by unfold segmentCumSum; simp only [List.length_map]; exact hlen, ?_⟩
  intro i j hi hj
  unfold segmentCumSum
  simp only []
  rw [getD_map_low, low_eq_ofInt]
  exact ofInt_congr _ _ _ (hval i j hi hj)

example : segmentCumSum .u8 1 [1, 2, 3, 4] [1, 0, 1, 1] [10] = [10, 11, 2, 5, 9] := by decide

example : segmentCumSum .i8 2 [1, 2, 3, 4, 250, 6] [1, 1, 0] [100, 127] = [100, 127, 101, 129, 104, 133, 250, 6] := by decide

end CCV.Ops
