import CCV.Lemmas.TypedValue
/- `ShapedArray::serialize` followed by `visit_seq`: nested JSON lists parse back to the flat
   element list and the same shape -/
namespace CCV.TV
open CCV CCV.Bytes

/-- what the serializer needs from `is_valid_shape`: non-empty, no zero dimension -/
theorem isValidShape_ne_nil_pos (s : List Nat) (h : isValidShape s = true) :
    s ≠ [] ∧ ∀ d ∈ s, 0 < d := by
  simp only [isValidShape, Bool.and_eq_true, Bool.not_eq_true', List.isEmpty_eq_false_iff,
    List.all_eq_true, decide_eq_true_eq] at h
  exact ⟨h.1.1, h.1.2⟩

theorem mapM_some_of_forall {α β : Type} (f : α → Option β) (h : α → β) (cs : List α)
    (hf : ∀ c ∈ cs, f c = some (h c)) : cs.mapM f = some (cs.map h) := by
  induction cs with
  | nil => rfl
  | cons c cs ih =>
    rw [List.mapM_cons, hf c (by simp), ih (fun x hx => hf x (by simp [hx]))]
    rfl

theorem ofJL_map {α : Type} (f : α → J) (h : α → SDM) (cs : List α)
    (hf : ∀ c ∈ cs, ofJ (f c) = some (h c)) : ofJL (cs.map f) = some (cs.map h) := by
  induction cs with
  | nil => simp [ofJL]
  | cons c cs ih =>
    simp only [List.map_cons, ofJL]
    rw [hf c (by simp), ih (fun x hx => hf x (by simp [hx]))]

theorem allArr_map {α : Type} (F : α → List Nat) (s : List Nat) (cs : List α) :
    allArr (cs.map fun c => SDM.arr (F c) s) = some (cs.flatMap F) := by
  induction cs with
  | nil => rfl
  | cons c cs ih => simp [allArr, ih]

theorem finishSeq_map {α : Type} (F : α → List Nat) (s : List Nat) (cs : List α) (hne : cs ≠ []) :
    finishSeq (cs.map fun c => SDM.arr (F c) s) = some (.arr (cs.flatMap F) (cs.length :: s)) := by
  cases cs with
  | nil => exact absurd rfl hne
  | cons c cs =>
    have h := allArr_map F s (c :: cs)
    simp only [List.map_cons] at h
    simp only [List.map_cons, finishSeq, h, Option.map_some, List.length_cons, List.length_map]

theorem ofJ_arr_map {α : Type} (f : α → J) (F : α → List Nat) (s : List Nat) (cs : List α)
    (hne : cs ≠ []) (hf : ∀ c ∈ cs, ofJ (f c) = some (.arr (F c) s)) :
    ofJ (.arr (cs.map f)) = some (.arr (cs.flatMap F) (cs.length :: s)) := by
  rw [ofJ, ofJL_map f (fun c => SDM.arr (F c) s) cs hf, Option.bind_some, finishSeq_map F s cs hne]

/-- induction on the shape: the outer list parses to the concatenation of what its `d` chunks parse to,
    with `d` put in front of their common shape -/
theorem shaped_back_aux (st : ST) (shape : List Nat) (hne : shape ≠ [])
    (hpos : ∀ d ∈ shape, 0 < d) (r : List Nat) (hl : r.length = numel shape) :
    ∃ j, shapedJ st shape r = some j ∧ ofJ j = some (.arr (r.map (readBack st)) shape) := by
  induction shape generalizing r with
  | nil => exact absurd rfl hne
  | cons d s ih =>
    cases s with
    | nil =>
      rw [numel_singleton] at hl
      have hd : 0 < d := hpos d (by simp)
      have hr : r ≠ [] := by intro h; subst h; simp at hl; omega
      refine ⟨_, rfl, ?_⟩
      rw [ofJ_arr_map (fun a => J.num (castTo st a)) (fun a => [readBack st a]) [] r hr
        (fun a _ => by rw [ofJ, numToU128_castTo]; rfl), ← List.map_eq_flatMap, hl]
    | cons d' rest =>
      have hd : 0 < d := hpos d (by simp)
      have hpos' : ∀ x ∈ d' :: rest, 0 < x := fun x hx => hpos x (List.mem_cons_of_mem _ hx)
      have hm : 0 < numel (d' :: rest) := numel_pos _ hpos'
      rw [numel_cons] at hl
      generalize hmdef : numel (d' :: rest) = m at hl hm
      have hmod : r.length % d = 0 := by rw [hl]; exact Nat.mul_mod_right _ _
      have hdiv : r.length / d = m := by rw [hl]; exact Nat.mul_div_cancel_left _ hd
      have hcl := chunksExact_mem_length m d r hl
      -- a total function giving the JSON of each chunk, to map over the chunks
      let h : List Nat → J := fun c => (shapedJ st (d' :: rest) c).getD .null
      have hh : ∀ c ∈ chunksExact m d r, shapedJ st (d' :: rest) c = some (h c) ∧
          ofJ (h c) = some (.arr (c.map (readBack st)) (d' :: rest)) := by
        intro c hc
        obtain ⟨j, hj, hj2⟩ := ih (by simp) hpos' c (by rw [hcl c hc, hmdef])
        simp only [h, hj, Option.getD_some]
        exact ⟨trivial, hj2⟩
      have hcne : chunksExact m d r ≠ [] := by
        intro e
        have := length_chunksExact m d r
        rw [e] at this; simp at this; omega
      refine ⟨.arr ((chunksExact m d r).map h), ?_, ?_⟩
      · rw [shapedJ, if_neg (by omega), if_neg (by simp [hmod]), hdiv, if_neg (by omega),
          mapM_some_of_forall _ h _ (fun c hc => (hh c hc).1)]
        rfl
      · have hfl : List.flatMap (fun c => List.map (readBack st) c) (chunksExact m d r) = r.map (readBack st) := by
          rw [List.flatMap_def, ← List.map_flatten, chunksExact_flatten m d r hl]
        rw [ofJ_arr_map h (fun c => c.map (readBack st)) (d' :: rest) _ hcne
          (fun c hc => (hh c hc).2), length_chunksExact, hfl]

theorem shaped_back (st : ST) (shape : List Nat) (hs : isValidShape shape = true)
    (r : List Nat) (hl : r.length = numel shape) :
    ∃ j, shapedJ st shape r = some j ∧ ofJ j = some (.arr (r.map (readBack st)) shape) :=
  shaped_back_aux st shape (isValidShape_ne_nil_pos shape hs).1 (isValidShape_ne_nil_pos shape hs).2 r hl

end CCV.TV
