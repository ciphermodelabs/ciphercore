import CCV.Lemmas.BitVal
import CCV.Lemmas.Mux
import CCV.Model.Clip
/- clip.rs: the OR reduction and the clipped value. -/
namespace CCV.Clip
open CCV.Adder CCV.Mux

theorem orBit_eq (a b : Bool) : orBit a b = (a || b) := by cases a <;> cases b <;> rfl

theorem foldl_orBit (l : List Bool) (b : Bool) : l.foldl orBit b = (b || decide (0 < val l)) := by
  induction l generalizing b with
  | nil => simp [val_nil]
  | cons x l ih =>
    rw [List.foldl_cons, ih, orBit_eq, val_cons, Bool.or_assoc]
    congr 1
    cases x
    · exact decide_eq_decide.mpr (by simp only [Bool.toNat_false]; omega)
    · exact (decide_eq_true (by simp only [Bool.toNat_true]; omega)).symm

theorem clipCore_val (k : Nat) (x : List Bool) (h : k + 2 ≤ x.length) :
    (clipCore k x).length = x.length ∧
    val (clipCore k x) = if msb x then 0 else if 2 ^ k ≤ val x then 2 ^ k else val x := by
  have hsplit := val_take_drop x k (by omega)
  have htl := val_lt (x.take k)
  rw [List.length_take, Nat.min_eq_left (by omega)] at htl
  have hm := msb_iff x (by intro e; simp [e] at h)
  have hpow : 2 * 2 ^ k ≤ 2 ^ x.length := by
    rw [← Nat.pow_succ']
    exact Nat.pow_le_pow_right (by omega) (by omega)
  have hlen : (List.replicate k false ++ [muxBit (msb x) false true]
      ++ List.replicate (x.length - k - 1) false).length = x.length := by simp; omega
  have hcv : val (List.replicate k false ++ [muxBit (msb x) false true]
      ++ List.replicate (x.length - k - 1) false) = 2 ^ k * (muxBit (msb x) false true).toNat := by
    simp [val_append, val_replicate_false, val_cons]
  simp only [clipCore, foldl_orBit, Bool.false_or]
  rw [show x.getD (x.length - 1) false = msb x from rfl, muxBits_eq _ _ _ hlen]
  by_cases hU : 0 < val (x.drop k)
  · have hge : 2 ^ k ≤ val x := by
      rw [hsplit]
      have : 2 ^ k * 1 ≤ 2 ^ k * val (x.drop k) := Nat.mul_le_mul_left _ hU
      omega
    simp only [hU, decide_true, if_true, hlen, hcv, true_and]
    cases hmx : msb x <;> simp [muxBit, hge]
  · have h0 : val (x.drop k) = 0 := by omega
    have hlt : val x < 2 ^ k := by rw [hsplit, h0]; omega
    have hnm : msb x = false := by
      cases hmx : msb x
      · rfl
      · have := hm.mp hmx; omega
    simp [hU, hnm, Nat.not_le.mpr hlt]

end CCV.Clip
