import CCV.Model.Know
import CCV.Lemmas.Run
/- The trie-based holder analysis computes the same holder trees as the list-based one. -/
namespace CCV.Know

namespace Trie
variable {α : Type}

theorem get_leaf (d k : Nat) : get d (.leaf : Trie α) k = none := by
  cases d <;> rfl

theorem get_leaf_eq (d k : Nat) : get d (.leaf : Trie α) k = get d (.node none .leaf .leaf) k := by
  cases d with
  | zero => rfl
  | succ d =>
    show none = if k % 2 = 0 then get d .leaf (k / 2) else get d .leaf (k / 2)
    rw [get_leaf, ite_self]

theorem set_leaf_eq (d k : Nat) (a : α) : set d .leaf k a = set d (.node none .leaf .leaf) k a := by
  cases d <;> rfl

theorem get_set_of_node (d k k' : Nat) (a : α)
    (h : ∀ v l r, get d (set d (.node v l r) k a) k' = if k = k' then some a else get d (.node v l r) k') :
    ∀ t : Trie α, get d (set d t k a) k' = if k = k' then some a else get d t k'
  | .leaf => by rw [set_leaf_eq, get_leaf_eq, h]
  | .node v l r => h v l r

theorem half_eq_iff {k k' : Nat} (h : k % 2 = k' % 2) : k / 2 = k' / 2 ↔ k = k' :=
  ⟨fun e => by rw [← Nat.div_add_mod k 2, ← Nat.div_add_mod k' 2, e, h], fun e => by rw [e]⟩

theorem get_set : ∀ (d : Nat) (t : Trie α) (k k' : Nat) (a : α), k < 2 ^ d → k' < 2 ^ d →
    get d (set d t k a) k' = if k = k' then some a else get d t k'
  | 0, t, k, k', a, hk, hk' =>
    get_set_of_node 0 k k' a (fun v l r => by
      rw [if_pos ((Nat.lt_one_iff.1 hk).trans (Nat.lt_one_iff.1 hk').symm)]; rfl) t
  | d + 1, t, k, k', a, hk, hk' => by
    refine get_set_of_node (d + 1) k k' a (fun v l r => ?_) t
    have hk2 : k / 2 < 2 ^ d := Nat.div_lt_of_lt_mul (by rw [← Nat.pow_succ']; exact hk)
    have hk2' : k' / 2 < 2 ^ d := Nat.div_lt_of_lt_mul (by rw [← Nat.pow_succ']; exact hk')
    -- the keys are equal iff their last bits and their other bits are
    show get (d + 1) (if k % 2 = 0 then .node v (set d l (k / 2) a) r else .node v l (set d r (k / 2) a)) k'
      = if k = k' then some a else if k' % 2 = 0 then get d l (k' / 2) else get d r (k' / 2)
    by_cases p : k % 2 = 0 <;> by_cases p' : k' % 2 = 0
    · rw [if_pos p, if_pos p']
      show (if k' % 2 = 0 then get d (set d l (k / 2) a) (k' / 2) else _) = _
      rw [if_pos p', get_set d l _ _ a hk2 hk2', ite_congr (propext (half_eq_iff (p.trans p'.symm))) (fun _ => rfl) (fun _ => rfl)]
    · rw [if_pos p, if_neg p', if_neg (show k ≠ k' from fun e => p' (e ▸ p))]
      show (if k' % 2 = 0 then _ else get d r (k' / 2)) = _
      rw [if_neg p']
    · rw [if_neg p, if_pos p', if_neg (show k ≠ k' from fun e => p (e ▸ p'))]
      show (if k' % 2 = 0 then get d l (k' / 2) else _) = _
      rw [if_pos p']
    · rw [if_neg p, if_neg p']
      show (if k' % 2 = 0 then _ else get d (set d r (k / 2) a) (k' / 2)) = _
      rw [if_neg p', get_set d r _ _ a hk2 hk2', ite_congr (propext (half_eq_iff ((Nat.mod_two_ne_zero.1 p).trans (Nat.mod_two_ne_zero.1 p').symm))) (fun _ => rfl) (fun _ => rfl)]

end Trie

theorem hBaseF_congr (inStat : Nat → HT) (owner : Nat → Nat) (l1 l2 : Nat → HT) (n : Node)
    (h : ∀ d ∈ n.deps, l1 d = l2 d) : hBaseF inStat owner l1 n = hBaseF inStat owner l2 n := by
  unfold hBaseF
  have : n.deps.map l1 = n.deps.map l2 := List.map_congr_left h
  simp only [this]

theorem wellScoped_cons (n : Node) (g : List Node) (k : Nat) (h : wellScoped (n :: g) k = true) :
    (∀ d ∈ n.deps, d < k) ∧ wellScoped g (k + 1) = true := by
  have h' : (n.deps.all (· < k) && wellScoped g (k + 1)) = true := h
  simp only [Bool.and_eq_true, List.all_eq_true, decide_eq_true_eq] at h'
  exact h'

theorem hRunT_sim (inStat : Nat → HT) (owner : Nat → Nat) :
    ∀ (g : List Node) (i : Nat) (env : Trie HT) (henv : List HT),
    henv.length = i → i + g.length ≤ 2 ^ trieDepth → wellScoped g i = true →
    (∀ j, j < i → Trie.get trieDepth env j = some (henv.getD j (.leaf PS.none))) →
    ∀ j, j < i + g.length →
      Trie.get trieDepth (hRunT inStat owner g i env) j
        = some ((hRun inStat owner g henv).getD j (.leaf PS.none))
  | [], i, env, henv, _, _, _, hinv, j, hj => hinv j hj
  | n :: g, i, env, henv, hlen, hsz, hw, hinv, j, hj => by
    obtain ⟨hsc, hw'⟩ := wellScoped_cons n g i hw
    have hsz' : i + 1 + g.length ≤ 2 ^ trieDepth := by rwa [Nat.add_right_comm]
    have hnode : hNodeT inStat owner env n = hNode inStat owner henv n :=
      congrArg (applySendsHT n.sends)
        (hBaseF_congr inStat owner _ _ n (fun d hd => by rw [hinv d (hsc d hd)]; rfl))
    refine hRunT_sim inStat owner g (i + 1) _ (henv ++ [hNode inStat owner henv n])
      (by rw [List.length_append, hlen]; rfl) hsz' hw' (fun j' hj' => ?_) j (by rwa [Nat.add_right_comm])
    rw [Trie.get_set trieDepth env i j' _ (by omega) (by omega), hnode, Run.getD_snoc, hlen]
    by_cases e : i = j'
    · rw [if_pos e, if_pos e.symm]
    · rw [if_neg e, if_neg (Ne.symm e)]
      exact hinv j' (by omega)

theorem hRunT_get (inStat : Nat → HT) (owner : Nat → Nat) (g : List Node) (out : Nat)
    (hw : wellScoped g 0 = true) (hsz : g.length ≤ 2 ^ trieDepth) (hout : out < g.length) :
    (Trie.get trieDepth (hRunT inStat owner g 0 .leaf) out).getD (.leaf PS.none)
      = (hRun inStat owner g []).getD out (.leaf PS.none) := by
  have := hRunT_sim inStat owner g 0 .leaf [] rfl (by simpa using hsz) hw
    (fun j hj => absurd hj (by omega)) out (by simpa using hout)
  rw [this]; rfl

/-- the trie-based check implies the list-based check (whose soundness is `revealed_correct`) -/
theorem okRevealedT_sound (inStat : Nat → HT) (owner : Nat → Nat) (g : List Node) (out : Nat) (outs : PS)
    (h : okRevealedT inStat owner g out outs = true) :
    okRevealed inStat owner g out outs = true ∧ out < g.length := by
  simp only [okRevealedT, Bool.and_eq_true, decide_eq_true_eq] at h
  obtain ⟨⟨⟨hw, hsz⟩, hout⟩, hs⟩ := h
  rw [hRunT_get inStat owner g out hw hsz hout] at hs
  refine ⟨?_, hout⟩
  simp only [okRevealed, Bool.and_eq_true]
  exact ⟨hw, hs⟩

theorem okSharedT_sound (inStat : Nat → HT) (owner : Nat → Nat) (g : List Node) (out : Nat)
    (h : okSharedT inStat owner g out = true) :
    okShared inStat owner g out = true ∧ out < g.length := by
  simp only [okSharedT, Bool.and_eq_true, decide_eq_true_eq] at h
  obtain ⟨⟨⟨⟨⟨⟨⟨⟨hw, hsz⟩, hout⟩, h00⟩, h01⟩, h11⟩, h12⟩, h22⟩, h20⟩ := h
  rw [hRunT_get inStat owner g out hw hsz hout] at h00 h01 h11 h12 h22 h20
  refine ⟨?_, hout⟩
  simp only [okShared, Bool.and_eq_true]
  exact ⟨⟨⟨⟨⟨⟨hw, h00⟩, h01⟩, h11⟩, h12⟩, h22⟩, h20⟩

end CCV.Know
