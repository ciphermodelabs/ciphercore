import CCV.Model.Serde
/-
  Definitions for C12 (well-formedness `WF`, deep equality, canonical form) and their lemmas:
  insertion sort gives the one strictly increasing listing of a table; every loop of `recover`
  accepts exactly the inputs that pass its checks and returns them unchanged; hence
  `recover c.asSer = .ok c ↔ WF c`, and the round trip is this fact at `canon c`.
-/
namespace CCV.Serde

def keys {K V : Type} (t : List (K × V)) : List K := t.map (·.1)

def NodeWF (gs : List Graph) (gi k : Nat) (n : Node) : Prop :=
  (∀ d ∈ n.deps, d < k) ∧
  (∀ h ∈ n.gdeps, h < gi ∧ ∃ g, gs[h]? = some g ∧ g.finalized = true)

def GraphWF (gs : List Graph) (gi : Nat) (g : Graph) : Prop :=
  (∀ k n, g.nodes[k]? = some n → NodeWF gs gi k n) ∧
  (∀ o, g.output = some o → o < g.nodes.length) ∧
  (g.finalized = true → g.output ≠ none)

/-- The invariant the builder API maintains (create_graph / add_node / set_output_node / finalize /
    set_main_graph / set_*_name / add_*_annotation / Context::finalize), on the abstract state. -/
structure WF (c : Ctx) : Prop where
  graphs : ∀ gi g, c.graphs[gi]? = some g → GraphWF c.graphs gi g
  main : ∀ m, c.main = some m → ∃ g, c.graphs[m]? = some g ∧ g.finalized = true
  fin : c.finalized = true → c.main ≠ none ∧ ∀ g ∈ c.graphs, g.finalized = true
  gnKeys : (keys c.graphNames).Nodup
  gnRange : ∀ e ∈ c.graphNames, e.1 < c.graphs.length
  gnVals : (c.graphNames.map (·.2)).Nodup
  nnKeys : (keys c.nodeNames).Nodup
  nnRange : ∀ e ∈ c.nodeNames, nodeInRange c.graphs e.1 = true
  nnVals : (c.nodeNames.map (fun e => (e.1.1, e.2))).Nodup
  gaKeys : (keys c.graphAnns).Nodup
  gaRange : ∀ e ∈ c.graphAnns, e.1 < c.graphs.length
  gaNonempty : ∀ e ∈ c.graphAnns, e.2 ≠ []
  naKeys : (keys c.nodeAnns).Nodup
  naRange : ∀ e ∈ c.nodeAnns, nodeInRange c.graphs e.1 = true
  naNonempty : ∀ e ∈ c.nodeAnns, e.2 ≠ []

/-- `contexts_deep_equal` (graphs.rs:4787): flags, graphs node by node, main graph, and the four
    tables compared as hash maps (= as association lists up to order) -/
structure DeepEq (c d : Ctx) : Prop where
  finalized : c.finalized = d.finalized
  graphs : c.graphs = d.graphs
  main : c.main = d.main
  graphNames : c.graphNames.Perm d.graphNames
  nodeNames : c.nodeNames.Perm d.nodeNames
  graphAnns : c.graphAnns.Perm d.graphAnns
  nodeAnns : c.nodeAnns.Perm d.nodeAnns

def canon (c : Ctx) : Ctx :=
  { c with
    graphNames := sortBy ltNat c.graphNames
    nodeNames := sortBy ltPair c.nodeNames
    graphAnns := sortBy ltNat c.graphAnns
    nodeAnns := sortBy ltPair c.nodeAnns }

def SortedBy {K V : Type} (lt : K → K → Bool) (t : List (K × V)) : Prop :=
  t.Pairwise (fun a b => lt a.1 b.1 = true)

def TablesSorted (c : Ctx) : Prop :=
  SortedBy ltNat c.graphNames ∧ SortedBy ltPair c.nodeNames ∧
  SortedBy ltNat c.graphAnns ∧ SortedBy ltPair c.nodeAnns

structure StrictTotal {K : Type} (lt : K → K → Bool) : Prop where
  irrefl : ∀ a, lt a a = false
  trans : ∀ a b c, lt a b = true → lt b c = true → lt a c = true
  total : ∀ a b, lt a b = false → lt b a = false → a = b

theorem strictTotal_ltNat : StrictTotal ltNat where
  irrefl a := decide_eq_false (Nat.lt_irrefl a)
  trans _ _ _ h₁ h₂ := decide_eq_true (Nat.lt_trans (of_decide_eq_true h₁) (of_decide_eq_true h₂))
  total _ _ h₁ h₂ :=
    Nat.le_antisymm (Nat.le_of_not_lt (of_decide_eq_false h₂)) (Nat.le_of_not_lt (of_decide_eq_false h₁))

theorem strictTotal_ltPair : StrictTotal ltPair where
  irrefl a := decide_eq_false fun h => h.elim (Nat.lt_irrefl _) fun h => Nat.lt_irrefl _ h.2
  trans a b c hab hbc := by
    rcases of_decide_eq_true hab with h₁ | ⟨e₁, h₁⟩
    · rcases of_decide_eq_true hbc with h₂ | ⟨e₂, h₂⟩
      · exact decide_eq_true (.inl (Nat.lt_trans h₁ h₂))
      · exact decide_eq_true (.inl (e₂ ▸ h₁))
    · rcases of_decide_eq_true hbc with h₂ | ⟨e₂, h₂⟩
      · exact decide_eq_true (.inl (e₁ ▸ h₂))
      · exact decide_eq_true (.inr ⟨e₁.trans e₂, Nat.lt_trans h₁ h₂⟩)
  total a b hab hba := by
    have hab := of_decide_eq_false hab
    have hba := of_decide_eq_false hba
    have e₁ : a.1 = b.1 :=
      Nat.le_antisymm (Nat.le_of_not_lt fun h => hba (.inl h)) (Nat.le_of_not_lt fun h => hab (.inl h))
    exact Prod.ext e₁ (Nat.le_antisymm (Nat.le_of_not_lt fun h => hba (.inr ⟨e₁.symm, h⟩))
      (Nat.le_of_not_lt fun h => hab (.inr ⟨e₁, h⟩)))

section sort
variable {K V : Type} {lt : K → K → Bool}

theorem insertBy_perm (e : K × V) (l : List (K × V)) : (insertBy lt e l).Perm (e :: l) := by
  induction l with
  | nil => exact List.Perm.refl _
  | cons x xs ih =>
    unfold insertBy
    split
    · exact (ih.cons x).trans (List.Perm.swap e x xs)
    · exact List.Perm.refl _

theorem sortBy_perm (l : List (K × V)) : (sortBy lt l).Perm l := by
  induction l with
  | nil => exact List.Perm.refl _
  | cons x xs ih => exact (insertBy_perm x _).trans (ih.cons x)

theorem insertBy_sorted (h : StrictTotal lt) (e : K × V) (l : List (K × V))
    (hs : SortedBy lt l) (hne : ∀ x ∈ l, x.1 ≠ e.1) : SortedBy lt (insertBy lt e l) := by
  induction l with
  | nil => exact List.pairwise_singleton _ e
  | cons x xs ih =>
    have hs' := List.pairwise_cons.1 hs
    unfold insertBy
    split
    next hlt =>
      refine List.pairwise_cons.2 ⟨?_, ih hs'.2 (fun y hy => hne y (List.mem_cons_of_mem _ hy))⟩
      intro y hy
      rcases List.mem_cons.1 ((insertBy_perm e xs).mem_iff.1 hy) with rfl | hy
      · exact hlt
      · exact hs'.1 y hy
    next hlt =>
      -- `e` goes in front: not `x < e`, and the keys differ, so `e < x`, hence `e` is below all
      have hex : lt e.1 x.1 = true := by
        cases hc : lt e.1 x.1 with
        | true => rfl
        | false =>
          exact absurd (h.total _ _ (Bool.eq_false_iff.2 hlt) hc) (hne x (List.mem_cons_self ..))
      exact List.pairwise_cons.2
        ⟨List.forall_mem_cons.2 ⟨hex, fun y hy => h.trans _ _ _ hex (hs'.1 y hy)⟩, hs⟩

theorem sortBy_sorted (h : StrictTotal lt) (l : List (K × V)) (hn : (keys l).Nodup) :
    SortedBy lt (sortBy lt l) := by
  induction l with
  | nil => exact List.Pairwise.nil
  | cons x xs ih =>
    have hn' := List.nodup_cons.1 hn
    refine insertBy_sorted h x _ (ih hn'.2) ?_
    intro y hy hyx
    exact hn'.1 (List.mem_map.2 ⟨y, (sortBy_perm xs).mem_iff.1 hy, hyx⟩)

theorem SortedBy.keys_nodup (h : StrictTotal lt) {l : List (K × V)} (hs : SortedBy lt l) :
    (keys l).Nodup :=
  List.pairwise_map.2 (hs.imp fun hab e => absurd (e ▸ hab) (Bool.eq_false_iff.1 (h.irrefl _)))

theorem sorted_perm_eq (h : StrictTotal lt) {l₁ l₂ : List (K × V)}
    (h₁ : SortedBy lt l₁) (h₂ : SortedBy lt l₂) (hp : l₁.Perm l₂) : l₁ = l₂ :=
  hp.eq_of_pairwise
    (fun a _ _ _ hab hba => absurd (h.trans _ _ _ hab hba) (Bool.eq_false_iff.1 (h.irrefl a.1))) h₁ h₂

theorem sortBy_of_sorted (h : StrictTotal lt) (l : List (K × V)) (hs : SortedBy lt l) :
    sortBy lt l = l :=
  sorted_perm_eq h (sortBy_sorted h l (hs.keys_nodup h)) hs (sortBy_perm l)

theorem sortBy_eq_of_perm (h : StrictTotal lt) {l l' : List (K × V)} (hp : l.Perm l')
    (hn : (keys l).Nodup) : sortBy lt l = sortBy lt l' :=
  sorted_perm_eq h (sortBy_sorted h l hn)
    (sortBy_sorted h l' ((hp.map _).nodup_iff.1 hn))
    ((sortBy_perm l).trans (hp.trans (sortBy_perm l').symm))

end sort

section replay
variable {α : Type} {p : Prop} [Decidable p] {m : String} {x : Except String α} {a : α}
  {prev : List Graph}

theorem ite_ok_error (h : (if p then x else .error m) = .ok a) : p ∧ x = .ok a := by
  by_cases hp : p
  · rw [if_pos hp] at h
    exact ⟨hp, h⟩
  · rw [if_neg hp] at h
    cases h

theorem ite_error_ok (h : (if p then .error m else x) = .ok a) : ¬ p ∧ x = .ok a := by
  rw [← ite_not] at h
  exact ite_ok_error h

theorem forall_getElem?_cons {P : Nat → α → Prop} {l : List α} :
    (∀ j x, (a :: l)[j]? = some x → P j x) ↔ P 0 a ∧ ∀ j x, l[j]? = some x → P (j + 1) x := by
  constructor
  · intro h
    exact ⟨h 0 a rfl, fun j x hj => h (j + 1) x hj⟩
  · rintro ⟨h0, hs⟩ j x hj
    cases j with
    | zero =>
      cases hj
      exact h0
    | succ j => exact hs j x hj

/-- the checks `recoverGraph prev` performs on a graph: `GraphWF` relative to the prefix `prev` -/
def GraphOk (prev : List Graph) (g : Graph) : Prop :=
  (∀ j n, g.nodes[j]? = some n → nodeOk prev j n = true) ∧
  (∀ o, g.output = some o → o < g.nodes.length) ∧
  (g.finalized = true → g.output ≠ none)

theorem recoverNodes_eq_ok {k : Nat} {ns ns' : List Node} :
    recoverNodes prev k ns = .ok ns' ↔
      ns' = ns ∧ ∀ j n, ns[j]? = some n → nodeOk prev (j + k) n = true := by
  induction ns generalizing k ns' with
  | nil =>
    refine ⟨fun h => ?_, fun h => congrArg Except.ok h.1.symm⟩
    cases h
    exact ⟨rfl, fun j n hj => nomatch hj⟩
  | cons n rest ih =>
    rw [recoverNodes, forall_getElem?_cons, Nat.zero_add]
    constructor
    · intro h
      obtain ⟨hok, h⟩ := ite_ok_error h
      split at h
      next r hr =>
        cases h
        obtain ⟨rfl, hr⟩ := ih.1 hr
        exact ⟨rfl, hok, fun j x hj => Nat.succ_add_eq_add_succ j k ▸ hr j x hj⟩
      next => cases h
    · rintro ⟨rfl, hok, hs⟩
      rw [if_pos hok, ih.2 ⟨rfl, fun j x hj => Nat.succ_add_eq_add_succ j k ▸ hs j x hj⟩]

theorem recoverGraph_eq_ok {sg g : Graph} :
    recoverGraph prev sg = .ok g ↔ g = sg ∧ GraphOk prev sg := by
  obtain ⟨f, ns, out⟩ := sg
  unfold recoverGraph
  constructor
  · intro h
    split at h
    · cases h
    next ns' hr =>
    obtain ⟨rfl, hn⟩ := recoverNodes_eq_ok.1 hr
    cases out with
    | some o =>
      obtain ⟨hlt, h⟩ := ite_ok_error h
      cases h
      exact ⟨rfl, hn, fun o' ho' => Option.some.inj ho' ▸ hlt, fun _ => nofun⟩
    | none =>
      cases f with
      | true => cases h
      | false =>
        cases h
        exact ⟨rfl, hn, nofun, nofun⟩
  · rintro ⟨rfl, h1, h2, h3⟩
    rw [(recoverNodes_eq_ok (k := 0)).2 ⟨rfl, h1⟩]
    cases out with
    | some o => exact if_pos (h2 o rfl)
    | none =>
      cases f with
      | true => exact absurd rfl (h3 rfl)
      | false => rfl

theorem recoverGraphs_eq_ok {l r : List Graph} :
    recoverGraphs prev l = .ok r ↔
      r = prev ++ l ∧ ∀ i g, l[i]? = some g → GraphOk (prev ++ l.take i) g := by
  induction l generalizing prev with
  | nil =>
    refine ⟨fun h => ?_, fun h => h.1 ▸ congrArg Except.ok (List.append_nil _).symm⟩
    cases h
    exact ⟨(List.append_nil _).symm, fun i g hi => nomatch hi⟩
  | cons sg rest ih =>
    rw [recoverGraphs, forall_getElem?_cons, List.take_zero, List.append_nil, List.append_cons]
    constructor
    · intro h
      split at h
      next g hg =>
        obtain ⟨rfl, hok⟩ := recoverGraph_eq_ok.1 hg
        obtain ⟨rfl, hrest⟩ := ih.1 h
        exact ⟨rfl, hok, fun i g' hi => List.append_cons .. ▸ hrest i g' hi⟩
      next => cases h
    · rintro ⟨rfl, hok, hs⟩
      rw [recoverGraph_eq_ok.2 ⟨rfl, hok⟩]
      exact ih.2 ⟨rfl, fun i g hi => List.append_cons .. ▸ hs i g hi⟩

end replay

theorem gdepOk_take {gs : List Graph} {gi h : Nat} :
    gdepOk (gs.take gi) h = true ↔ h < gi ∧ ∃ g, gs[h]? = some g ∧ g.finalized = true := by
  unfold gdepOk
  rw [List.getElem?_take]
  by_cases hlt : h < gi
  · rw [if_pos hlt]
    cases gs[h]? with
    | none => simp only [reduceCtorEq, false_and, exists_false, and_false, Bool.false_eq_true]
    | some g => simp only [hlt, Option.some.injEq, exists_eq_left', true_and]
  · simp only [hlt, if_false, false_and, Bool.false_eq_true]

theorem nodeOk_take {gs : List Graph} {gi k : Nat} {n : Node} :
    nodeOk (gs.take gi) k n = true ↔ NodeWF gs gi k n := by
  unfold nodeOk NodeWF
  simp only [Bool.and_eq_true, List.all_eq_true, decide_eq_true_eq, gdepOk_take]

theorem recoverGraphs_nil {l r : List Graph} :
    recoverGraphs [] l = .ok r ↔ r = l ∧ ∀ gi g, l[gi]? = some g → GraphWF l gi g := by
  simp only [recoverGraphs_eq_ok, List.nil_append, GraphOk, GraphWF, nodeOk_take]

theorem recoverMain_eq_ok {gs : List Graph} {m r : Option Nat} :
    recoverMain gs m = .ok r ↔
      r = m ∧ ∀ x, m = some x → ∃ g, gs[x]? = some g ∧ g.finalized = true := by
  cases m with
  | none =>
    refine ⟨fun h => ?_, fun h => congrArg Except.ok h.1.symm⟩
    cases h
    exact ⟨rfl, nofun⟩
  | some x =>
    rw [recoverMain]
    constructor
    · intro h
      split at h
      · cases h
      next g hg =>
        obtain ⟨hf, h⟩ := ite_ok_error h
        cases h
        exact ⟨rfl, fun y hy => Option.some.inj hy ▸ ⟨g, hg, hf⟩⟩
    · rintro ⟨rfl, h⟩
      obtain ⟨g, hg, hf⟩ := h x rfl
      rw [hg]
      exact if_pos hf

theorem hasKey_iff {K V : Type} [DecidableEq K] {t : List (K × V)} {k : K} :
    hasKey t k = true ↔ k ∈ keys t := by
  simp only [hasKey, keys, List.any_eq_true, decide_eq_true_eq, List.mem_map]

section
variable {α β : Type} {f : α → β} {acc rest : List α} {e : α}

theorem nodup_map_snoc (h : (acc.map f).Nodup) (hne : ∀ x ∈ acc, f x ≠ f e) : ((acc ++ [e]).map f).Nodup :=
  List.pairwise_map.2 (List.pairwise_append.2 ⟨List.pairwise_map.1 h, List.pairwise_singleton _ _,
    fun x hx _ hy => List.mem_singleton.1 hy ▸ hne x hx⟩)

theorem nodup_map_mid (h : ((acc ++ e :: rest).map f).Nodup) : f e ∉ acc.map f := by
  rw [List.map_append] at h
  exact fun hm => (List.nodup_append.1 h).2.2 _ hm _ (List.mem_cons_self ..) rfl

end

/-- `F` is a loop that appends the entries to the table one by one, refusing an entry whose key is
    present or that clashes (agrees under `f`) with an entry present: the shape of `setGraphNames`
    and `setNodeNames` -/
structure NameLoop {K V β : Type} [DecidableEq K]
    (F : List (K × V) → List (K × V) → Except String (List (K × V))) (f : K × V → β) : Prop where
  nil : ∀ acc, F acc [] = .ok acc
  cons : ∀ acc e rest, ∃ (m₁ m₂ : String) (clash : K × V → Bool),
    (∀ x, clash x = true ↔ f x = f e) ∧
    F acc (e :: rest) =
      if hasKey acc e.1 then .error m₁ else if acc.any clash then .error m₂ else F (acc ++ [e]) rest

theorem nameLoop_setGraphNames : NameLoop setGraphNames (·.2) :=
  ⟨fun _ => rfl, fun _ _ _ => ⟨_, _, _, fun _ => decide_eq_true_iff, rfl⟩⟩

theorem nameLoop_setNodeNames : NameLoop setNodeNames (fun e => (e.1.1, e.2)) :=
  ⟨fun _ => rfl, fun _ _ _ => ⟨_, _, _, fun _ => by rw [decide_eq_true_eq, Prod.mk.injEq], rfl⟩⟩

section names
variable {K V β : Type} [DecidableEq K]
  {F : List (K × V) → List (K × V) → Except String (List (K × V))} {f : K × V → β}

theorem NameLoop.ok (hF : NameLoop F f) {acc l t : List (K × V)} (h : F acc l = .ok t)
    (hk : (keys acc).Nodup) (hv : (acc.map f).Nodup) :
    t = acc ++ l ∧ (keys t).Nodup ∧ (t.map f).Nodup := by
  induction l generalizing acc with
  | nil =>
    rw [hF.nil] at h
    cases h
    exact ⟨(List.append_nil _).symm, hk, hv⟩
  | cons e rest ih =>
    obtain ⟨m₁, m₂, clash, hc, he⟩ := hF.cons acc e rest
    rw [he] at h
    obtain ⟨hkey, h⟩ := ite_error_ok h
    obtain ⟨hval, h⟩ := ite_error_ok h
    rw [List.append_cons]
    exact ih h
      (nodup_map_snoc hk fun x hx hxe => hkey (hasKey_iff.2 (List.mem_map.2 ⟨x, hx, hxe⟩)))
      (nodup_map_snoc hv fun x hx hxe => hval (List.any_eq_true.2 ⟨x, hx, (hc x).2 hxe⟩))

theorem NameLoop.of_nodup (hF : NameLoop F f) {acc l : List (K × V)}
    (hk : (keys (acc ++ l)).Nodup) (hv : ((acc ++ l).map f).Nodup) : F acc l = .ok (acc ++ l) := by
  induction l generalizing acc with
  | nil => rw [hF.nil, List.append_nil]
  | cons e rest ih =>
    obtain ⟨m₁, m₂, clash, hc, he⟩ := hF.cons acc e rest
    have h1 : ¬ hasKey acc e.1 = true := fun hm => nodup_map_mid hk (hasKey_iff.1 hm)
    have h2 : ¬ acc.any clash = true := fun hm => by
      rcases List.any_eq_true.1 hm with ⟨x, hx, hxe⟩
      exact nodup_map_mid hv (List.mem_map.2 ⟨x, hx, (hc x).1 hxe⟩)
    rw [he, if_neg h1, if_neg h2, List.append_cons acc e rest]
    exact ih (List.append_cons .. ▸ hk) (List.append_cons .. ▸ hv)

end names

section anns
variable {K : Type} {P : K → Prop} {k : K} {a : Nat} {as : List Nat} {t acc : List (K × List Nat)}
  {inRange : K → Bool}

def AnnInv (P : K → Prop) (t : List (K × List Nat)) : Prop :=
  (keys t).Nodup ∧ (∀ k ∈ keys t, P k) ∧ (∀ e ∈ t, e.2 ≠ [])

theorem annInv_nil (P : K → Prop) : AnnInv P [] :=
  ⟨List.nodup_nil, nofun, nofun⟩

variable [DecidableEq K]

theorem pushAnn_cons (e : K × List Nat) (es : List (K × List Nat)) :
    pushAnn k a (e :: es) = if e.1 = k then (e.1, e.2 ++ [a]) :: es else e :: pushAnn k a es :=
  rfl

theorem pushAnn_append {pre post : List (K × List Nat)} (h : k ∉ keys pre) :
    pushAnn k a (pre ++ post) = pre ++ pushAnn k a post := by
  induction pre with
  | nil => rfl
  | cons e es ih =>
    have h' : k ≠ e.1 ∧ k ∉ keys es := not_or.1 fun hc => h (List.mem_cons.2 hc)
    rw [List.cons_append, pushAnn_cons, if_neg (fun hc => h'.1 hc.symm), ih h'.2]
    rfl

theorem foldl_pushAnn_last {pre : List (K × List Nat)} {xs : List Nat} (h : k ∉ keys pre) :
    as.foldl (fun t a => pushAnn k a t) (pre ++ [(k, xs)]) = pre ++ [(k, xs ++ as)] := by
  induction as generalizing xs with
  | nil => rw [List.foldl_nil, List.append_nil]
  | cons a as ih =>
    rw [List.foldl_cons, pushAnn_append h, pushAnn_cons, if_pos rfl, ih, List.append_assoc,
      List.singleton_append]

theorem foldl_pushAnn_new (h : k ∉ keys acc) (hne : as ≠ []) :
    as.foldl (fun t a => pushAnn k a t) acc = acc ++ [(k, as)] := by
  cases as with
  | nil => exact absurd rfl hne
  | cons a as =>
    have h1 := pushAnn_append (a := a) (post := []) h
    rw [List.append_nil] at h1
    rw [List.foldl_cons, h1]
    exact foldl_pushAnn_last h

theorem addAnns_of_ok {l : List (K × List Nat)}
    (hk : (keys (acc ++ l)).Nodup) (hl : ∀ e ∈ l, e.2 ≠ [] ∧ inRange e.1 = true) :
    addAnns inRange acc l = .ok (acc ++ l) := by
  induction l generalizing acc with
  | nil => exact congrArg Except.ok (List.append_nil _).symm
  | cons e rest ih =>
    obtain ⟨hne, hr⟩ := hl e (List.mem_cons_self ..)
    rw [addAnns, if_pos hr, foldl_pushAnn_new (nodup_map_mid hk) hne, List.append_cons acc e rest]
    exact ih (List.append_cons .. ▸ hk) fun x hx => hl x (List.mem_cons_of_mem _ hx)

omit [DecidableEq K] in
theorem keys_cons (e : K × List Nat) (es : List (K × List Nat)) : keys (e :: es) = e.1 :: keys es :=
  rfl

theorem keys_pushAnn :
    keys (pushAnn k a t) = if k ∈ keys t then keys t else keys t ++ [k] := by
  induction t with
  | nil => rfl
  | cons e es ih =>
    rw [pushAnn_cons, keys_cons]
    by_cases hek : e.1 = k
    · rw [if_pos hek, if_pos (List.mem_cons.2 (.inl hek.symm))]
      rfl
    · rw [if_neg hek, keys_cons, ih]
      simp only [List.mem_cons, Ne.symm hek, false_or]
      split
      · rfl
      · rfl

theorem pushAnn_nonempty (h : ∀ e ∈ t, e.2 ≠ []) : ∀ e ∈ pushAnn k a t, e.2 ≠ [] := by
  induction t with
  | nil => exact List.forall_mem_cons.2 ⟨List.cons_ne_nil _ _, nofun⟩
  | cons x xs ih =>
    obtain ⟨hx, hxs⟩ := List.forall_mem_cons.1 h
    rw [pushAnn_cons]
    split
    · exact List.forall_mem_cons.2 ⟨List.append_ne_nil_of_right_ne_nil _ (List.cons_ne_nil _ _), hxs⟩
    · exact List.forall_mem_cons.2 ⟨hx, ih hxs⟩

theorem pushAnn_inv (hP : P k) (h : AnnInv P t) : AnnInv P (pushAnn k a t) := by
  obtain ⟨h1, h2, h3⟩ := h
  unfold AnnInv
  rw [keys_pushAnn]
  split
  · exact ⟨h1, h2, pushAnn_nonempty h3⟩
  next hk =>
    exact ⟨List.nodup_append.2 ⟨h1, List.pairwise_singleton _ _, fun x hx y hy =>
      List.mem_singleton.1 hy ▸ fun e => hk (e ▸ hx)⟩,
      List.forall_mem_append.2 ⟨h2, List.forall_mem_singleton.2 hP⟩, pushAnn_nonempty h3⟩

theorem foldl_pushAnn_inv (hP : P k) (h : AnnInv P t) : AnnInv P (as.foldl (fun t a => pushAnn k a t) t) := by
  induction as generalizing t with
  | nil => exact h
  | cons a as ih => exact ih (pushAnn_inv hP h)

theorem addAnns_inv {l : List (K × List Nat)}
    (h : addAnns inRange acc l = .ok t) (hacc : AnnInv (fun k => inRange k = true) acc) :
    AnnInv (fun k => inRange k = true) t := by
  induction l generalizing acc with
  | nil =>
    cases h
    exact hacc
  | cons e rest ih =>
    rw [addAnns] at h
    obtain ⟨hr, h⟩ := ite_ok_error h
    exact ih h (foldl_pushAnn_inv (P := fun k => inRange k = true) hr hacc)

end anns

/-- the serialisable context listing the tables of `c` in the given order (no sorting) -/
def Ctx.asSer (c : Ctx) : SerCtx :=
  ⟨c.finalized, c.graphs, c.main, c.graphNames, c.nodeNames, c.nodeAnns, c.graphAnns⟩

theorem recover_ok {s : SerCtx} {c : Ctx} (h : recover s = .ok c) :
    WF c ∧ c.graphs = s.graphs ∧ c.main = s.main ∧ c.finalized = s.finalized := by
  unfold recover at h
  -- every stage returned `.ok` and no guard fired
  split at h
  · cases h
  next gs hgs =>
  split at h
  · cases h
  next main hmain =>
  obtain ⟨hgnr, h⟩ := ite_error_ok h
  obtain ⟨hnnr, h⟩ := ite_error_ok h
  split at h
  · cases h
  next gn hgn =>
  split at h
  · cases h
  next nn hnn =>
  split at h
  · cases h
  next ga hga =>
  split at h
  · cases h
  next na hna =>
  -- each stage returned its input, and the checks it made are the fields of `WF`
  obtain ⟨eg, hgwf⟩ := recoverGraphs_nil.1 hgs
  obtain ⟨em, hmwf⟩ := recoverMain_eq_ok.1 hmain
  obtain ⟨egn, hgnk, hgnv⟩ := nameLoop_setGraphNames.ok hgn List.nodup_nil List.nodup_nil
  obtain ⟨enn, hnnk, hnnv⟩ := nameLoop_setNodeNames.ok hnn List.nodup_nil List.nodup_nil
  obtain ⟨ga1, ga2, ga3⟩ := addAnns_inv hga (annInv_nil _)
  obtain ⟨na1, na2, na3⟩ := addAnns_inv hna (annInv_nil _)
  subst eg em egn enn
  simp only [Bool.not_eq_true', Bool.not_eq_false, List.all_eq_true] at hgnr hnnr
  have mk : ∀ f : Bool, (f = true → s.main ≠ none ∧ ∀ g ∈ s.graphs, g.finalized = true) →
      WF ⟨f, s.graphs, s.main, s.graphNames, s.nodeNames, ga, na⟩ := fun f hf =>
    { graphs := hgwf
      main := hmwf
      fin := hf
      gnKeys := hgnk
      gnRange := fun e he => of_decide_eq_true (hgnr e he)
      gnVals := hgnv
      nnKeys := hnnk
      nnRange := hnnr
      nnVals := hnnv
      gaKeys := ga1
      gaRange := fun e he => of_decide_eq_true (ga2 e.1 (List.mem_map_of_mem he))
      gaNonempty := ga3
      naKeys := na1
      naRange := fun e he => na2 e.1 (List.mem_map_of_mem he)
      naNonempty := na3 }
  cases hfin : s.finalized with
  | false =>
    rw [hfin] at h
    cases h
    exact ⟨mk false nofun, rfl, rfl, rfl⟩
  | true =>
    rw [hfin, if_pos rfl] at h
    obtain ⟨hc, h⟩ := ite_ok_error h
    cases h
    rw [Bool.and_eq_true, List.all_eq_true] at hc
    exact ⟨mk true fun _ => ⟨Option.isSome_iff_ne_none.1 hc.2, hc.1⟩, rfl, rfl, rfl⟩

/-- the replay of a context listed as it is gives it back exactly when it is well formed;
    `toSer c` is `(canon c).asSer` by definition, which makes the round trip an instance -/
theorem recover_asSer {c : Ctx} : recover c.asSer = .ok c ↔ WF c := by
  refine ⟨fun h => (recover_ok h).1, fun h => ?_⟩
  obtain ⟨f, gs, m, gn, nn, ga, na⟩ := c
  have e3 : gn.all (fun e => graphInRange gs e.1) = true :=
    List.all_eq_true.2 fun e he => decide_eq_true (h.gnRange e he)
  have e7 := addAnns_of_ok (inRange := graphInRange gs) (acc := []) h.gaKeys fun e he =>
    ⟨h.gaNonempty e he, decide_eq_true (h.gaRange e he)⟩
  have e8 := addAnns_of_ok (inRange := nodeInRange gs) (acc := []) h.naKeys fun e he =>
    ⟨h.naNonempty e he, h.naRange e he⟩
  unfold recover Ctx.asSer
  simp only [recoverGraphs_nil.2 ⟨rfl, h.graphs⟩, recoverMain_eq_ok.2 ⟨rfl, h.main⟩, e3, List.all_eq_true.2 h.nnRange,
    nameLoop_setGraphNames.of_nodup (acc := []) h.gnKeys h.gnVals,
    nameLoop_setNodeNames.of_nodup (acc := []) h.nnKeys h.nnVals, e7, e8, Bool.not_true]
  cases f with
  | false => rfl
  | true =>
    obtain ⟨hm, hall⟩ := h.fin rfl
    simp only [List.all_eq_true.2 hall, Option.isSome_iff_ne_none.2 hm]
    rfl

theorem deepEq_canon (c : Ctx) : DeepEq c (canon c) where
  finalized := rfl
  graphs := rfl
  main := rfl
  graphNames := (sortBy_perm _).symm
  nodeNames := (sortBy_perm _).symm
  graphAnns := (sortBy_perm _).symm
  nodeAnns := (sortBy_perm _).symm

theorem WF.of_deepEq {c d : Ctx} (h : WF c) (e : DeepEq c d) : WF d := by
  obtain ⟨f, gs, m, gn, nn, ga, na⟩ := c
  obtain ⟨f', gs', m', gn', nn', ga', na'⟩ := d
  obtain ⟨rfl, rfl, rfl, e4, e5, e6, e7⟩ := e
  exact
    { graphs := h.graphs
      main := h.main
      fin := h.fin
      gnKeys := (e4.map _).nodup_iff.1 h.gnKeys
      gnRange := fun x => h.gnRange x ∘ e4.mem_iff.2
      gnVals := (e4.map _).nodup_iff.1 h.gnVals
      nnKeys := (e5.map _).nodup_iff.1 h.nnKeys
      nnRange := fun x => h.nnRange x ∘ e5.mem_iff.2
      nnVals := (e5.map _).nodup_iff.1 h.nnVals
      gaKeys := (e6.map _).nodup_iff.1 h.gaKeys
      gaRange := fun x => h.gaRange x ∘ e6.mem_iff.2
      gaNonempty := fun x => h.gaNonempty x ∘ e6.mem_iff.2
      naKeys := (e7.map _).nodup_iff.1 h.naKeys
      naRange := fun x => h.naRange x ∘ e7.mem_iff.2
      naNonempty := fun x => h.naNonempty x ∘ e7.mem_iff.2 }

theorem canon_of_sorted {c : Ctx} (hs : TablesSorted c) : canon c = c := by
  obtain ⟨f, gs, m, gn, nn, ga, na⟩ := c
  obtain ⟨h1, h2, h3, h4⟩ := hs
  simp only at h1 h2 h3 h4
  simp only [canon, sortBy_of_sorted strictTotal_ltNat _ h1, sortBy_of_sorted strictTotal_ltPair _ h2,
    sortBy_of_sorted strictTotal_ltNat _ h3, sortBy_of_sorted strictTotal_ltPair _ h4]

theorem canon_sorted {c : Ctx} (h : WF c) : TablesSorted (canon c) :=
  ⟨sortBy_sorted strictTotal_ltNat _ h.gnKeys, sortBy_sorted strictTotal_ltPair _ h.nnKeys,
   sortBy_sorted strictTotal_ltNat _ h.gaKeys, sortBy_sorted strictTotal_ltPair _ h.naKeys⟩

def isOk {α : Type} : Except String α → Bool
  | .ok _ => true
  | .error _ => false

/-- a successful result can be compared through `toOption`, whose equality is decidable -/
theorem eq_ok_of_toOption {α : Type} {x : Except String α} {a : α} (h : x.toOption = some a) :
    x = .ok a := by
  cases x with
  | ok b => exact congrArg Except.ok (Option.some.inj h)
  | error e => cases h

/-- two graphs, the second calling the first (node 2 of graph 1 has `gdeps = [0]`); names and
    annotations deliberately not in key order -/
def exCtx : Ctx :=
  { finalized := true
    graphs := [ ⟨true, [⟨1,[],[]⟩, ⟨1,[],[]⟩, ⟨2,[0,1],[]⟩], some 2⟩,
                ⟨true, [⟨1,[],[]⟩, ⟨1,[],[]⟩, ⟨5,[0,1],[0]⟩, ⟨4,[2,0],[]⟩], some 3⟩ ]
    main := some 1
    graphNames := [(1, 7), (0, 3)]
    nodeNames := [((1,2), 5), ((0,0), 5), ((1,0), 9)]
    graphAnns := [(1, [2,0])]
    nodeAnns := [((1,3), [4]), ((0,2), [1,1])] }

-- `WF` of the examples is obtained by running `recover` on the listing as it is (`recover_asSer`)
theorem exCtx_wf : WF exCtx := recover_asSer.1 (eq_ok_of_toOption (by decide +kernel))

/-- `exCtx` with `graphNames`, `nodeNames` and `nodeAnns` listed in another order (`graphAnns` has a
    single entry) -/
def exCtx' : Ctx :=
  { exCtx with
    graphNames := [(0, 3), (1, 7)]
    nodeNames := [((1,0), 9), ((1,2), 5), ((0,0), 5)]
    nodeAnns := [((0,2), [1,1]), ((1,3), [4])] }

theorem exCtx'_wf : WF exCtx' := recover_asSer.1 (eq_ok_of_toOption (by decide +kernel))

end CCV.Serde
