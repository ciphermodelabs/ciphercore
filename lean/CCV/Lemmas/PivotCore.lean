/-
  The simulation argument of the mask discipline, for messages with values in any type `V`.

  A party receives messages, listed LAST FIRST; message `m` is the function `f m x ρ` of the secrets `x`
  and of the tape `ρ : ℕ → V` of the values the party does not know.  The discipline: the rest of the
  tape fixed, every message is a bijective function of its own pivot coordinate `piv m` (`Solves`), and
  no EARLIER message depends on that pivot.  Older pivots may enter a message in any way.
  Then for any two secret vectors there are mutually inverse maps of tapes that align all messages and
  move only pivot coordinates (`exists_sim`): going through the messages in order, set each pivot to the
  value at which the message comes out as it did under the other secrets.

  `Lemmas/Pivot.lean` (masks added in a commutative group, subgroups as types) and `Lemmas/PivotMul.lean`
  (masks multiplied from the right in any group) are the instances.
-/
namespace CCV.PivotCore
variable {V X M : Type}

def upd (ρ : Nat → V) (v : Nat) (a : V) : Nat → V := fun w => if w = v then a else ρ w

theorem upd_same (ρ : Nat → V) (v : Nat) (a : V) : upd ρ v a v = a := if_pos rfl

theorem upd_other (ρ : Nat → V) {v w : Nat} (a : V) (h : w ≠ v) : upd ρ v a w = ρ w := if_neg h

theorem upd_comm (ρ : Nat → V) {u v : Nat} (a b : V) (h : u ≠ v) :
    upd (upd ρ u a) v b = upd (upd ρ v b) u a := by
  funext w
  by_cases h1 : w = v
  · subst h1; rw [upd_same, upd_other _ _ (Ne.symm h), upd_same]
  · by_cases h2 : w = u
    · subst h2; rw [upd_other _ _ h1, upd_same, upd_same]
    · rw [upd_other _ _ h1, upd_other _ _ h2, upd_other _ _ h2, upd_other _ _ h1]

theorem upd_upd (ρ : Nat → V) (v : Nat) (a b : V) : upd (upd ρ v a) v b = upd ρ v b := by
  funext w
  by_cases h : w = v
  · subst h; rw [upd_same, upd_same]
  · rw [upd_other _ _ h, upd_other _ _ h, upd_other _ _ h]

theorem upd_self (ρ : Nat → V) (v : Nat) : upd ρ v (ρ v) = ρ := by
  funext w
  by_cases h : w = v
  · subst h; rw [upd_same]
  · rw [upd_other _ _ h]

def Typed (H : Nat → V → Prop) (ρ : Nat → V) : Prop := ∀ v, H v (ρ v)

theorem Typed.upd {H : Nat → V → Prop} {ρ : Nat → V} (h : Typed H ρ) (v : Nat) (a : V) (ha : H v a) :
    Typed H (upd ρ v a) := by
  intro w
  by_cases e : w = v
  · subst e; rw [upd_same]; exact ha
  · rw [upd_other ρ a e]; exact h w

variable (f : M → X → (Nat → V) → V) (piv : M → Nat)

def IndepOf (m : M) (u : Nat) : Prop := ∀ x ρ a, f m x (upd ρ u a) = f m x ρ

/-- `g x ρ c` is the value of the pivot coordinate at which message `m` comes out as `c`, the rest of
    the tape being that of `ρ` -/
structure Solves (m : M) (g : X → (Nat → V) → V → V) : Prop where
  blind : ∀ x ρ a c, g x (upd ρ (piv m) a) c = g x ρ c
  hit : ∀ x ρ c, f m x (upd ρ (piv m) (g x ρ c)) = c
  back : ∀ x ρ, g x ρ (f m x ρ) = ρ (piv m)

variable {f piv}

/-- there is only one pivot value at which the message is `c` -/
theorem Solves.indep {m : M} {g : X → (Nat → V) → V → V} (h : Solves f piv m g) {u : Nat}
    (hu : u ≠ piv m) (hi : IndepOf f m u) (x : X) (ρ : Nat → V) (a c : V) :
    g x (upd ρ u a) c = g x ρ c := by
  have e := h.hit x (upd ρ u a) c
  rw [upd_comm ρ _ _ hu, hi] at e
  have := h.back x (upd ρ (piv m) (g x (upd ρ u a) c))
  rw [e, h.blind, upd_same] at this
  exact this.symm

variable (f piv) (H : Nat → V → Prop)

/-- One direction of a simulation.  `comm` is what makes the induction go: to undo the step for a new
    message (`Half.cons`, field `inv`) `τ` must commute with setting the NEW pivot, and that is `comm` of
    the OTHER direction at a coordinate none of the earlier messages depends on (`exists_sim`:
    `h2.comm _ hm`). -/
structure Half (msgs : List M) (x x' : X) (σ τ : (Nat → V) → (Nat → V)) : Prop where
  inv : ∀ ρ, τ (σ ρ) = ρ
  align : ∀ ρ, ∀ m ∈ msgs, f m x ρ = f m x' (σ ρ)
  fix : ∀ ρ v, (∀ m ∈ msgs, v ≠ piv m) → σ ρ v = ρ v
  comm : ∀ u, (∀ m ∈ msgs, u ≠ piv m ∧ IndepOf f m u) → ∀ ρ a, σ (upd ρ u a) = upd (σ ρ) u a
  typed : ∀ ρ, Typed H ρ → Typed H (σ ρ)

variable {f piv H}

theorem Half.cons {m : M} {rest : List M} {x x' : X} {σ τ : (Nat → V) → (Nat → V)}
    {g : X → (Nat → V) → V → V} (h : Half f piv H rest x x' σ τ) (hg : Solves f piv m g)
    (hty : ∀ ρ ρ', Typed H ρ → Typed H ρ' → H (piv m) (g x' ρ' (f m x ρ)))
    (hind : ∀ m' ∈ rest, piv m ≠ piv m' ∧ IndepOf f m' (piv m))
    (hτ : ∀ ρ a, τ (upd ρ (piv m) a) = upd (τ ρ) (piv m) a) :
    Half f piv H (m :: rest) x x' (fun ρ => upd (σ ρ) (piv m) (g x' (σ ρ) (f m x ρ)))
      (fun ρ' => upd (τ ρ') (piv m) (g x (τ ρ') (f m x' ρ'))) where
  inv ρ := by
    rw [hg.hit, hτ, h.inv, hg.blind, hg.back x ρ, upd_upd, upd_self]
  align ρ m' hm' := by
    rcases List.mem_cons.1 hm' with rfl | hm'
    · exact (hg.hit x' (σ ρ) _).symm
    · rw [(hind m' hm').2 x' (σ ρ), ← h.align ρ m' hm']
  fix ρ v hv := by
    rw [upd_other _ _ (hv m List.mem_cons_self),
      h.fix ρ v (fun m' hm' => hv m' (List.mem_cons_of_mem _ hm'))]
  comm u hu ρ a := by
    have hum := hu m List.mem_cons_self
    rw [h.comm u (fun m' hm' => hu m' (List.mem_cons_of_mem _ hm')), hum.2 x ρ a,
      hg.indep hum.1 hum.2, upd_comm _ _ _ hum.1]
  typed ρ hρ := (h.typed ρ hρ).upd _ _ (hty ρ (σ ρ) hρ (h.typed ρ hρ))

variable (f piv H)

def Pivotal (PX : X → Prop) (m : M) : Prop :=
  ∃ g, Solves f piv m g ∧
    ∀ x x', PX x → PX x' → ∀ ρ ρ', Typed H ρ → Typed H ρ' → H (piv m) (g x' ρ' (f m x ρ))

theorem exists_sim (PX : X → Prop) (msgs : List M) (hs : ∀ m ∈ msgs, Pivotal f piv H PX m)
    (hp : msgs.Pairwise (fun m m' => piv m ≠ piv m' ∧ IndepOf f m' (piv m)))
    (x x' : X) (hx : PX x) (hx' : PX x') :
    ∃ σ τ : (Nat → V) → (Nat → V), Half f piv H msgs x x' σ τ ∧ Half f piv H msgs x' x τ σ := by
  induction msgs with
  | nil =>
    have nil : ∀ x x', Half f piv H [] x x' id id := fun _ _ =>
      ⟨fun _ => rfl, fun _ _ hm => (nomatch hm), fun _ _ _ => rfl, fun _ _ _ _ => rfl, fun _ h => h⟩
    exact ⟨id, id, nil x x', nil x' x⟩
  | cons m rest ih =>
    obtain ⟨hm, hrest⟩ := List.pairwise_cons.1 hp
    obtain ⟨g, hg, hty⟩ := hs m List.mem_cons_self
    obtain ⟨σ, τ, h1, h2⟩ := ih (fun m' h => hs m' (List.mem_cons_of_mem _ h)) hrest
    exact ⟨_, _, h1.cons hg (hty x x' hx hx') hm (h2.comm _ hm),
      h2.cons hg (hty x' x hx' hx) hm (h1.comm _ hm)⟩

end CCV.PivotCore
