import CCV.Model.TypeInfer
/-
  Lemmas about the model of type inference (C09): the generic loop, `broadcast_shapes`, the slice functions, and
  the typing rules read backwards (what an accepted node says about its dependency types) for Truncate, Sum,
  CumSum, PermuteAxes, Get, GetSlice, Reshape, TupleGet, NamedTupleGet, VectorGet, ArrayToVector, VectorToArray,
  Gather, InversePermutation, ApplyPermutation.  The rules whose reading needs the evaluator's vocabulary
  (MixedMultiply, Dot, Matmul, Gemm, A2B, B2A, Stack, Concatenate, Zip) are read in Lemmas/EvalOps3.lean,
  EvalOps4.lean, EvalOps6.lean; Sort, Call, Iterate, PRF, Cuckoo*, SegmentCumSum are not read at all.
  An inverted rule states only what the value theorems use: checks such as "the index type is UINT*" are dropped.
-/
namespace CCV.TI
open CCV CCV.TV

/-- every check of a typing rule has this form -/
theorem of_ite_error {ε α : Type} {c : Prop} [Decidable c] {e : ε} {x : Except ε α} {r : α}
    (h : (if c then .error e else x) = .ok r) : ¬ c ∧ x = .ok r := by
  by_cases hc : c
  · rw [if_pos hc] at h
    cases h
  · rw [if_neg hc] at h
    exact ⟨hc, h⟩

theorem ite_cases {α : Type} {c : Prop} [Decidable c] {x y r : α} (h : (if c then x else y) = r) :
    (c ∧ x = r) ∨ (¬ c ∧ y = r) := by
  by_cases hc : c
  · exact .inl ⟨hc, (if_pos hc).symm.trans h⟩
  · exact .inr ⟨hc, (if_neg hc).symm.trans h⟩

theorem loopE_succ_ok {β : Type} {f : Nat → Except String β} {i k : Nat} {r : List β} :
    loopE f i (k + 1) = .ok r ↔ ∃ b bs, f i = .ok b ∧ loopE f (i + 1) k = .ok bs ∧ r = b :: bs := by
  simp only [loopE]
  cases f i with
  | error e => exact ⟨(fun h => nomatch h), fun ⟨_, _, h, _⟩ => nomatch h⟩
  | ok b =>
    cases loopE f (i + 1) k with
    | error e => exact ⟨(fun h => nomatch h), fun ⟨_, _, _, h, _⟩ => nomatch h⟩
    | ok bs =>
      exact ⟨fun h => ⟨b, bs, rfl, rfl, (Except.ok.inj h).symm⟩,
        fun ⟨_, _, h1, h2, h3⟩ => by cases h1; cases h2; rw [h3]⟩

/-- everything about `broadcast_shapes` rests on this -/
theorem loopE_ok_iff {β : Type} (f : Nat → Except String β) : ∀ (k i : Nat) (r : List β),
    loopE f i k = .ok r ↔ (r.length = k ∧ ∀ j (h : j < r.length), f (i + j) = .ok r[j])
  | 0, i, [] => ⟨fun _ => ⟨rfl, fun j h => nomatch h⟩, fun _ => rfl⟩
  | 0, i, _ :: _ => ⟨(fun h => nomatch h), fun h => nomatch h.1⟩
  | k + 1, i, r => by
    rw [loopE_succ_ok]
    constructor
    · rintro ⟨b, bs, hf, hl, rfl⟩
      obtain ⟨hlen, hj⟩ := (loopE_ok_iff f k (i + 1) bs).mp hl
      refine ⟨congrArg Nat.succ hlen, fun j h => ?_⟩
      cases j with
      | zero => exact hf
      | succ j => exact Nat.add_right_comm i 1 j ▸ hj j (Nat.lt_of_succ_lt_succ h)
    · rintro ⟨hlen, hj⟩
      cases r with
      | nil => exact nomatch hlen
      | cons b bs =>
        exact ⟨b, bs, hj 0 (Nat.succ_pos _), (loopE_ok_iff f k (i + 1) bs).mpr ⟨Nat.succ.inj hlen, fun j h => by
          rw [Nat.add_right_comm]; exact hj (j + 1) (Nat.succ_lt_succ h)⟩, rfl⟩

theorem loopE_total {β : Type} (f : Nat → Except String β) : ∀ (k i : Nat),
    (∀ j, j < k → ∃ b, f (i + j) = .ok b) → ∃ r, loopE f i k = .ok r
  | 0, _, _ => ⟨[], rfl⟩
  | k + 1, i, h => by
    obtain ⟨b, hb⟩ := h 0 (by omega)
    obtain ⟨bs, hbs⟩ := loopE_total f k (i + 1) (fun j hj => by
      have := h (j + 1) (by omega)
      simpa [Nat.add_assoc, Nat.add_comm 1 j] using this)
    refine ⟨b :: bs, ?_⟩
    simp only [loopE]
    rw [Nat.add_zero] at hb
    rw [hb, hbs]

theorem bcastDim_comm (a b : Nat) : bcastDim a b = bcastDim b a := by
  unfold bcastDim
  by_cases h : 1 < a ∧ 1 < b ∧ a ≠ b
  · have h' : 1 < b ∧ 1 < a ∧ b ≠ a := ⟨h.2.1, h.1, fun e => h.2.2 e.symm⟩
    rw [if_pos h, if_pos h']
  · have h' : ¬ (1 < b ∧ 1 < a ∧ b ≠ a) := fun x => h ⟨x.2.1, x.1, fun e => x.2.2 e.symm⟩
    rw [if_neg h, if_neg h']
    congr 1
    by_cases hab : a ≤ b <;> by_cases hba : b ≤ a <;> simp [hab, hba] <;> omega

theorem bcastDim_self (a : Nat) : bcastDim a a = .ok a := by
  unfold bcastDim
  simp

theorem bcastDim_ok {a b c : Nat} (h : bcastDim a b = .ok c) :
    ¬ (1 < a ∧ 1 < b ∧ a ≠ b) ∧ c = (if a ≤ b then b else a) := by
  unfold bcastDim at h
  by_cases hc : 1 < a ∧ 1 < b ∧ a ≠ b
  · rw [if_pos hc] at h; cases h
  · rw [if_neg hc] at h
    injection h with h
    exact ⟨hc, h.symm⟩

theorem bcastDim_ok_pos {a b c : Nat} (ha : 0 < a) (hb : 0 < b) (h : bcastDim a b = .ok c) :
    (a = c ∨ a = 1) ∧ (b = c ∨ b = 1) ∧ 0 < c := by
  obtain ⟨h1, h2⟩ := bcastDim_ok h
  by_cases hab : a ≤ b
  · rw [if_pos hab] at h2
    rw [h2]
    refine ⟨?_, Or.inl rfl, hb⟩
    by_cases e : a = b
    · exact Or.inl e
    · right
      have : ¬ (1 < a ∧ 1 < b) := fun x => h1 ⟨x.1, x.2, e⟩
      omega
  · rw [if_neg hab] at h2
    rw [h2]
    refine ⟨Or.inl rfl, ?_, ha⟩
    right
    have : ¬ (1 < a ∧ 1 < b) := fun x => h1 ⟨x.1, x.2, by omega⟩
    omega

def maxLen (s1 s2 : List Nat) : Nat := if s1.length ≤ s2.length then s2.length else s1.length

theorem maxLen_comm (s1 s2 : List Nat) : maxLen s1 s2 = maxLen s2 s1 := by
  unfold maxLen; split <;> split <;> omega

theorem broadcastShapes_eq (s1 s2 : List Nat) : broadcastShapes s1 s2 =
    loopE (fun i => bcastDim (dimAt s1 (maxLen s1 s2 - s1.length) i) (dimAt s2 (maxLen s1 s2 - s2.length) i)) 0 (maxLen s1 s2) := rfl

theorem broadcastShapes_comm (s1 s2 : List Nat) : broadcastShapes s1 s2 = broadcastShapes s2 s1 := by
  rw [broadcastShapes_eq, broadcastShapes_eq, maxLen_comm s2 s1]
  congr 1
  funext i
  exact bcastDim_comm _ _

theorem broadcastShapes_ok_iff (s1 s2 r : List Nat) : broadcastShapes s1 s2 = .ok r ↔
    (r.length = maxLen s1 s2 ∧ ∀ j (h : j < r.length),
      bcastDim (dimAt s1 (maxLen s1 s2 - s1.length) j) (dimAt s2 (maxLen s1 s2 - s2.length) j) = .ok r[j]) := by
  rw [broadcastShapes_eq, loopE_ok_iff]
  simp only [Nat.zero_add]

theorem dimAt_zero_lt (s : List Nat) (j : Nat) (h : j < s.length) : dimAt s 0 j = s[j] := by
  unfold dimAt
  simp [List.getD_eq_getElem?_getD, h]

theorem dimAt_pos {s : List Nat} (hs : ∀ d ∈ s, 0 < d) (off j : Nat) : 0 < dimAt s off j := by
  unfold dimAt
  split
  · rw [List.getD_eq_getElem?_getD]
    cases h : s[j - off]? with
    | none => simp
    | some d =>
      simp only [Option.getD_some]
      exact hs d (List.mem_of_getElem? h)
  · exact Nat.one_pos

theorem dimAt_eq_getElem (s : List Nat) (off j : Nat) (h1 : off ≤ j) (h2 : j - off < s.length) :
    dimAt s off j = s[j - off] := by
  unfold dimAt
  simp [List.getD_eq_getElem?_getD, h1, h2]

theorem broadcastShapes_idem (s : List Nat) : broadcastShapes s s = .ok s := by
  rw [broadcastShapes_ok_iff]
  have hm : maxLen s s = s.length := by unfold maxLen; simp
  refine ⟨hm.symm, ?_⟩
  intro j h
  rw [hm, Nat.sub_self, dimAt_zero_lt s j h]
  exact bcastDim_self _

theorem broadcastShapes_length {s1 s2 r : List Nat} (h : broadcastShapes s1 s2 = .ok r) :
    r.length = maxLen s1 s2 := ((broadcastShapes_ok_iff s1 s2 r).mp h).1

theorem broadcastShapes_dims {s1 s2 r : List Nat} (h1 : ∀ d ∈ s1, 0 < d) (h2 : ∀ d ∈ s2, 0 < d)
    (h : broadcastShapes s1 s2 = .ok r) (j : Nat) (hj : j < r.length) :
    (dimAt s1 (r.length - s1.length) j = r[j] ∨ dimAt s1 (r.length - s1.length) j = 1) ∧
    (dimAt s2 (r.length - s2.length) j = r[j] ∨ dimAt s2 (r.length - s2.length) j = 1) ∧ 0 < r[j] := by
  obtain ⟨hl, hd⟩ := (broadcastShapes_ok_iff s1 s2 r).mp h
  rw [hl]
  exact bcastDim_ok_pos (dimAt_pos h1 _ _) (dimAt_pos h2 _ _) (hd j hj)

theorem broadcastShapes_pos {s1 s2 r : List Nat} (h1 : ∀ d ∈ s1, 0 < d) (h2 : ∀ d ∈ s2, 0 < d)
    (h : broadcastShapes s1 s2 = .ok r) : ∀ d ∈ r, 0 < d := by
  intro d hd
  obtain ⟨j, hj, rfl⟩ := List.getElem_of_mem hd
  exact (broadcastShapes_dims h1 h2 h j hj).2.2

theorem mul_succ_cast (s : Int) (j : Nat) : s * ((j + 1 : Nat) : Int) = s * (j : Int) + s := by
  rw [Int.natCast_succ, Int.mul_add, Int.mul_one]

/-- invariant of the counting loop of `get_slice_shape_1d`: the loop visits exactly the indices
    `cur, cur + step, …` (`c - cnt` of them), all inside `[0, dim)` and strictly before `end_`
    (in the direction of `step`), and stops at the first index at or beyond `end_`. -/
theorem sliceLoop_spec (dim : Nat) (e s : Int) : ∀ (fuel : Nat) (cur : Int) (cnt c : Nat),
    sliceLoop dim e s fuel cur cnt = .ok c →
      cnt ≤ c ∧
      (∀ j : Nat, j < c - cnt →
        0 ≤ cur + s * (j : Int) ∧ cur + s * (j : Int) < dim ∧
        (0 < s → cur + s * (j : Int) < e) ∧ (s < 0 → e < cur + s * (j : Int))) ∧
      ((0 < s ∧ e ≤ cur + s * ((c - cnt : Nat) : Int)) ∨ (s < 0 ∧ cur + s * ((c - cnt : Nat) : Int) ≤ e)) := by
  intro fuel
  induction fuel with
  | zero => intro cur cnt c h; simp [sliceLoop] at h
  | succ fuel ih =>
    intro cur cnt c h
    unfold sliceLoop at h
    by_cases hstop : (0 < s ∧ e ≤ cur) ∨ (s < 0 ∧ cur ≤ e)
    · rw [if_pos hstop] at h
      injection h with h
      subst h
      refine ⟨Nat.le_refl _, ?_, ?_⟩
      · intro j hj; omega
      · simpa using hstop
    · rw [if_neg hstop] at h
      by_cases hoob : cur < 0 ∨ (dim : Int) ≤ cur
      · rw [if_pos hoob] at h; cases h
      · rw [if_neg hoob] at h
        obtain ⟨h1, h2, h3⟩ := ih (cur + s) (cnt + 1) c h
        refine ⟨by omega, ?_, ?_⟩
        · intro j hj
          cases j with
          | zero =>
            simp only [Int.natCast_zero, Int.mul_zero, Int.add_zero]
            omega
          | succ j =>
            have := h2 j (by omega)
            rw [mul_succ_cast]
            omega
        · have hc : c - cnt = (c - (cnt + 1)) + 1 := by omega
          rw [hc, mul_succ_cast]
          omega

theorem sliceLoop_count_pos_step {dim : Nat} {e s : Int} {fuel : Nat} {b : Int} {c : Nat}
    (h : sliceLoop dim e s fuel b 0 = .ok c) (hs : 0 < s) (hc : 0 < c) :
    s * ((c : Int) - 1) < e - b ∧ e - b ≤ s * (c : Int) := by
  obtain ⟨_, h2, h3⟩ := sliceLoop_spec dim e s fuel b 0 c h
  have hl := h2 (c - 1) (by omega)
  have hc' : ((c - 1 : Nat) : Int) = (c : Int) - 1 := by omega
  rw [hc'] at hl
  simp only [Nat.sub_zero] at h3
  rcases h3 with ⟨_, h3⟩ | ⟨h3, _⟩
  · have := hl.2.2.1 hs
    omega
  · omega

theorem sliceLoop_count_neg_step {dim : Nat} {e s : Int} {fuel : Nat} {b : Int} {c : Nat}
    (h : sliceLoop dim e s fuel b 0 = .ok c) (hs : s < 0) (hc : 0 < c) :
    (-s) * ((c : Int) - 1) < b - e ∧ b - e ≤ (-s) * (c : Int) := by
  obtain ⟨_, h2, h3⟩ := sliceLoop_spec dim e s fuel b 0 c h
  have hl := h2 (c - 1) (by omega)
  have hc' : ((c - 1 : Nat) : Int) = (c : Int) - 1 := by omega
  rw [hc'] at hl
  simp only [Nat.sub_zero] at h3
  rw [Int.neg_mul, Int.neg_mul]
  rcases h3 with ⟨h3, _⟩ | ⟨_, h3⟩
  · omega
  · have := hl.2.2.2 hs
    omega

/-- documented slice length: `⌈(stop − start) / step⌉` for a positive step. -/
theorem ceil_pos_step {s d : Int} {c : Int} (hs : 0 < s) (h1 : s * (c - 1) < d) (h2 : d ≤ s * c) :
    c = (d + s - 1) / s := by
  have e1 : s * (c - 1) = c * s - s := by rw [Int.mul_sub, Int.mul_one, Int.mul_comm]
  have e2 : s * c = c * s := Int.mul_comm _ _
  have a1 : c ≤ (d + s - 1) / s := (Int.le_ediv_iff_mul_le hs).mpr (by omega)
  have a2 : (d + s - 1) / s < c + 1 := (Int.ediv_lt_iff_lt_mul hs).mpr (by rw [Int.add_mul, Int.one_mul]; omega)
  omega

theorem sliceShape1d_sub_spec {dim : Nat} {b e s : Option Int} {r : Option Nat}
    (h : sliceShape1d dim (.sub b e s) = .ok r) :
    ∃ bg en st c, normalizeSub dim b e s = .ok (bg, en, st) ∧ r = some c ∧ 0 < c ∧ st ≠ 0 ∧
      (∀ j : Nat, j < c → 0 ≤ bg + st * (j : Int) ∧ bg + st * (j : Int) < dim) ∧
      (0 < st → (c : Int) = (en - bg + st - 1) / st) ∧
      (st < 0 → (c : Int) = (bg - en + (-st) - 1) / (-st)) := by
  simp only [sliceShape1d] at h
  cases hn : normalizeSub dim b e s with
  | error err => rw [hn] at h; cases h
  | ok t =>
    obtain ⟨bg, en, st⟩ := t
    rw [hn] at h
    simp only [] at h
    cases hl : sliceLoop dim en st (dim + 1) bg 0 with
    | error err => rw [hl] at h; cases h
    | ok c =>
      rw [hl] at h
      simp only [] at h
      obtain ⟨hc, h⟩ := of_ite_error h
      cases h
      have hst : st ≠ 0 := by
        have h0 := of_ite_error hn
        cases h0.2
        exact h0.1
      refine ⟨bg, en, st, c, rfl, rfl, by omega, hst, ?_, ?_, ?_⟩
      · intro j hj
        obtain ⟨_, h2, _⟩ := sliceLoop_spec dim en st (dim + 1) bg 0 c hl
        have := h2 j (by omega)
        exact ⟨this.1, this.2.1⟩
      · intro hs
        obtain ⟨a1, a2⟩ := sliceLoop_count_pos_step hl hs (by omega)
        exact ceil_pos_step hs a1 a2
      · intro hs
        obtain ⟨a1, a2⟩ := sliceLoop_count_neg_step hl hs (by omega)
        exact ceil_pos_step (by omega) a1 a2

theorem slice1dIndex_in_range {dim : Nat} {b e s : Option Int} {c : Nat}
    (h : sliceShape1d dim (.sub b e s) = .ok (some c)) (j : Nat) (hj : j < c) :
    ∃ x, slice1dIndex dim b e s j = .ok x ∧ x < dim := by
  obtain ⟨bg, en, st, c', hn, hr, _, _, hrange, _, _⟩ := sliceShape1d_sub_spec h
  injection hr with hr
  subst hr
  obtain ⟨r1, r2⟩ := hrange j hj
  unfold slice1dIndex
  rw [hn]
  simp only []
  rw [if_neg (by omega)]
  exact ⟨_, rfl, by omega⟩

theorem cons_bound {x d : Nat} {src ds : List Nat} (h0 : x < d)
    (h : ∀ i (h : i < src.length), src[i] < ds.getD i 0) :
    ∀ i (h : i < (x :: src).length), (x :: src)[i] < (d :: ds).getD i 0
  | 0, _ => h0
  | i + 1, hi => h i (Nat.lt_of_succ_lt_succ hi)

/-- the loop of `slice_index` on an accepted clean slice: `j` digits of `index` are already consumed, the next
    `rs.length` digits are valid for the result shape `rs`; every source digit is below its dimension and
    exactly `rs.length` more digits are consumed (single indices consume none) -/
theorem sliceIndexGo_in_range (index : List Nat) : ∀ (shape : List Nat) (clean : List SliceEl) (rs : List Nat) (j : Nat),
    sliceShapeGo shape clean = .ok rs →
    j + rs.length ≤ index.length →
    (∀ i (h : i < rs.length), index.getD (j + i) 0 < rs[i]) →
    ∃ src, sliceIndexGo index shape clean j = .ok (src, j + rs.length) ∧ src.length = shape.length ∧
      ∀ i (h : i < src.length), src[i] < shape.getD i 0
  | [], clean, rs, j, h, _, _ => by
    cases h
    exact ⟨[], rfl, rfl, fun i h => nomatch h⟩
  | d :: ds, [], rs, j, h, hl, hi => by
    cases hr : sliceShapeGo ds [] with
    | error e => rw [sliceShapeGo, hr] at h; cases h
    | ok r' =>
      rw [sliceShapeGo, hr] at h
      cases h
      obtain ⟨src', hs1, hs2, hs3⟩ := sliceIndexGo_in_range index ds [] r' (j + 1) hr
        (by rw [Nat.add_right_comm]; exact hl)
        (fun i h => by rw [Nat.add_right_comm]; exact hi (i + 1) (Nat.succ_lt_succ h))
      refine ⟨index.getD j 0 :: src', ?_, congrArg Nat.succ hs2, cons_bound (hi 0 (Nat.succ_pos _)) hs3⟩
      rw [sliceIndexGo, if_neg (Nat.not_le.mpr (Nat.lt_of_lt_of_le (Nat.lt_add_of_pos_right (Nat.succ_pos _)) hl)), hs1,
        Nat.add_right_comm]
      rfl
  | d :: ds, .ellipsis :: els, rs, j, h, _, _ => by
    rw [sliceShapeGo] at h
    cases h
  | d :: ds, .single ind :: els, rs, j, h, hl, hi => by
    rw [sliceShapeGo] at h
    cases h1 : sliceShape1d d (.single ind) with
    | error e => rw [h1] at h; cases h
    | ok o =>
      rw [h1] at h
      obtain ⟨hb, ho⟩ := of_ite_error h1
      cases ho
      obtain ⟨src', hs1, hs2, hs3⟩ := sliceIndexGo_in_range index ds els rs j h hl hi
      have hreal : (if 0 ≤ ind then ind else ind + (d : Int)) = (if ind < 0 then ind + (d : Int) else ind) := by
        by_cases h0 : 0 ≤ ind
        · rw [if_pos h0, if_neg (Int.not_lt.mpr h0)]
        · rw [if_neg h0, if_pos (Int.not_le.mp h0)]
      rw [← hreal] at hb
      refine ⟨(if 0 ≤ ind then ind else ind + (d : Int)).toNat :: src', ?_, congrArg Nat.succ hs2,
        cons_bound (by omega) hs3⟩
      rw [sliceIndexGo, if_neg (by omega), hs1]
  | d :: ds, .sub b e s :: els, rs, j, h, hl, hi => by
    rw [sliceShapeGo] at h
    cases h1 : sliceShape1d d (.sub b e s) with
    | error e => rw [h1] at h; cases h
    | ok o =>
      rw [h1] at h
      obtain ⟨_, _, _, c, _, rfl, _⟩ := sliceShape1d_sub_spec h1
      cases hr : sliceShapeGo ds els with
      | error err => rw [hr] at h; cases h
      | ok r' =>
        rw [hr] at h
        cases h
        obtain ⟨x, hx1, hx2⟩ := slice1dIndex_in_range h1 (index.getD j 0) (hi 0 (Nat.succ_pos _))
        obtain ⟨src', hs1, hs2, hs3⟩ := sliceIndexGo_in_range index ds els r' (j + 1) hr
          (by rw [Nat.add_right_comm]; exact hl)
          (fun i h => by rw [Nat.add_right_comm]; exact hi (i + 1) (Nat.succ_lt_succ h))
        refine ⟨x :: src', ?_, congrArg Nat.succ hs2, cons_bound hx2 hs3⟩
        rw [sliceIndexGo, if_neg (Nat.not_le.mpr (Nat.lt_of_lt_of_le (Nat.lt_add_of_pos_right (Nat.succ_pos _)) hl)), hx1]
        dsimp only
        rw [hs1, Nat.add_right_comm]
        rfl

/-- `slice_index` on an accepted slice: an index of the result shape (or the single index `[0]` the evaluator
    uses for a scalar result) is mapped to an in-range index of the operand -/
theorem sliceIndex_of_shape {shape : List Nat} {sl : List SliceEl} {rs : List Nat}
    (h : getSliceShape shape sl = .ok rs) (index : List Nat)
    (hlen : index.length = rs.length ∨ (rs = [] ∧ index = [0]))
    (hi : ∀ i (h : i < rs.length), index.getD i 0 < rs[i]) :
    ∃ src, sliceIndex shape sl index = .ok src ∧ src.length = shape.length ∧
      ∀ i (h : i < src.length), src[i] < shape.getD i 0 := by
  unfold getSliceShape at h
  cases hc : getCleanSlice shape.length sl with
  | error e => rw [hc] at h; cases h
  | ok clean =>
    rw [hc] at h
    have hle : 0 + rs.length ≤ index.length := by
      rw [Nat.zero_add]
      rcases hlen with hl | ⟨rfl, rfl⟩
      · exact Nat.le_of_eq hl.symm
      · exact Nat.zero_le _
    obtain ⟨src, h1, h2, h3⟩ := sliceIndexGo_in_range index shape clean rs 0 h hle
      (fun i hh => by rw [Nat.zero_add]; exact hi i hh)
    refine ⟨src, ?_, h2, h3⟩
    unfold sliceIndex
    rw [hc]
    dsimp only
    rw [h1]
    dsimp only
    rw [Nat.zero_add]
    rcases hlen with hl | ⟨rfl, rfl⟩
    · split
      · rfl
      · rw [if_neg fun hne => hne hl.symm]
    · exact if_pos ⟨rfl, rfl⟩

theorem hasDup_false_nodup : ∀ (l : List Nat), hasDup l = false → l.Nodup
  | [], _ => List.nodup_nil
  | x :: xs, h => by
    simp only [hasDup, Bool.or_eq_false_iff] at h
    exact List.nodup_cons.mpr ⟨by simpa using h.1, hasDup_false_nodup xs h.2⟩

theorem dropAxes_nil (s : List Nat) (k : Nat) : dropAxes [] s k = s := by
  induction s generalizing k with
  | nil => rfl
  | cons d ds ih => simp [dropAxes, ih]

theorem dropAxes_spec (axes s : List Nat) (k : Nat) :
    dropAxes axes s k = ((s.zipIdx k).filter (fun p => !axes.contains p.2)).map (·.1) := by
  induction s generalizing k with
  | nil => rfl
  | cons d ds ih =>
    simp only [dropAxes, List.zipIdx_cons, List.filter_cons]
    by_cases h : k ∈ axes
    · simp [h, ih]
    · simp [h, ih]

theorem transposeShape_append (b : List Nat) (x y : Nat) (flag : Bool) :
    transposeShape (b ++ [x, y]) flag = b ++ (if flag then [y, x] else [x, y]) := by
  unfold transposeShape
  cases flag with
  | false => simp
  | true =>
    have l : (b ++ [x, y]).length = b.length + 2 := by simp
    simp [l, List.getD_eq_getElem?_getD]

/-- the last two dimensions of a shape and what is in front of them, as the rules of Matmul and Gemm read them -/
theorem append_two (b : List Nat) (x y : Nat) :
    (b ++ [x, y]).take ((b ++ [x, y]).length - 2) = b ∧
    (b ++ [x, y]).getD ((b ++ [x, y]).length - 2) 0 = x ∧
    (b ++ [x, y]).getD ((b ++ [x, y]).length - 1) 0 = y ∧ (b ++ [x, y]).length ≠ 1 := by
  have l : (b ++ [x, y]).length = b.length + 2 := List.length_append
  rw [l, Nat.add_sub_cancel]
  refine ⟨List.take_left' rfl, ?_, ?_, Nat.succ_ne_succ_iff.mpr (Nat.succ_ne_zero _)⟩
  · rw [List.getD_eq_getElem?_getD, List.getElem?_append_right (Nat.le_refl _), Nat.sub_self]
    rfl
  · show (b ++ [x, y]).getD (b.length + 1) 0 = y
    rw [List.getD_eq_getElem?_getD, List.getElem?_append_right (Nat.le_succ _), Nat.succ_sub (Nat.le_refl _),
      Nat.sub_self]
    rfl

theorem arrOrScalar_ne {s : List Nat} (st : ST) (h : s ≠ []) : arrOrScalar s st = .array s st := by
  cases s with
  | nil => exact absurd rfl h
  | cons d ds => rfl

theorem infer_ok {op : Op} {tys : List Ty} {t : Ty} (h : infer op tys = .ok t) :
    arityOk op tys.length = true ∧ inferRaw op tys = .ok t ∧ (registers op = true → t.isValid = true) := by
  unfold infer at h
  split at h
  · cases h
  · rename_i ha
    split at h
    · cases h
    · rename_i t' hraw
      split at h
      · cases h
      · rename_i hv
        cases h
        refine ⟨by simpa using ha, hraw, fun hr => ?_⟩
        cases hval : t.isValid with
        | true => rfl
        | false => exact absurd ⟨hr, hval⟩ hv

theorem infer_ok_raw {op : Op} {tys : List Ty} {t : Ty} (h : infer op tys = .ok t) :
    inferRaw op tys = .ok t := (infer_ok h).2.1

theorem inferBin_ok {f : Ty → Ty → Except String Ty} {tys : List Ty} {t : Ty} (h : inferBin f tys = .ok t) :
    ∃ a b, tys = [a, b] ∧ f a b = .ok t := by
  unfold inferBin at h
  split at h
  · exact ⟨_, _, rfl, h⟩
  · cases h

theorem inferUn_ok {f : Ty → Except String Ty} {tys : List Ty} {t : Ty} (h : inferUn f tys = .ok t) :
    ∃ a, tys = [a] ∧ f a = .ok t := by
  unfold inferUn at h
  split at h
  · exact ⟨_, rfl, h⟩
  · cases h

theorem inferTruncate_ok {d : Nat} {tys : List Ty} {t : Ty} (h : inferTruncate d tys = .ok t) :
    tys = [t] ∧ d ≠ 0 ∧ ∃ st, stOf t = some st := by
  unfold inferTruncate at h
  split at h
  · obtain ⟨hd, h⟩ := of_ite_error h
    split at h
    · cases h
    · rename_i st hst
      cases (of_ite_error h).2
      exact ⟨rfl, hd, st, hst⟩
  · cases h

theorem lt_of_not_any {axes : List Nat} {n : Nat} (h : ¬ axes.any (fun x => decide (n ≤ x)) = true) :
    ∀ a ∈ axes, a < n :=
  fun a ha => Nat.lt_of_not_le fun hle => h (List.any_eq_true.mpr ⟨a, ha, decide_eq_true hle⟩)

theorem inferSum_ok {axes : List Nat} {tys : List Ty} {t : Ty} (h : inferSum axes tys = .ok t) :
    ∃ s st, tys = [.array s st] ∧ hasDup axes = false ∧ (∀ a ∈ axes, a < s.length) ∧
      t = arrOrScalar (dropAxes axes s 0) st := by
  unfold inferSum at h
  split at h
  · obtain ⟨hd, h⟩ := of_ite_error h
    obtain ⟨ha, h⟩ := of_ite_error h
    cases h
    exact ⟨_, _, rfl, Bool.of_not_eq_true hd, lt_of_not_any ha, rfl⟩
  · cases h

theorem inferCumSum_ok {axis : Nat} {tys : List Ty} {t : Ty} (h : inferCumSum axis tys = .ok t) :
    ∃ s st, tys = [.array s st] ∧ axis < s.length ∧ t = .array s st := by
  unfold inferCumSum at h
  split at h
  · obtain ⟨ha, h⟩ := of_ite_error h
    cases h
    exact ⟨_, _, rfl, Nat.lt_of_not_le ha, rfl⟩
  · cases h

theorem inferPermuteAxes_ok {axes : List Nat} {tys : List Ty} {t : Ty} (h : inferPermuteAxes axes tys = .ok t) :
    ∃ s st, tys = [.array s st] ∧ hasDup axes = false ∧ (∀ a ∈ axes, a < s.length) ∧ axes.length = s.length ∧
      t = .array (axes.map fun i => s.getD i 0) st := by
  unfold inferPermuteAxes at h
  split at h
  · obtain ⟨hd, h⟩ := of_ite_error h
    obtain ⟨ha, h⟩ := of_ite_error h
    obtain ⟨hl, h⟩ := of_ite_error h
    cases h
    exact ⟨_, _, rfl, Bool.of_not_eq_true hd, lt_of_not_any ha, Decidable.of_not_not hl, rfl⟩
  · cases h

theorem inferGet_ok {idx : List Nat} {tys : List Ty} {t : Ty} (h : inferGet idx tys = .ok t) :
    ∃ s st, tys = [.array s st] ∧ idx.length ≤ s.length ∧ allLt idx s = true ∧
      t = if idx.length = s.length then .scalar st else .array (s.drop idx.length) st := by
  unfold inferGet at h
  split at h
  · obtain ⟨hl, h⟩ := of_ite_error h
    obtain ⟨ha, h⟩ := of_ite_error h
    refine ⟨_, _, rfl, Nat.le_of_not_lt hl, Bool.of_not_eq_false ha, ?_⟩
    split at h
    · rename_i he
      cases h
      rw [if_pos he]
    · rename_i he
      cases h
      rw [if_neg he]
  · cases h

theorem inferGetSlice_ok {sl : List SliceEl} {tys : List Ty} {t : Ty} (h : inferGetSlice sl tys = .ok t) :
    ∃ s st rs, tys = [.array s st] ∧ getSliceShape s sl = .ok rs ∧ t = arrOrScalar rs st := by
  unfold inferGetSlice at h
  split at h
  · split at h
    · cases h
    · rename_i rs hrs
      cases h
      exact ⟨_, _, rs, rfl, hrs, rfl⟩
  · cases h

theorem inferReshape_ok {nt : Ty} {tys : List Ty} {t : Ty} (h : inferReshape nt tys = .ok t) :
    ∃ a, tys = [a] ∧ (flattenTy a).length = (flattenTy nt).length ∧
      allAtomic (flattenTy a) (flattenTy nt) = true ∧ t = nt := by
  unfold inferReshape at h
  split at h
  · obtain ⟨hl, h⟩ := of_ite_error h
    obtain ⟨ha, h⟩ := of_ite_error h
    cases h
    exact ⟨_, rfl, Decidable.of_not_not hl, Bool.of_not_eq_false ha, rfl⟩
  · cases h

theorem inferTupleGet_ok {i : Nat} {tys : List Ty} {t : Ty} (h : inferTupleGet i tys = .ok t) :
    (∃ ts, tys = [.tuple ts] ∧ ts[i]? = some t) ∨ ∃ fs n, tys = [.named fs] ∧ fs[i]? = some (n, t) := by
  unfold inferTupleGet at h
  split at h
  · split at h
    · rename_i ht
      cases h
      exact Or.inl ⟨_, rfl, ht⟩
    · cases h
  · split at h
    · rename_i ht
      cases h
      exact Or.inr ⟨_, _, rfl, ht⟩
    · cases h
  · cases h

theorem inferNamedTupleGet_ok {name : String} {tys : List Ty} {t : Ty} (h : inferNamedTupleGet name tys = .ok t) :
    ∃ fs, tys = [.named fs] ∧ lookupField name fs = some t := by
  unfold inferNamedTupleGet at h
  split at h
  · split at h
    · rename_i ht
      cases h
      exact ⟨_, rfl, ht⟩
    · cases h
  · cases h

theorem inferArrayToVector_ok {tys : List Ty} {t : Ty} (h : inferArrayToVector tys = .ok t) :
    ∃ s st, tys = [.array s st] ∧
      t = .vector (s.getD 0 0) (if s.length = 1 then .scalar st else .array (s.drop 1) st) := by
  unfold inferArrayToVector at h
  split at h
  · refine ⟨_, _, rfl, ?_⟩
    split at h
    · rename_i he
      cases h
      rw [if_pos he]
    · rename_i he
      cases h
      rw [if_neg he]
  · cases h

theorem inferVectorToArray_ok {tys : List Ty} {t : Ty} (h : inferVectorToArray tys = .ok t) :
    ∃ n et, tys = [.vector n et] ∧ n ≠ 0 ∧
      ((∃ st, et = .scalar st ∧ t = .array [n] st) ∨ ∃ s st, et = .array s st ∧ t = .array (n :: s) st) := by
  unfold inferVectorToArray at h
  split at h
  · obtain ⟨hn, h⟩ := of_ite_error h
    split at h
    · cases h
      exact ⟨_, _, rfl, hn, Or.inl ⟨_, rfl, rfl⟩⟩
    · cases h
      exact ⟨_, _, rfl, hn, Or.inr ⟨_, _, rfl, rfl⟩⟩
    · cases h
  · cases h

theorem inferGather_ok {axis : Nat} {tys : List Ty} {t : Ty} (h : inferGather axis tys = .ok t) :
    ∃ s st is_ ist, tys = [.array s st, .array is_ ist] ∧ axis < s.length ∧
      t = .array (s.take axis ++ is_ ++ s.drop (axis + 1)) st := by
  unfold inferGather at h
  split at h
  · obtain ⟨ha, h⟩ := of_ite_error (of_ite_error h).2
    cases (of_ite_error h).2
    exact ⟨_, _, _, _, rfl, Nat.lt_of_not_le ha, rfl⟩
  · cases h

theorem inferInversePermutation_ok {tys : List Ty} {t : Ty} (h : inferInversePermutation tys = .ok t) :
    ∃ s st, tys = [.array s st] ∧ t = .array s st := by
  unfold inferInversePermutation at h
  split at h
  · cases (of_ite_error (of_ite_error (of_ite_error h).2).2).2
    exact ⟨_, _, rfl, rfl⟩
  · cases h

theorem inferApplyPermutation_ok {tys : List Ty} {t : Ty} (h : inferApplyPermutation tys = .ok t) :
    ∃ s st ps pst, tys = [.array s st, .array ps pst] ∧ ps = [s.getD 0 0] ∧ t = .array s st := by
  unfold inferApplyPermutation at h
  split at h
  · rename_i s st ps pst
    obtain ⟨hc, h⟩ := of_ite_error (of_ite_error h).2
    cases h
    obtain ⟨k, rfl⟩ := List.length_eq_one_iff.mp (Decidable.of_not_not fun hn => hc (Or.inl hn))
    exact ⟨_, _, _, _, rfl, congrArg (fun d => [d]) (Decidable.of_not_not fun hn => hc (Or.inr (Or.inl hn))), rfl⟩
  · cases h

theorem inferVectorGet_ok {tys : List Ty} {t : Ty} (h : inferVectorGet tys = .ok t) :
    ∃ n ist, tys = [.vector n t, .scalar ist] := by
  unfold inferVectorGet at h
  split at h
  · rename_i it
    obtain ⟨hidx, h⟩ := of_ite_error h
    split at h
    · cases h
      cases it with
      | scalar ist => exact ⟨_, ist, rfl⟩
      | _ => exact absurd ⟨rfl, rfl⟩ hidx
    · cases h
  · cases h

end CCV.TI
