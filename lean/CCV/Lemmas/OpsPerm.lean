import CCV.Model.Ops
import CCV.Model.Spec
import CCV.Lemmas.Shape
import CCV.Lemmas.Blocks

/-!
  Scatter-write loops of the evaluator (`result[target(i)] = values[i]`, `result[target(i)] += …`):
  generic lemmas, `InversePermutation`, `PermuteAxes`.
-/
namespace CCV.Ops
open CCV CCV.Shape

theorem getD_set_self (l : List Nat) (k v : Nat) (h : k < l.length) : (l.set k v).getD k 0 = v := by
  simp [List.getD_eq_getElem?_getD, h]

theorem getD_set_ne (l : List Nat) (k p v : Nat) (h : k ≠ p) : (l.set k v).getD p 0 = l.getD p 0 := by
  simp [List.getD_eq_getElem?_getD, h]

theorem getD_set_idx (I : List Nat) (a k v : Nat) (ha : a < I.length) :
    (I.set a v).getD k 0 = if k = a then v else I.getD k 0 := by
  by_cases e : k = a
  · subst e; rw [if_pos rfl]; exact getD_set_self _ _ _ ha
  · rw [if_neg e]; exact getD_set_ne _ _ _ _ (fun h => e h.symm)

theorem set_getD_self (I : List Nat) (a : Nat) (ha : a < I.length) : I.set a (I.getD a 0) = I := by
  apply List.ext_getElem (by simp)
  intro k h1 h2
  by_cases e : a = k
  · subst e; simp [List.getD_eq_getElem?_getD, ha]
  · simp [e]

theorem foldl_setg_length (l : List Nat) (tgt : Nat → Nat) (g : List Nat → Nat → Nat)
    (init : List Nat) :
    (l.foldl (fun res i => res.set (tgt i) (g res i)) init).length = init.length :=
  foldl_length_inv _ (fun _ _ => List.length_set) l init

theorem foldl_set_length (n : Nat) (tgt val : Nat → Nat) (init : List Nat) :
    ((List.range n).foldl (fun res i => res.set (tgt i) (val i)) init).length = init.length :=
  foldl_setg_length (List.range n) tgt (fun _ i => val i) init

theorem eraseDups_of_nodup (l : List Nat) (h : l.Nodup) : l.eraseDups = l := by
  induction l with
  | nil => simp
  | cons a l ih =>
    rw [List.eraseDups_cons]
    have hn := List.nodup_cons.mp h
    have hf : l.filter (fun b => !b == a) = l := by
      apply List.filter_eq_self.mpr
      intro b hb
      have : b ≠ a := fun e => hn.1 (e ▸ hb)
      simp [this]
    rw [hf, ih hn.2]

theorem permuteAxes_length (values shape perm out : List Nat) :
    (permuteAxes values shape perm out).length = values.length := by
  unfold permuteAxes
  rw [foldl_set_length, List.length_replicate]

theorem foldl_set_forall (P : Nat → Prop) (tgt val : Nat → Nat) (l : List Nat) :
    ∀ init : List Nat, (∀ x ∈ init, P x) → (∀ i ∈ l, P (val i)) →
      ∀ x ∈ l.foldl (fun res i => res.set (tgt i) (val i)) init, P x := by
  intro init h hv
  refine foldl_inv (fun res => ∀ x ∈ res, P x) _ l init h fun res i hi hres x hx => ?_
  rcases List.mem_or_eq_of_mem_set hx with hx | rfl
  · exact hres x hx
  · exact hv i hi

theorem permuteAxes_forall (P : Nat → Prop) (h0 : P 0) (values shape perm out : List Nat)
    (h : ∀ p, P (values.getD p 0)) : ∀ x ∈ permuteAxes values shape perm out, P x := by
  unfold permuteAxes
  apply foldl_set_forall
  · intro x hx
    rw [List.eq_of_mem_replicate hx]
    exact h0
  · intro i _
    exact h i

theorem foldl_set_getD (n : Nat) (tgt val : Nat → Nat) (init : List Nat)
    (hin : ∀ i, i < n → tgt i < init.length)
    (hinj : ∀ i j, i < n → j < n → tgt i = tgt j → i = j)
    (i : Nat) (hi : i < n) :
    ((List.range n).foldl (fun res i => res.set (tgt i) (val i)) init).getD (tgt i) 0 = val i := by
  induction n with
  | zero => omega
  | succ n ih =>
    rw [List.range_succ, List.foldl_append]
    simp only [List.foldl_cons, List.foldl_nil]
    by_cases hin' : i = n
    · subst hin'
      have hl := foldl_set_length i tgt val init
      exact getD_set_self _ _ _ (by rw [hl]; exact hin i (by omega))
    · have hne : tgt n ≠ tgt i := fun h => hin' (hinj n i (by omega) (by omega) h).symm
      have := ih (fun k hk => hin k (by omega))
        (fun a b ha hb => hinj a b (by omega) (by omega)) (by omega)
      rw [getD_set_ne _ _ _ _ hne]; exact this

example : (List.range 3).foldl (fun res i => res.set ([2, 0, 1].getD i 0) (10 + i)) [0, 0, 0]
    = [11, 12, 10] := by decide

theorem foldl_scatter_add (n : Nat) (tgt val : Nat → Nat) (add : Nat → Nat → Nat) (init : List Nat)
    (p : Nat) (hp : p < init.length) :
    ((List.range n).foldl (fun res i => res.set (tgt i) (add (res.getD (tgt i) 0) (val i))) init).getD p 0
      = (((List.range n).filter fun i => tgt i = p).foldl (fun acc i => add acc (val i))
          (init.getD p 0)) := by
  induction n with
  | zero => rfl
  | succ n ih =>
    rw [List.range_succ, List.foldl_append, List.filter_append, List.foldl_append]
    simp only [List.foldl_cons, List.foldl_nil]
    have hl := foldl_setg_length (List.range n) tgt
      (fun res i => add (res.getD (tgt i) 0) (val i)) init
    by_cases hn : tgt n = p
    · subst hn
      simp only [decide_true, List.filter_cons_of_pos, List.filter_nil, List.foldl_cons,
        List.foldl_nil, ← ih]
      exact getD_set_self _ _ _ (by rw [hl]; exact hp)
    · simp only [hn, decide_false, Bool.false_eq_true, not_false_eq_true,
        List.filter_cons_of_neg, List.filter_nil, List.foldl_nil, ← ih]
      exact getD_set_ne _ _ _ _ hn

example : (List.range 4).foldl (fun res i => res.set (i % 2) (res.getD (i % 2) 0 + (i + 1))) [0, 0]
    = [4, 6] := by decide

/-- body of the loop of `execute_inverse_permutation` -/
def invStep (values : List Nat) (res : List Nat) (i : Nat) : Except String (List Nat) :=
  if values.length ≤ values.getD i 0 then
    Except.error "Input array doesn't contain a valid permutation"
  else Except.ok (res.set (values.getD i 0) i)

theorem executeInversePermutation_eq (values : List Nat) :
    executeInversePermutation values
      = (List.range values.length).foldlM (invStep values) (List.replicate values.length 0) := rfl

theorem foldlM_invStep_ok (values : List Nat) (l : List Nat) (init : List Nat)
    (h : ∀ i ∈ l, values.getD i 0 < values.length) :
    l.foldlM (invStep values) init
      = .ok (l.foldl (fun res i => res.set (values.getD i 0) i) init) := by
  induction l generalizing init with
  | nil => rfl
  | cons a l ih =>
    have ha : ¬ values.length ≤ values.getD a 0 := by
      have := h a List.mem_cons_self; omega
    rw [List.foldlM_cons]
    simp only [invStep, ha, if_false, List.foldl_cons]
    exact ih _ (fun i hi => h i (List.mem_cons_of_mem _ hi))

theorem foldlM_invStep_err (values : List Nat) (l : List Nat) (init : List Nat)
    (h : ∃ i ∈ l, values.length ≤ values.getD i 0) :
    ∃ e, l.foldlM (invStep values) init = .error e := by
  induction l generalizing init with
  | nil => obtain ⟨i, hi, _⟩ := h; cases hi
  | cons a l ih =>
    rw [List.foldlM_cons]
    by_cases ha : values.length ≤ values.getD a 0
    · exact ⟨_, by simp only [invStep, ha, if_true]; rfl⟩
    · obtain ⟨i, hi, hv⟩ := h
      have hil : i ∈ l := by
        rcases List.mem_cons.mp hi with rfl | h'
        · exact absurd hv ha
        · exact h'
      obtain ⟨e, he⟩ := ih (init.set (values.getD a 0) a) ⟨i, hil, hv⟩
      exact ⟨e, by simp only [invStep, ha, if_false]; exact he⟩

theorem inversePermutation_spec (values : List Nat) (hnd : values.Nodup)
    (hlt : ∀ v ∈ values, v < values.length) :
    ∃ r, inversePermutation values = .ok r ∧ r.length = values.length ∧
      ∀ i, i < values.length → r.getD (values.getD i 0) 0 = i := by
  have hin : ∀ i, i < values.length → values.getD i 0 < values.length := by
    intro i hi
    apply hlt
    simp [List.getD_eq_getElem?_getD, hi]
  have hinj : ∀ i j, i < values.length → j < values.length →
      values.getD i 0 = values.getD j 0 → i = j := by
    intro i j hi hj h
    simp only [List.getD_eq_getElem?_getD, List.getElem?_eq_getElem hi,
      List.getElem?_eq_getElem hj, Option.getD_some] at h
    have hp := List.pairwise_iff_getElem.mp hnd
    rcases Nat.lt_trichotomy i j with hlt' | heq | hgt
    · exact absurd h (hp i j hi hj hlt')
    · exact heq
    · exact absurd h.symm (hp j i hj hi hgt)
  refine ⟨(List.range values.length).foldl (fun res i => res.set (values.getD i 0) i)
    (List.replicate values.length 0), ?_, ?_, ?_⟩
  · simp only [inversePermutation, hnd, not_true_eq_false, if_false]
    rw [executeInversePermutation_eq, foldlM_invStep_ok]
    intro i hi
    exact hin i (List.mem_range.mp hi)
  · rw [foldl_set_length]; simp
  · intro i hi
    exact foldl_set_getD values.length (fun i => values.getD i 0) (fun i => i) _
      (by simpa using hin) hinj i hi

example : inversePermutation [2, 0, 3, 1] = .ok [1, 3, 0, 2] := by rfl

theorem inversePermutation_err (values : List Nat)
    (h : ¬ values.Nodup ∨ ∃ v ∈ values, values.length ≤ v) :
    ∃ e, inversePermutation values = .error e := by
  by_cases hnd : values.Nodup
  · rcases h with h | ⟨v, hv, hle⟩
    · exact absurd hnd h
    · simp only [inversePermutation, hnd, not_true_eq_false, if_false]
      rw [executeInversePermutation_eq]
      apply foldlM_invStep_err
      obtain ⟨i, hi, rfl⟩ := List.mem_iff_getElem.mp hv
      exact ⟨i, List.mem_range.mpr hi, by simpa [List.getD_eq_getElem?_getD, hi] using hle⟩
  · refine ⟨"Input array doesn't contain a valid permutation", ?_⟩
    simp only [inversePermutation, hnd, not_false_eq_true, if_true]

example : ∃ e, inversePermutation [2, 0, 2, 1] = .error e := ⟨_, rfl⟩

example : ∃ e, inversePermutation [2, 0, 4, 1] = .error e := ⟨_, rfl⟩

theorem prod_perm {l₁ l₂ : List Nat} (h : l₁.Perm l₂) : prod l₁ = prod l₂ := by
  induction h with
  | nil => rfl
  | cons x _ ih => simp only [prod, ih]
  | swap x y l => simp only [prod]; exact Nat.mul_left_comm y x (prod l)
  | trans _ _ ih1 ih2 => exact ih1.trans ih2

/-- pigeonhole -/
theorem mem_of_nodup_lt {perm : List Nat} {n : Nat} (hpl : perm.length = n) (hnd : perm.Nodup)
    (hlt : ∀ j ∈ perm, j < n) (k : Nat) (hk : k < n) : k ∈ perm := by
  apply Classical.byContradiction
  intro hnot
  have hsub : perm ⊆ (List.range n).erase k := by
    intro x hx
    have hxk : x ≠ k := fun h => hnot (h ▸ hx)
    exact (List.mem_erase_of_ne hxk).2 (List.mem_range.mpr (hlt x hx))
  have h1 := List.Nodup.length_le_of_subset hnd hsub
  have h2 : ((List.range n).erase k).length = n - 1 := by
    rw [List.length_erase]; simp [hk]
  omega

theorem perm_range_of_nodup_lt {perm : List Nat} {n : Nat} (hpl : perm.length = n)
    (hnd : perm.Nodup) (hlt : ∀ j ∈ perm, j < n) : perm.Perm (List.range n) := by
  rw [List.perm_ext_iff_of_nodup hnd List.nodup_range]
  intro a
  exact ⟨fun h => List.mem_range.mpr (hlt a h),
    fun h => mem_of_nodup_lt hpl hnd hlt a (List.mem_range.mp h)⟩

theorem map_getD_range (s : List Nat) : ((List.range s.length).map fun j => s.getD j 0) = s := by
  apply List.ext_getElem
  · simp
  · intro i h1 h2
    simp [List.getD_eq_getElem?_getD, h2]

theorem map_getD_range'_block {S A L C : List Nat} {a : Nat} (hS : S = A ++ (L ++ C)) (ha : A.length = a) :
    ((List.range' a L.length).map fun j => S.getD j 0) = L := by
  subst hS ha
  apply List.ext_getElem
  · rw [List.length_map, List.length_range']
  · intro i h1 h2
    rw [List.getElem_map, List.getElem_range', Nat.one_mul, List.getD_eq_getElem?_getD,
      List.getElem?_append_right (Nat.le_add_right _ _), Nat.add_sub_cancel_left,
      List.getElem?_append_left h2, List.getElem?_eq_getElem h2, Option.getD_some]

theorem prod_map_perm {shape perm : List Nat} (hpl : perm.length = shape.length)
    (hnd : perm.Nodup) (hlt : ∀ j ∈ perm, j < shape.length) :
    prod (perm.map fun j => shape.getD j 0) = prod shape := by
  have hp := perm_range_of_nodup_lt hpl hnd hlt
  rw [prod_perm (hp.map _), map_getD_range]

theorem eq_of_map_getD_eq {I J shape perm : List Nat} (hI : I.length = shape.length)
    (hJ : J.length = shape.length) (hsurj : ∀ k, k < shape.length → k ∈ perm)
    (h : (perm.map fun j => I.getD j 0) = perm.map fun j => J.getD j 0) : I = J := by
  apply List.ext_getElem (hI.trans hJ.symm)
  intro k h1 h2
  have hk := hsurj k (hI ▸ h1)
  have := (List.map_inj_left.mp h) k hk
  simpa [List.getD_eq_getElem?_getD, h1, h2] using this

/-- PermuteAxes (numpy.transpose): `R[J] = A[I]` whenever `J_k = I_{perm k}`; `perm` a permutation
    of the axes -/
theorem permuteAxes_spec (values shape perm : List Nat) (hlen : values.length = prod shape)
    (hpos : pos shape) (hpl : perm.length = shape.length) (hnd : perm.Nodup)
    (hlt : ∀ j ∈ perm, j < shape.length) :
    Spec.permuteRel (Spec.ofFlat shape values)
      (Spec.ofFlat (perm.map fun j => shape.getD j 0)
        (permuteAxes values shape perm (perm.map fun j => shape.getD j 0)))
      shape perm := by
  intro I hI
  simp only [Spec.ofFlat]
  have hprod := prod_map_perm hpl hnd hlt
  have hsurj := mem_of_nodup_lt hpl hnd hlt
  let outShape := perm.map fun j => shape.getD j 0
  let tgt : Nat → Nat := fun i =>
    indexToNumber (perm.map fun j => (numberToIndex i shape).getD j 0) outShape
  have htgt : ∀ i, i < values.length →
      tgt i = flat (perm.map fun j => (numberToIndex i shape).getD j 0) outShape ∧
      validIdx (perm.map fun j => (numberToIndex i shape).getD j 0) outShape ∧
      validIdx (numberToIndex i shape) shape := by
    intro i hi
    have hv := numberToIndex_valid hpos (hlen ▸ hi)
    have hv' := validIdx_map_getD hv perm hlt
    exact ⟨indexToNumber_eq_flat hv', hv', hv⟩
  have hin : ∀ i, i < values.length → tgt i < (List.replicate values.length 0).length := by
    intro i hi
    obtain ⟨e, hv', _⟩ := htgt i hi
    rw [e, List.length_replicate, hlen, ← hprod]
    exact flat_lt hv'
  have hinj : ∀ i j, i < values.length → j < values.length → tgt i = tgt j → i = j := by
    intro i j hi hj h
    obtain ⟨ei, hvi', hvi⟩ := htgt i hi
    obtain ⟨ej, hvj', hvj⟩ := htgt j hj
    rw [ei, ej] at h
    have hm := flat_inj hvi' hvj' h
    have hIJ := eq_of_map_getD_eq (validIdx_length hvi) (validIdx_length hvj) hsurj hm
    have h1 := flat_numberToIndex hpos (n := i) (hlen ▸ hi)
    have h2 := flat_numberToIndex hpos (n := j) (hlen ▸ hj)
    rw [hIJ] at h1
    exact h1.symm.trans h2
  have hi : flat I shape < values.length := hlen ▸ flat_lt hI
  have key := foldl_set_getD values.length tgt (fun i => values.getD i 0)
    (List.replicate values.length 0) hin hinj (flat I shape) hi
  have e : tgt (flat I shape) = flat (perm.map fun j => I.getD j 0) outShape := by
    have := (htgt _ hi).1
    rw [numberToIndex_flat hI] at this
    exact this
  rw [e] at key
  exact key

example : permuteAxes [0, 1, 2, 3, 4, 5] [2, 3] [1, 0] [3, 2] = [0, 3, 1, 4, 2, 5] := by decide

example : permuteAxes (List.range 24) [2, 3, 4] [2, 0, 1] [4, 2, 3]
    = [0, 4, 8, 12, 16, 20, 1, 5, 9, 13, 17, 21, 2, 6, 10, 14, 18, 22, 3, 7, 11, 15, 19, 23] := by
  decide

end CCV.Ops
