import CCV.Model.EvalOps
import CCV.Lemmas.TypeInfer
import CCV.Lemmas.Shape
import CCV.Lemmas.Kernels
import CCV.Lemmas.OpsMat
import CCV.Lemmas.OpsPerm
import CCV.Lemmas.OpsStruct
import CCV.Lemmas.Blocks
import Batteries.Lean.Except
/-
  Value-level half of C09 (Proofs/C09Values.lean): the two vocabularies and the simple kernels.
  Bridges between the type-inference model (`CCV.TI`: `prod`, `broadcastShapes`, `isValidShape`) and the
  evaluator model (`CCV.Shape`: `prod`, `bcOK`, `pos`); destructuring of `hasType` for every kind of type; the
  "typing" lemma (length of the result, every entry below `2^bits`) of the `CCV.Ops` functions that need no
  facts about blocks or permutations: Add/Subtract/Multiply, MixedMultiply, Dot, Matmul, Truncate, Sum, CumSum,
  PermuteAxes, Get, Stack.  (`import Batteries.Lean.Except`: `DecidableEq (Except ε α)` for the test vectors of
  the modules that import this one.)
-/
namespace CCV.EvalOps
open CCV CCV.TV CCV.Shape
open CCV.TI hiding prod broadcastShapes transposeShape

theorem prod_eq (s : List Nat) : TI.prod s = Shape.prod s := by
  induction s with
  | nil => rfl
  | cons d ds ih => simp [TI.prod, Shape.prod, ih]

theorem validShape_pos {s : List Nat} (h : isValidShape s = true) : s ≠ [] ∧ pos s := by
  unfold isValidShape at h
  simp only [Bool.and_eq_true, List.all_eq_true, decide_eq_true_eq] at h
  refine ⟨?_, fun d hd => h.1.2 d hd⟩
  intro e
  subst e
  simp at h

theorem bcOK_left {s1 s2 r : List Nat} (h1 : pos s1) (h2 : pos s2)
    (h : TI.broadcastShapes s1 s2 = .ok r) : bcOK s1 r := by
  have hl := broadcastShapes_length h
  have hle : s1.length ≤ r.length := by rw [hl]; unfold maxLen; split <;> omega
  refine ⟨hle, bcAligned_of_getD _ _ (by rw [List.length_drop]; omega) fun i hi => ?_⟩
  have hj : r.length - s1.length + i < r.length := by omega
  have hd := (broadcastShapes_dims h1 h2 h _ hj).1
  have e1 : dimAt s1 (r.length - s1.length) (r.length - s1.length + i) = s1.getD i 0 := by
    unfold dimAt
    rw [if_pos (Nat.le_add_right _ _), Nat.add_sub_cancel_left, List.getD_eq_getElem?_getD,
      List.getD_eq_getElem?_getD, List.getElem?_eq_getElem hi]
    rfl
  have e2 : (r.drop (r.length - s1.length)).getD i 0 = r[r.length - s1.length + i] := by
    rw [List.getD_eq_getElem?_getD, List.getElem?_drop, List.getElem?_eq_getElem hj]
    rfl
  rw [e1] at hd
  rw [e2]
  exact hd.symm

theorem bcOK_right {s1 s2 r : List Nat} (h1 : pos s1) (h2 : pos s2)
    (h : TI.broadcastShapes s1 s2 = .ok r) : bcOK s2 r :=
  bcOK_left h2 h1 (by rw [broadcastShapes_comm]; exact h)

theorem isFlat_cases {t : Ty} (h : isFlat t = true) : (∃ st, t = .scalar st) ∨ ∃ s st, t = .array s st := by
  cases t with
  | scalar st => exact Or.inl ⟨st, rfl⟩
  | array s st => exact Or.inr ⟨s, st, rfl⟩
  | vector n t => simp [isFlat, isArr, isSc] at h
  | tuple ts => simp [isFlat, isArr, isSc] at h
  | named fs => simp [isFlat, isArr, isSc] at h

theorem hasType_flat {t : Ty} (h : isFlat t = true) (xs : List Nat) :
    hasType t (.arr xs) ↔ flatOk (stE t) (prod (dimsE t)) xs := by
  rcases isFlat_cases h with ⟨st, rfl⟩ | ⟨s, st, rfl⟩
  · simp [hasType, stE, stOf, dimsE, prod]
  · simp [hasType, stE, stOf, dimsE]

theorem hasType_flat_arr {t : Ty} (h : isFlat t = true) {v : EV} (hv : hasType t v) :
    ∃ xs, v = .arr xs ∧ flatOk (stE t) (prod (dimsE t)) xs := by
  cases v with
  | arr xs => exact ⟨xs, rfl, (hasType_flat h xs).mp hv⟩
  | vec vs =>
    rcases isFlat_cases h with ⟨st, rfl⟩ | ⟨s, st, rfl⟩ <;> simp [hasType] at hv

theorem hasType_array {s : List Nat} {st : ST} {v : EV} (h : hasType (.array s st) v) :
    ∃ xs, v = .arr xs ∧ flatOk st (prod s) xs :=
  hasType_flat_arr (t := .array s st) rfl h

theorem hasType_scalar {st : ST} {v : EV} (h : hasType (.scalar st) v) :
    ∃ xs, v = .arr xs ∧ flatOk st 1 xs :=
  hasType_flat_arr (t := .scalar st) rfl h

theorem hasType_array_mk {s : List Nat} {st : ST} {r : List Nat} (h : flatOk st (prod s) r) :
    hasType (.array s st) (.arr r) := (hasType_flat (t := .array s st) rfl r).mpr h

theorem hasType_scalar_mk {st : ST} {r : List Nat} (h : flatOk st 1 r) :
    hasType (.scalar st) (.arr r) := (hasType_flat (t := .scalar st) rfl r).mpr h

theorem hasTypeL_one {t : Ty} {vs : List EV} (h : hasTypeL [t] vs) : ∃ v, vs = [v] ∧ hasType t v := by
  match vs, h with
  | [v], h => exact ⟨v, rfl, by simpa [hasTypeL] using h⟩
  | [], h => simp [hasTypeL] at h
  | _ :: _ :: _, h => simp [hasTypeL] at h

theorem hasTypeL_two {t1 t2 : Ty} {vs : List EV} (h : hasTypeL [t1, t2] vs) :
    ∃ v1 v2, vs = [v1, v2] ∧ hasType t1 v1 ∧ hasType t2 v2 := by
  match vs, h with
  | [v1, v2], h => exact ⟨v1, v2, rfl, by simpa [hasTypeL] using h⟩
  | [], h => simp [hasTypeL] at h
  | [_], h => simp [hasTypeL] at h
  | _ :: _ :: _ :: _, h => simp [hasTypeL] at h

theorem hasType_vector {n : Nat} {t : Ty} {v : EV} (h : hasType (.vector n t) v) :
    ∃ vs, v = .vec vs ∧ vs.length = n ∧ ∀ w ∈ vs, hasType t w :=
  match v, h with
  | .vec vs, h => ⟨vs, rfl, h⟩
  | .arr _, h => False.elim h

theorem hasType_tuple {ts : List Ty} {v : EV} (h : hasType (.tuple ts) v) : ∃ vs, v = .vec vs ∧ hasTypeL ts vs :=
  match v, h with
  | .vec vs, h => ⟨vs, rfl, h⟩
  | .arr _, h => False.elim h

theorem hasType_named {fs : List (String × Ty)} {v : EV} (h : hasType (.named fs) v) :
    ∃ vs, v = .vec vs ∧ hasTypeN fs vs :=
  match v, h with
  | .vec vs, h => ⟨vs, rfl, h⟩
  | .arr _, h => False.elim h

/-- an accepted result type is valid (= `C09.infer_valid`, which the modules below `Proofs/C09.lean` cannot import) -/
theorem infer_result_valid {op : Op} {tys : List Ty} {t : Ty} (h : infer op tys = .ok t)
    (hr : registers op = true) : t.isValid = true := (infer_ok h).2.2 hr

theorem low_lt (st : ST) (x : Nat) : Ops.low st x < 2 ^ st.bits :=
  Nat.mod_lt _ (Ops.pow_bits_pos st)

theorem map_low_bound (st : ST) (l : List Nat) : ∀ x ∈ l.map (Ops.low st), x < 2 ^ st.bits := by
  intro x hx
  obtain ⟨y, _, rfl⟩ := List.mem_map.mp hx
  exact low_lt st y

theorem arith_typed (op : Ops.Arith) (st : ST) (s1 xs s2 ys sr : List Nat) (h1 : bcOK s1 sr) (h2 : bcOK s2 sr) :
    ∃ r, Ops.arith op st s1 xs s2 ys sr = .ok r ∧ flatOk st (prod sr) r := by
  obtain ⟨r, hr, hl, _⟩ := Ops.arith_spec op st s1 xs s2 ys sr h1 h2
  refine ⟨r, hr, hl, ?_⟩
  unfold Ops.arith at hr
  simp only [] at hr
  split at hr
  · cases hr
  · injection hr with hr
    subst hr
    exact map_low_bound st _

theorem mixedMultiply_typed (st : ST) (s1 xs s2 ys sr : List Nat) (h1 : bcOK s1 sr) (h2 : bcOK s2 sr) :
    ∃ r, Ops.mixedMultiply st s1 xs s2 ys sr = .ok r ∧ flatOk st (prod sr) r := by
  obtain ⟨r, hr, hl, _⟩ := Ops.mixedMultiply_spec st s1 xs s2 ys sr h1 h2
  refine ⟨r, hr, hl, ?_⟩
  unfold Ops.mixedMultiply at hr
  simp only [] at hr
  split at hr
  · cases hr
  · injection hr with hr
    subst hr
    exact map_low_bound st _

theorem mem_slice {l : List Nat} {a n x : Nat} (h : x ∈ Ops.slice l a n) : x ∈ l :=
  List.mem_of_mem_drop (List.mem_of_mem_take h)

/-- the common shape of `evaluate_dot` and `evaluate_matmul`: one reduced entry for 1-d · 1-d, otherwise
    one reduced entry per position of the result shape -/
theorem low_cases_typed (st : ST) {c : Prop} [Decidable c] {n m : Nat} (x : Nat) (f : Nat → Nat)
    (h1 : c → n = 1) (h2 : ¬ c → n = m) :
    flatOk st n (if c then [Ops.low st x] else (List.range m).map fun i => Ops.low st (f i)) := by
  split
  · rename_i h
    exact ⟨(h1 h).symm, fun y hy => List.mem_singleton.mp hy ▸ low_lt st x⟩
  · rename_i h
    refine ⟨by rw [List.length_map, List.length_range, h2 h], fun y hy => ?_⟩
    obtain ⟨i, _, rfl⟩ := List.mem_map.mp hy
    exact low_lt st _

/-- `n` is the number of entries the caller's result type has: the rule gives `1` for 1-d · 1-d (`h1`) and
    `prod sr` otherwise (`h2`, `rfl` at the call); likewise for `matmul_typed` -/
theorem dot_typed (st : ST) (s0 xs s1 ys sr : List Nat) {n : Nat}
    (h1 : s0.length = 1 ∧ s1.length = 1 → n = 1) (h2 : ¬ (s0.length = 1 ∧ s1.length = 1) → n = Shape.prod sr) :
    flatOk st n (Ops.dot st s0 xs s1 ys sr) := low_cases_typed st _ _ h1 h2

theorem matmul_typed (st : ST) (s0 xs s1 ys sr : List Nat) {n : Nat}
    (h1 : s0.length = 1 ∧ s1.length = 1 → n = 1) (h2 : ¬ (s0.length = 1 ∧ s1.length = 1) → n = Shape.prod sr) :
    flatOk st n (Ops.matmul st s0 xs s1 ys sr) := low_cases_typed st _ _ h1 h2

theorem truncElem_lt (st : ST) (d r : Nat) : Ops.truncElem st d r < 2 ^ st.bits := by
  unfold Ops.truncElem
  simp only []
  split
  · split <;> exact low_lt st _
  · exact low_lt st _

theorem truncate_typed {st : ST} {n : Nat} {xs : List Nat} (d : Nat) (h : flatOk st n xs) :
    flatOk st n (Ops.truncate st d xs) := by
  refine ⟨(List.length_map _).trans h.1, ?_⟩
  intro x hx
  obtain ⟨y, _, rfl⟩ := List.mem_map.mp hx
  exact truncElem_lt st d y

theorem sum_all_typed (st : ST) (shape xs axes : List Nat) : flatOk st 1 (Ops.sum st shape xs axes none) := by
  simp only [Ops.sum]
  exact ⟨rfl, fun x hx => List.mem_singleton.mp hx ▸ low_lt st _⟩

/-- over no axis the input is returned as it is, so it must fit `rs` itself -/
theorem sum_typed (st : ST) (shape xs axes rs : List Nat) (h0 : axes = [] → flatOk st (Shape.prod rs) xs) :
    flatOk st (Shape.prod rs) (Ops.sum st shape xs axes (some rs)) := by
  simp only [Ops.sum]
  by_cases he : axes.isEmpty = true
  · rw [if_pos he]
    exact h0 (List.isEmpty_iff.mp he)
  · rw [if_neg he]
    refine ⟨?_, map_low_bound st _⟩
    rw [List.length_map, Ops.foldl_length_inv _ (fun out a => by simp)]
    simp

theorem cumSum_typed {st : ST} {n : Nat} {xs : List Nat} (shape : List Nat) (axis : Nat) (h : flatOk st n xs) :
    flatOk st n (Ops.cumSum st shape xs axis) := by
  simp only [Ops.cumSum]
  refine ⟨?_, map_low_bound st _⟩
  rw [List.length_map, Ops.foldl_length_inv _ (fun out a => by split <;> simp), List.length_map]
  exact h.1

theorem permuteAxes_typed {st : ST} {n : Nat} {values : List Nat} (cur perm out : List Nat)
    (h : flatOk st n values) : flatOk st n (Ops.permuteAxes values cur perm out) := by
  exact ⟨(Ops.permuteAxes_length _ _ _ _).trans h.1,
    Ops.permuteAxes_forall _ (Ops.pow_bits_pos st) _ _ _ _ fun p =>
      Ops.getD_bound values p (Ops.pow_bits_pos st) h.2⟩

theorem allLt_validIdx : ∀ (idx os : List Nat), idx.length ≤ os.length → allLt idx os = true →
    validIdx idx (os.take idx.length)
  | [], _, _, _ => trivial
  | _ :: _, [], hl, _ => absurd hl (Nat.not_succ_le_zero _)
  | _ :: xs, _ :: ds, hl, h =>
    have h' := (Bool.and_eq_true _ _).mp h
    ⟨of_decide_eq_true h'.1, allLt_validIdx xs ds (Nat.le_of_succ_le_succ hl) h'.2⟩

theorem get_typed (st : ST) (shape xs sub : List Nat)
    (hs : validIdx sub (shape.take sub.length)) (hx : flatOk st (Shape.prod shape) xs) :
    flatOk st (Shape.prod (shape.drop sub.length)) (Ops.get shape xs sub) := by
  simp only [Ops.get]
  refine ⟨?_, fun x h => hx.2 x (mem_slice h)⟩
  apply Ops.slice_length
  have hn : indexToNumber sub (shape.take sub.length) < Shape.prod (shape.take sub.length) := by
    rw [indexToNumber_eq_flat hs]; exact flat_lt hs
  have hp : Shape.prod shape = Shape.prod (shape.take sub.length) * Shape.prod (shape.drop sub.length) := by
    rw [← prod_append, List.take_append_drop]
  rw [hx.1, hp]
  have := Nat.mul_le_mul_right (Shape.prod (shape.drop sub.length)) hn
  rw [Nat.succ_mul] at this
  exact this

theorem broadcastToShape_bound {P : Nat → Prop} (arr s sr : List Nat) (h0 : P 0) (h : ∀ x ∈ arr, P x) :
    ∀ x ∈ broadcastToShape arr s sr, P x := by
  intro x hx
  simp only [broadcastToShape] at hx
  obtain ⟨i, _, rfl⟩ := List.mem_map.mp hx
  exact Ops.getD_bound arr _ h0 h

theorem stack_typed (st : ST) (outer full : List Nat) (inputs : List (List Nat × List Nat))
    (hb : ∀ p ∈ inputs, ∀ x ∈ p.2, x < 2 ^ st.bits) :
    flatOk st (inputs.length * Shape.prod (if full = outer then [1] else full.drop outer.length))
      (Ops.stack outer inputs full) := by
  simp only [Ops.stack]
  refine ⟨Ops.length_flatMap_const _ _ _ (fun p _ => broadcastToShape_length _ _ _), ?_⟩
  intro x hx
  obtain ⟨p, hp, hxp⟩ := List.mem_flatMap.mp hx
  exact broadcastToShape_bound (P := fun x => x < 2 ^ st.bits) _ _ _ (Ops.pow_bits_pos st) (hb p hp) x hxp

end CCV.EvalOps
