import CCV.Lemmas.TypedValue
/-
  C13: an array value survives decode → print → parse → encode (`array_back`).
-/
namespace CCV.TV
open CCV CCV.Bytes

theorem array_back_nonbit (st : ST) (h : st ≠ .bit) (shape : List Nat) (bs : List Nat)
    (hl : bs.length = (numel shape * st.bits + 7) / 8) (hb : ∀ b ∈ bs, b < 256) :
    ∃ (r : List Nat),
      toFlatU128 bs shape st = .ok r ∧ r.length = numel shape ∧
      vecToBytes st ((r.map (readBack st)).map (fun x => ((x : Nat) : Int))) = .ok bs := by
  have hlen : bs.length = numel shape * st.byteLen := hl.trans (bytes_of_bits st h _)
  have hne : (st == ST.bit) = false := by simpa using h
  have hchk : checkArrayType bs.length shape st = true := by simp [checkArrayType, hl]
  have hcl := chunksExact_mem_length st.byteLen (numel shape) bs hlen
  have hfl := chunksExact_flatten st.byteLen (numel shape) bs hlen
  refine ⟨(chunksExact st.byteLen (numel shape) bs).map
      (fun c => signPad 128 st (fromLE (c.take (128 / 8)))), ?_, ?_, ?_⟩
  · simp [toFlatU128, hchk, vecU128FromBytes, vecFromBytesW_of_length 128 st h _ bs hlen, hne]
  · simp [length_chunksExact]
  · rw [vecToBytes_ne_bit st h]
    simp only [List.map_map, List.flatMap_map]
    congr 1
    refine Eq.trans (Ops.flatMap_congr' _ _ id ?_)
      (List.flatMap_id.trans hfl)
    intro c hc
    exact elem_back st h c (hcl c hc) (fun b hb' => hb b (hfl ▸ List.mem_flatten.2 ⟨c, hc, hb'⟩))

/-- the bytes of a bit array of `n` bits with the stray bits of the last byte cleared -/
def normBits : Nat → List Nat → List Nat
  | _, [] => []
  | n, b :: rest => if 8 ≤ n then b :: normBits (n - 8) rest else [b % 2 ^ n]

theorem pack_take_unpack (n : Nat) (bs : List Nat) (hl : bs.length = (n + 7) / 8)
    (hb : ∀ b ∈ bs, b < 256) :
    (chunks8 ((bs.flatMap unpackByte).take n)).map packBits = normBits n bs := by
  induction bs generalizing n with
  | nil =>
    simp [chunks8_nil, normBits]
  | cons b rest ih =>
    have hb0 : b < 256 := hb b (by simp)
    have hn1 : 1 ≤ n := by simp only [List.length_cons] at hl; omega
    by_cases h8 : 8 ≤ n
    · have hlr : rest.length = (n - 8 + 7) / 8 := by simp only [List.length_cons] at hl; omega
      have e : ((b :: rest).flatMap unpackByte).take n
          = unpackByte b ++ (rest.flatMap unpackByte).take (n - 8) := by
        rw [List.flatMap_cons, List.take_append, length_unpackByte,
          List.take_of_length_le (by rw [length_unpackByte]; exact h8)]
      have hne : unpackByte b ++ (rest.flatMap unpackByte).take (n - 8) ≠ [] := by
        simp [unpackByte]
      rw [e, chunks8_ne_nil _ hne, List.take_left' (length_unpackByte b),
        List.drop_left' (length_unpackByte b), List.map_cons, packBits_unpackByte b hb0,
        ih (n - 8) hlr (fun x hx => hb x (by simp [hx]))]
      simp [normBits, h8]
    · have hr : rest = [] := by
        apply List.eq_nil_of_length_eq_zero; simp only [List.length_cons] at hl; omega
      subst hr
      have e : (([b] : List Nat).flatMap unpackByte).take n = (unpackByte b).take n := by simp
      have hlen : ((unpackByte b).take n).length = n := by
        rw [List.length_take, length_unpackByte]; omega
      rw [e, chunks8_short _ (List.ne_nil_of_length_pos (by omega)) (by omega)]
      simp only [List.map_cons, List.map_nil, normBits, h8, if_false]
      rw [packBits_unpackByte_take b n (by omega)]

theorem length_normBits (n : Nat) (bs : List Nat) (hl : bs.length = (n + 7) / 8) :
    (normBits n bs).length = bs.length := by
  induction bs generalizing n with
  | nil => rfl
  | cons b rest ih =>
    simp only [List.length_cons] at hl
    by_cases h8 : 8 ≤ n
    · simp only [normBits, h8, if_true, List.length_cons]
      rw [ih (n - 8) (by omega)]
    · simp only [normBits, h8, if_false, List.length_cons, List.length_nil]
      omega

theorem bytesEq_shift (n : Nat) (h : 8 ≤ n) (a b : List Nat) : bytesEq (n - 8) a b = bytesEq n a b := by
  have : (n - 8) % 8 = n % 8 := by omega
  simp only [bytesEq, this]

theorem bytesEq_cons_same (n x : Nat) (a b : List Nat) (h : bytesEq n a b = true) :
    bytesEq n (x :: a) (x :: b) = true := by
  cases a with
  | nil =>
    by_cases hr : n % 8 = 0 <;> simp [bytesEq, hr]
  | cons y a' =>
    have hc : (if n % 8 ≠ 0 then (x :: y :: a').length - 1 else (x :: y :: a').length)
        = (if n % 8 ≠ 0 then (y :: a').length - 1 else (y :: a').length) + 1 := by
      split <;> simp
    have hg : (x :: y :: a').length - 1 = ((y :: a').length - 1) + 1 := by simp
    simp only [bytesEq] at h ⊢
    rw [hc, hg, List.take_succ_cons, List.take_succ_cons, List.getD_cons_succ, List.getD_cons_succ]
    simp only [Bool.and_eq_true, beq_iff_eq] at h ⊢
    exact ⟨by rw [h.1], h.2⟩

theorem bytesEq_normBits (n : Nat) (bs : List Nat) (hl : bs.length = (n + 7) / 8) :
    bytesEq n bs (normBits n bs) = true := by
  induction bs generalizing n with
  | nil => simp [bytesEq, normBits]
  | cons b rest ih =>
    simp only [List.length_cons] at hl
    by_cases h8 : 8 ≤ n
    · simp only [normBits, h8, if_true]
      apply bytesEq_cons_same
      rw [← bytesEq_shift n h8]
      exact ih (n - 8) (by omega)
    · have hr : rest = [] := by
        apply List.eq_nil_of_length_eq_zero; omega
      subst hr
      have hn : n % 8 = n := Nat.mod_eq_of_lt (by omega)
      have hn0 : n ≠ 0 := by simp at hl; omega
      simp [normBits, h8, bytesEq, hn, hn0]

theorem array_back_bit (shape : List Nat) (bs : List Nat)
    (hl : bs.length = (numel shape + 7) / 8) (hb : ∀ b ∈ bs, b < 256) :
    ∃ (r : List Nat),
      toFlatU128 bs shape .bit = .ok r ∧ r.length = numel shape ∧
      vecToBytes .bit ((r.map (readBack .bit)).map (fun x => ((x : Nat) : Int)))
        = .ok (normBits (numel shape) bs) := by
  have hchk : checkArrayType bs.length shape .bit = true := by simp [checkArrayType, hl, ST.bits]
  have hr1 : ∀ a ∈ (bs.flatMap unpackByte).take (numel shape), a ≤ 1 := by
    intro a ha
    rcases List.mem_flatMap.1 (List.mem_of_mem_take ha) with ⟨b, _, hab⟩
    exact mem_unpackByte_le b a hab
  refine ⟨(bs.flatMap unpackByte).take (numel shape), ?_, ?_, ?_⟩
  · simp [toFlatU128, hchk, vecU128FromBytes, vecFromBytesW]
  · rw [List.length_take, length_flatMap_unpackByte]; omega
  · have e : ((bs.flatMap unpackByte).take (numel shape)).map (readBack .bit)
        = (bs.flatMap unpackByte).take (numel shape) :=
      (List.map_congr_left fun a ha => readBack_bit a (hr1 a ha)).trans (List.map_id' _)
    rw [e]
    show bitsToBytes _ = _
    rw [bitsToBytes_ok]
    · rw [List.map_map]
      have : (Int.toNat ∘ fun x : Nat => (x : Int)) = id := by funext x; simp
      rw [this, List.map_id, pack_take_unpack _ _ hl hb]
    · intro x hx
      rcases List.mem_map.1 hx with ⟨a, ha, rfl⟩
      have := hr1 a ha
      omega

/-- decode an array value, print every element, parse it, encode again: same length, and equal in the
    sense of `is_equal` (identical for non-bit types; for bits, stray bits of the last byte cleared) -/
theorem array_back (st : ST) (shape : List Nat) (bs : List Nat)
    (hl : bs.length = (numel shape * st.bits + 7) / 8) (hb : ∀ b ∈ bs, b < 256) :
    ∃ (r : List Nat) (bs' : List Nat),
      toFlatU128 bs shape st = .ok r ∧ r.length = numel shape ∧
      vecToBytes st ((r.map (readBack st)).map (fun x => ((x : Nat) : Int))) = .ok bs' ∧
      bs'.length = bs.length ∧ bytesEq (numel shape * st.bits) bs bs' = true := by
  by_cases h : st = .bit
  · subst h
    rw [show numel shape * ST.bit.bits = numel shape from Nat.mul_one _] at hl ⊢
    obtain ⟨r, h1, h2, h3⟩ := array_back_bit shape bs hl hb
    exact ⟨r, _, h1, h2, h3, length_normBits _ _ hl, bytesEq_normBits _ _ hl⟩
  · obtain ⟨r, h1, h2, h3⟩ := array_back_nonbit st h shape bs hl hb
    exact ⟨r, bs, h1, h2, h3, rfl, bytesEq_refl _ _⟩

end CCV.TV
