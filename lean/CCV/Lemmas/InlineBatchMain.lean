import CCV.Lemmas.InlineBatchElem
/-
  C07, batched small-state inliner: assembly.  The elementwise facts (`maskToValue_spec`,
  `oneHotEncode_spec`: Lemmas/InlineBatchElem.lean) and the layout facts (`stackMappings_spec`,
  `permuteInitial_spec`, `masksArr_spec`: Lemmas/InlineBatchLayout.lean) are combined with the
  matrix-product half (Lemmas/InlineBatch.lean); `CCV.C07.iterSmallB_ref` puts them together.
-/
namespace CCV.InlineBatch
open CCV CCV.Shape CCV.Ops CCV.Inline

/-- the contract of the small-state strategy (exponential_inliner.rs, doc comment of
    `inline_iterate_small_state`): the body maps BIT arrays of the state shape to BIT arrays of the
    state shape, and row `β` of the new state depends only on row `β` of the old state (and on the
    input): `g β` is the transition function of row `β` on masks. -/
structure RowWise {I : Type} (B : List Nat) (K : Nat) (G : List Nat → I → List Nat)
    (g : List Nat → Nat → I → Nat) : Prop where
  wf : ∀ S x, WF (B ++ [K]) S → WF (B ++ [K]) (G S x)
  row : ∀ S x β, WF (B ++ [K]) S → validIdx β B → rowNat B K (G S x) β = g β (rowNat B K S β) x

def Fm {I : Type} (K : Nat) (gβ : Nat → I → Nat) (x : I) : Mat :=
  fun i j => decide (i < 2 ^ K) && decide (j < 2 ^ K) && (gβ i x == j)

theorem maskToValue_WF (B : List Nat) (K m : Nat) :
    WF (B ++ [K]) (maskToValue (B ++ [K]) K m) :=
  ⟨(maskToValue_spec B K m).1, (maskToValue_spec B K m).2.1⟩

theorem rowNat_mask (B : List Nat) (K m : Nat) (hm : m < 2 ^ K)
    (β : List Nat) (hβ : validIdx β B) : rowNat B K (maskToValue (B ++ [K]) K m) β = m := by
  unfold rowNat
  rw [natOfBits_congr K _ (fun k => m.testBit k) (fun k hk => by
    rw [(maskToValue_spec B K m).2.2 β k hβ hk, toNat_beq_one])]
  exact natOfBits_testBit K m hm

theorem rowNat_lt (B : List Nat) (K : Nat) (S β : List Nat) : rowNat B K S β < 2 ^ K := natOfBits_lt K _

theorem rowStep_lt {I : Type} {B : List Nat} {K : Nat} {G : List Nat → I → List Nat} {g : List Nat → Nat → I → Nat}
    (hG : RowWise B K G g) (β : List Nat) (hβ : validIdx β B) (m : Nat) (x : I) (hm : m < 2 ^ K) :
    g β m x < 2 ^ K := by
  have := hG.row (maskToValue (B ++ [K]) K m) x β (maskToValue_WF B K m) hβ
  rw [rowNat_mask B K m hm β hβ] at this
  rw [← this]
  exact rowNat_lt _ _ _ _

theorem Rep_Fm {I : Type} (K : Nat) (gβ : Nat → I → Nat) (hg : ∀ st x, st < 2 ^ K → gβ st x < 2 ^ K) (x : I) :
    Rep (2 ^ K) (Fm K gβ x) (fun st => gβ st x) := by
  intro i hi j
  simp only [Fm, hi, decide_true, Bool.true_and]
  by_cases hj : j < 2 ^ K
  · simp only [hj, decide_true, Bool.true_and]
  · have := hg i x hi
    have hne : (gβ i x == j) = false := beq_eq_false_iff_ne.mpr (by omega)
    simp only [hj, decide_false, Bool.false_and, hne]

theorem maskConstants_getD (B : List Nat) (K m : Nat) (hm : m < 2 ^ K) :
    (maskConstants B K).getD m [] = maskToValue (B ++ [K]) K m := by
  rw [getD_eq_get _ _ _ (by rw [maskConstants_length]; exact hm)]
  simp only [maskConstants, List.getElem_map, List.getElem_range]

theorem createMappings_rowMat {I : Type} (B : List Nat) (K : Nat) (G : List Nat → I → List Nat)
    (g : List Nat → Nat → I → Nat) (hG : RowWise B K G g) (hB : pos B) (hK : 1 ≤ K) (xs : List I)
    (β : List Nat) (hβ : validIdx β B) :
    (createMappings B K G xs).map (rowMat B (2 ^ K) β) = xs.map (Fm K (g β)) := by
  have hwfG : ∀ mc ∈ maskConstants B K, ∀ x, WF (B ++ [K]) (G mc x) := by
    intro mc hmc x
    simp only [maskConstants, List.mem_map, List.mem_range] at hmc
    obtain ⟨m, _, rfl⟩ := hmc
    exact hG.wf _ x (maskToValue_WF B K m)
  have hrow : ∀ row ∈ (xs.map fun x => (maskConstants B K).map fun mc => oneHotEncode B K (G mc x)),
      row.length = 2 ^ K ∧ ∀ oh ∈ row, oh.length = 2 ^ K * prod B := by
    intro row hr
    simp only [List.mem_map] at hr
    obtain ⟨x, _, rfl⟩ := hr
    refine ⟨by rw [List.length_map, maskConstants_length], ?_⟩
    intro oh hoh
    simp only [List.mem_map] at hoh
    obtain ⟨mc, hmc, rfl⟩ := hoh
    exact (oneHotEncode_spec B K _ hB hK (hwfG mc hmc x)).1
  have hP := stackMappings_spec B K _ hrow
  unfold createMappings
  apply List.ext_getElem
  · simp only [List.length_map]; rw [hP.1]; simp only [List.length_map]
  · intro i h1 h2
    simp only [List.length_map] at h2
    simp only [List.getElem_map]
    have hi : i < (xs.map fun x => (maskConstants B K).map fun mc => oneHotEncode B K (G mc x)).length := by
      rw [List.length_map]; exact h2
    have hPi := (hP.2 i hi).2
    rw [← getD_eq_get _ [] _ (by rw [List.length_map] at h1; exact h1)]
    funext a b
    simp only [rowMat, Fm]
    by_cases ha : a < 2 ^ K
    · by_cases hb : b < 2 ^ K
      · simp only [ha, hb, decide_true, Bool.true_and]
        rw [hPi β a b hβ ha hb]
        have hwf := hG.wf _ xs[i] (maskToValue_WF B K a)
        rw [getD_eq_get _ [] _ hi, List.getElem_map,
          getD_eq_get _ [] _ (by rw [List.length_map, maskConstants_length]; exact ha), List.getElem_map,
          ← getD_eq_get _ [] _ (by rw [maskConstants_length]; exact ha), maskConstants_getD B K a ha,
          (oneHotEncode_spec B K _ hB hK hwf).2.2 b β hb hβ, toNat_mod_two_beq,
          hG.row _ xs[i] β (maskToValue_WF B K a) hβ, rowNat_mask B K a ha β hβ]
      · simp only [hb, decide_false, Bool.and_false, Bool.false_and]
    · simp only [ha, decide_false, Bool.false_and]

theorem extractState_bit (B : List Nat) (K : Nat) (hB : pos B) (hK : 1 ≤ K) (s : List Nat)
    (hs : WF (B ++ [K]) s) (β : List Nat) (hβ : validIdx β B) (p : List Nat) (k : Nat) (hk : k < K) :
    (extractState B K (permuteInitial B K (oneHotEncode B K s)) (masksArr B K) p).getD
        (flat (β ++ [k]) (B ++ [K])) 0
      = (decodeBit (2 ^ K) (vecMul (2 ^ K) (oneHot (rowNat B K s β)) (rowMat B (2 ^ K) β p)) k).toNat := by
  have hE := oneHotEncode_spec B K s hB hK hs
  apply extractState_entry B K β hβ k hk
  · intro j hj
    rw [(permuteInitial_spec B K _ hE.1).2 β j hβ hj, hE.2.2 j β hj hβ, toNat_mod_two_beq]
    rfl
  · intro m hm
    rw [(masksArr_spec B K).2 β m k hβ hm hk, maskConstants_getD B K m hm,
      (maskToValue_spec B K m).2.2 β k hβ hk]

theorem array_ext (B : List Nat) (K : Nat) (hB : pos B) (X T : List Nat)
    (hlX : X.length = prod (B ++ [K])) (hlT : T.length = prod (B ++ [K]))
    (h : ∀ β k, validIdx β B → k < K →
      X.getD (flat (β ++ [k]) (B ++ [K])) 0 = T.getD (flat (β ++ [k]) (B ++ [K])) 0) : X = T := by
  apply List.ext_getElem (by rw [hlX, hlT])
  intro n h1 h2
  have hn : n < prod B * K := by
    rw [hlX, prod_append] at h1
    simpa only [prod, Nat.mul_one] using h1
  have hK : 0 < K := Nat.pos_of_ne_zero (by rintro rfl; omega)
  have hq : n / K < prod B := (Nat.div_lt_iff_lt_mul hK).mpr hn
  have hv := numberToIndex_valid hB hq
  have := h _ (n % K) hv (Nat.mod_lt n hK)
  rw [flat_snoc (validIdx_length hv), flat_numberToIndex hB hq, Nat.div_add_mod' n K,
    getD_eq_get _ _ _ h1, getD_eq_get _ _ _ h2] at this
  exact this

theorem extractState_eq (B : List Nat) (K : Nat) (hB : pos B) (hK : 1 ≤ K) (s : List Nat)
    (hs : WF (B ++ [K]) s) (p T : List Nat) (hT : WF (B ++ [K]) T)
    (h : ∀ β, validIdx β B → extractS K (rowNat B K s β) (rowMat B (2 ^ K) β p) = rowNat B K T β) :
    extractState B K (permuteInitial B K (oneHotEncode B K s)) (masksArr B K) p = T := by
  apply array_ext B K hB _ _ (extractState_length _ _ _ _ _) hT.1
  intro β k hβ hk
  rw [extractState_bit B K hB hK s hs β hβ p k hk, natOfBits_inj K _ _ (h β hβ) k hk]
  exact toNat_beq_of_lt _ (hT.2 _)

theorem validIdx_zero : ∀ (B : List Nat), pos B → validIdx (B.map fun _ => 0) B
  | [], _ => trivial
  | _ :: ds, h => ⟨(pos_cons h).1, validIdx_zero ds (pos_cons h).2⟩

theorem iterSmallB_eq_iterVia {I O : Type} (level : Level) (B : List Nat) (K : Nat) (emptyOut : Bool) (unit : O)
    (G : List Nat → I → List Nat × O) (s : List Nat) (xs : List I) :
    iterSmallB level B K emptyOut unit G s xs
      = iterVia emptyOut unit G (extractState B K (permuteInitial B K (oneHotEncode B K s)) (masksArr B K)) []
          (logDepthSum (combine B K) (createMappings B K (fun st x => (G st x).1) xs))
          (pick level xs.length (combine B K) (createMappings B K (fun st x => (G st x).1) xs)) s xs := rfl

end CCV.InlineBatch
