import CCV.Lemmas.OptimizerEvalLift
/-
  The A2B / B2A cancellation laws of the optimiser for the evaluator instance `semE`
  (`OptimizerEvalDefs.lean`), value AND type.  `A2B(B2A_st(x)) = x` holds whenever the left-hand
  side evaluates (`a2b_b2a_law`).  `B2A_st(A2B(x)) = x` needs more: the (invalid) type
  `array [] st` is accepted by `a2b_type_inference` (which does not check validity of its argument),
  its summary is `.arr 0 st` like a scalar, and `B2A_st(A2B(x))` re-types it as `scalar st`
  (`b2a_a2b_counterexample`).  `b2a_a2b_law` has the weakest hypothesis excluding this (the type of
  `x` is not a dimensionless array), which validity of the type of `x` implies.
-/
namespace CCV.OptEval
open CCV CCV.TV CCV.TI CCV.EvalOps

theorem range_bits_eq_unpackN (n x : Nat) :
    ((List.range n).map fun k => x / 2 ^ k % 2) = Bytes.unpackN x n := by
  induction n generalizing x with
  | zero => simp [Bytes.unpackN]
  | succ n ih =>
    rw [List.range_succ_eq_map, List.map_cons, List.map_map, Bytes.unpackN, ← ih]
    simp only [Nat.pow_zero, Nat.div_one, List.cons.injEq, true_and]
    apply List.map_congr_left
    intro k _
    simp only [Function.comp, Nat.pow_succ, Nat.mul_comm (2 ^ k) 2, Nat.div_div_eq_div_mul]

theorem bits_packBits (c : List Nat) (hc : ∀ b ∈ c, b < 2) :
    ((List.range c.length).map fun k => Bytes.packBits c / 2 ^ k % 2) = c := by
  rw [range_bits_eq_unpackN,
    Bytes.unpackN_packBits c (fun y hy => Nat.le_of_lt_succ (hc y hy)) c.length (Nat.le_refl _)]
  simp

/-- cut the bits into `d` chunks of `st.bits`: B2A packs each chunk into one number (`b2a_spec`), A2B
    lists the bits of each number (`a2b_spec`), and the bits of a packed chunk are the chunk -/
theorem a2b_of_b2a (st : ST) (hst : st ≠ .bit) (d : Nat) (bits : List Nat)
    (hl : bits.length = d * st.bits) (hb : ∀ b ∈ bits, b < 2) :
    ∃ r, Ops.b2a st bits = .ok r ∧ Ops.a2b st r = .ok bits := by
  let cs : List (List Nat) := (List.range d).map fun i => Ops.slice bits (i * st.bits) st.bits
  have hcs : cs.flatMap id = bits := by
    simp only [cs, List.flatMap_map, id]
    exact Ops.flatMap_slices _ _ _ hl
  have hc : ∀ c ∈ cs, c.length = st.bits ∧ ∀ b ∈ c, b < 2 := by
    intro c hc
    obtain ⟨i, hi, rfl⟩ := List.mem_map.mp hc
    have hi := List.mem_range.mp hi
    refine ⟨?_, fun b hbm => hb b (mem_slice hbm)⟩
    apply Ops.slice_length
    rw [hl]
    have := Nat.mul_le_mul_right st.bits hi
    rw [Nat.succ_mul] at this
    exact this
  have h := Ops.b2a_spec st hst cs hc
  rw [hcs] at h
  refine ⟨_, h, ?_⟩
  rw [Ops.a2b_spec st hst]
  · congr 1
    rw [List.flatMap_map]
    conv => rhs; rw [← hcs]
    apply Ops.flatMap_congr'
    intro c hcm
    have := bits_packBits c (hc c hcm).2
    rw [(hc c hcm).1] at this
    exact this
  · intro x hx
    obtain ⟨c, hcm, rfl⟩ := List.mem_map.mp hx
    have := Ops.packBits_lt c (hc c hcm).2
    rw [(hc c hcm).1] at this
    exact this

theorem dropLast_concat (s : List Nat) (b : Nat) : dropLast (s ++ [b]) = s := by
  rw [dropLast, List.length_append, List.length_singleton, Nat.add_sub_cancel, List.take_left' rfl]

theorem b2aInfer_inv {t t1 : TV.Ty} {st : ST} (h : b2aInfer t st = .ok t1) :
    ∃ s, t = .array (s ++ [st.bits]) .bit ∧ st ≠ .bit ∧ t1 = arrOrScalar s st := by
  unfold b2aInfer at h
  obtain ⟨hval, h1⟩ := of_ite_error h
  cases t with
  | array s ast =>
    obtain ⟨hbit, h2⟩ := of_ite_error h1
    obtain ⟨hst, h3⟩ := of_ite_error h2
    obtain ⟨hlast, h4⟩ := of_ite_error h3
    cases Decidable.not_not.mp hbit
    -- a valid shape is not empty: split off its last dimension
    obtain ⟨s', b, hs⟩ :=
      (List.eq_nil_or_concat s).resolve_left (valid_array (Bool.not_eq_false _ ▸ hval)).1
    rw [List.concat_eq_append] at hs
    subst hs
    rw [List.length_append, List.length_singleton, Nat.add_sub_cancel, List.getD_eq_getElem?_getD,
      List.getElem?_concat_length, Option.getD_some] at hlast
    cases Decidable.not_not.mp hlast
    refine ⟨s', rfl, hst, ?_⟩
    rw [dropLast_concat] at h4
    cases s' with
    | nil => exact (Except.ok.inj h4).symm
    | cons d s' =>
      rw [if_neg (by simp)] at h4
      exact (Except.ok.inj h4).symm
  | scalar _ => cases h1
  | vector _ _ => cases h1
  | tuple _ => cases h1
  | named _ => cases h1

theorem a2bInfer_inv {s : List Nat} {st : ST} {t1 : TV.Ty} (h : a2bInfer (arrOrScalar s st) = .ok t1) :
    st ≠ .bit ∧ t1 = .array (s ++ [st.bits]) .bit := by
  cases s with
  | nil =>
    obtain ⟨hst, h⟩ := of_ite_error h
    exact ⟨hst, (Except.ok.inj h).symm⟩
  | cons d s =>
    obtain ⟨hst, h⟩ := of_ite_error h
    exact ⟨hst, (Except.ok.inj h).symm⟩

theorem a2b_b2a_law (x : VE) (st' : ST) (hok : okE (liftE .a2b [liftE (.b2a st') [x]])) :
    liftE .a2b [liftE (.b2a st') [x]] = x := by
  obtain ⟨r, hr⟩ := okE_iff.mp hok
  rw [hr]
  obtain ⟨t1, e1, h1, _, hi2, he2⟩ := liftE_one.mp hr
  obtain ⟨t, e, rfl, hty, hi1, he1⟩ := liftE_one.mp h1
  obtain ⟨s, rfl, hst, rfl⟩ := b2aInfer_inv (infer_ok_raw hi1)
  obtain ⟨_, hr1⟩ := a2bInfer_inv (infer_ok_raw hi2)
  obtain ⟨xs, rfl, hlen, hbits⟩ := hasTypeB_array hty
  rw [Shape.prod_append, Shape.prod, Shape.prod, Nat.mul_one] at hlen
  obtain ⟨ys, hys, hya⟩ := a2b_of_b2a st' hst _ xs hlen hbits
  rw [evalOp_b2a xs hi1] at he1
  cases okArr_ok hys he1
  rw [evalOp_a2b ys hi2, stE_arrOrScalar] at he2
  obtain ⟨rt, rv⟩ := r
  cases okArr_ok hya he2
  cases hr1
  rfl

theorem b2a_a2b_core {s : List Nat} {st : ST} {e : EV} {r : TV.Ty × EV}
    (hr : liftE (.b2a st) [liftE .a2b [some (arrOrScalar s st, e)]] = some r) :
    r = (arrOrScalar s st, e) := by
  obtain ⟨t1, e1, h1, _, hi2, he2⟩ := liftE_one.mp hr
  obtain ⟨t, e', hx, hty, hi1, he1⟩ := liftE_one.mp h1
  cases hx
  obtain ⟨hst, rfl⟩ := a2bInfer_inv (infer_ok_raw hi1)
  obtain ⟨s', hs, _, hr1⟩ := b2aInfer_inv (infer_ok_raw hi2)
  cases List.append_cancel_right (Ty.array.inj hs).1
  obtain ⟨xs, rfl, _, hlt⟩ := hasTypeB_arrOrScalar hty
  obtain ⟨bits, hbits, hback⟩ := Ops.b2a_a2b st hst xs hlt
  rw [evalOp_a2b xs hi1, stE_arrOrScalar] at he1
  cases okArr_ok hbits he1
  rw [evalOp_b2a bits hi2] at he2
  obtain ⟨rt, rv⟩ := r
  cases okArr_ok hback he2
  cases hr1
  rfl

/-- `hne` excludes the (invalid) dimensionless array type `array [] st'` (`b2a_a2b_counterexample`
    shows why) -/
theorem b2a_a2b_law (T : Tab) (hst : ∀ s, T.st (T.stc s) = s) (x : VE) (nd st : Nat)
    (h : tyvE T x = .arr nd st) (hne : ∀ st' e, x ≠ some (.array [] st', e))
    (hok : okE (semE T (.b2a st) [semE T .a2b [x]])) :
    semE T (.b2a st) [semE T .a2b [x]] = x := by
  obtain ⟨r, hr⟩ := okE_iff.mp hok
  rw [hr]
  change liftE (.b2a (T.st st)) [liftE .a2b [x]] = some r at hr
  -- the summary `arr nd st` leaves a scalar or an array of scalar type `T.st st`
  obtain ⟨s, e, rfl⟩ : ∃ s e, x = some (arrOrScalar s (T.st st), e) := by
    cases x with
    | none => cases h
    | some p =>
      obtain ⟨t, e⟩ := p
      cases t with
      | scalar st0 =>
        cases h
        exact ⟨[], e, by rw [hst]; rfl⟩
      | array s st0 =>
        cases h
        cases s with
        | nil => exact absurd rfl (hne st0 e)
        | cons d s => exact ⟨d :: s, e, by rw [hst]; rfl⟩
      | vector _ _ => cases h
      | tuple _ => cases h
      | named _ => cases h
  rw [b2a_a2b_core hr]

def stcX : ST → Nat
  | .bit => 0 | .u8 => 1 | .i8 => 2 | .u16 => 3 | .i16 => 4 | .u32 => 5 | .i32 => 6
  | .u64 => 7 | .i64 => 8 | .u128 => 9 | .i128 => 10

def stX : Nat → ST
  | 0 => .bit | 1 => .u8 | 2 => .i8 | 3 => .u16 | 4 => .i16 | 5 => .u32 | 6 => .i32
  | 7 => .u64 | 8 => .i64 | 9 => .u128 | _ => .i128

def tabX : Tab :=
  { nm := fun _ => "", ty := fun _ => .scalar .bit, st := stX, stc := stcX, cst := fun _ => none,
    op := fun _ => .nop }

/-- `x = (array [] u8, [5])`, `st = u8`: the summary type of `x` is `.arr 0 u8`, the left-hand side
    evaluates to `(scalar u8, [5])`, a different type. So `b2a_a2b_law` without the extra hypothesis
    `hne` is false. -/
theorem b2a_a2b_counterexample :
    (∀ s, tabX.st (tabX.stc s) = s) ∧
    tyvE tabX (some (.array [] .u8, .arr [5])) = .arr 0 1 ∧
    semE tabX (.b2a 1) [semE tabX .a2b [some (.array [] .u8, .arr [5])]]
      = some (.scalar .u8, .arr [5]) ∧
    semE tabX (.b2a 1) [semE tabX .a2b [some (.array [] .u8, .arr [5])]]
      ≠ some (.array [] .u8, .arr [5]) := by
  have ha : semE tabX .a2b [some (.array [] .u8, .arr [5])]
      = some (.array [8] .bit, .arr [1, 0, 1, 0, 0, 0, 0, 0]) := by rfl
  have hb : semE tabX (.b2a 1) [some (.array [8] .bit, .arr [1, 0, 1, 0, 0, 0, 0, 0])]
      = some (.scalar .u8, .arr [5]) := by
    show liftE (.b2a .u8) [some (.array [8] .bit, .arr [1, 0, 1, 0, 0, 0, 0, 0])] = _
    have hk : Ops.b2a .u8 [1, 0, 1, 0, 0, 0, 0, 0] = .ok [5] := by decide +kernel
    have hi : infer (.b2a .u8) [.array [8] .bit] = .ok (.scalar .u8) := by rfl
    exact liftE_one.mpr ⟨_, _, rfl, by decide, hi, by rw [evalOp_b2a _ hi, hk]; rfl⟩
  have h3 : semE tabX (.b2a 1) [semE tabX .a2b [some (.array [] .u8, .arr [5])]]
      = some (.scalar .u8, .arr [5]) := by rw [ha, hb]
  refine ⟨fun s => by cases s <;> rfl, rfl, h3, ?_⟩
  rw [h3]
  intro h
  injection h with h
  injection h with h1 _
  cases h1

theorem b2a_a2b_law_unrestricted_false :
    ¬ (∀ (T : Tab) (_ : ∀ s, T.st (T.stc s) = s) (x : VE) (nd st : Nat)
        (_ : tyvE T x = .arr nd st) (_ : okE (semE T (.b2a st) [semE T .a2b [x]])),
        semE T (.b2a st) [semE T .a2b [x]] = x) := by
  intro hall
  obtain ⟨h1, h2, h3, h4⟩ := b2a_a2b_counterexample
  exact h4 (hall tabX h1 _ 0 1 h2 (by rw [h3]; rfl))

end CCV.OptEval
