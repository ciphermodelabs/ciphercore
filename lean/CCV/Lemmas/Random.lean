import CCV.Model.Random
/-
  Lemmas for C15.  A session is followed through the invariant `Inv blocks s pos` ("the ready bytes are
  the counter-mode stream from `pos` on"); a generator is specified by `Reads` ("from every session at
  `pos` it returns the same value and advances the position by `n`").  In this order: the stream and the
  session (both read paths, `fillLoop` and `randomNumber`); `clog2` / `needBytes` and residue counting;
  agreement of the bounded draws of two sessions (`SameUpToSession`); value generation and `WellTyped`;
  `swap` and Fisher–Yates (`applySwaps`) as a bijection.
-/
namespace CCV.Random

variable (blocks : Nat → List Nat)

def streamByte (blocks : Nat → List Nat) (k : Nat) : Nat := (blocks (k / 16)).getD (k % 16) 0

def streamSlice (blocks : Nat → List Nat) (a n : Nat) : List Nat :=
  (List.range n).map (fun j => streamByte blocks (a + j))

@[simp] theorem length_streamSlice (a n : Nat) :
    (streamSlice blocks a n).length = n := by
  rw [streamSlice, List.length_map, List.length_range]

@[simp] theorem streamSlice_zero (blocks : Nat → List Nat) (a : Nat) : streamSlice blocks a 0 = [] := rfl

theorem streamSlice_add (a n m : Nat) :
    streamSlice blocks a (n + m) = streamSlice blocks a n ++ streamSlice blocks (a + n) m := by
  simp only [streamSlice, List.range_add, List.map_append, List.map_map, Function.comp_def, Nat.add_assoc]

theorem streamSlice_take (a n k : Nat) (h : k ≤ n) :
    (streamSlice blocks a n).take k = streamSlice blocks a k := by
  obtain ⟨d, rfl⟩ := Nat.exists_eq_add_of_le h
  rw [streamSlice_add, List.take_left' (length_streamSlice blocks a k)]

theorem streamSlice_drop (a n k : Nat) (h : k ≤ n) :
    (streamSlice blocks a n).drop k = streamSlice blocks (a + k) (n - k) := by
  obtain ⟨d, rfl⟩ := Nat.exists_eq_add_of_le h
  rw [streamSlice_add, List.drop_left' (length_streamSlice blocks a k), Nat.add_sub_cancel_left]

theorem block_eq (i : Nat) (h : (blocks i).length = 16) :
    blocks i = streamSlice blocks (16 * i) 16 := by
  apply List.ext_getElem (by rw [h, length_streamSlice])
  intro j h1 _
  have hj : j < 16 := h ▸ h1
  simp only [streamSlice, streamByte, List.getElem_map, List.getElem_range, Nat.mul_add_div (Nat.succ_pos 15),
    Nat.div_eq_of_lt hj, Nat.mul_add_mod, Nat.mod_eq_of_lt hj, Nat.add_zero, List.getD_eq_getElem?_getD,
    List.getElem?_eq_getElem h1, Option.getD_some]

theorem batch_eq (hb : ∀ i, (blocks i).length = 16) (c nb : Nat) :
    (List.range nb).flatMap (fun i => blocks (c + i)) = streamSlice blocks (16 * c) (16 * nb) := by
  induction nb with
  | zero => rfl
  | succ nb ih =>
    rw [List.range_succ, List.flatMap_append, ih, Nat.mul_succ, streamSlice_add, List.flatMap_singleton,
      block_eq blocks (c + nb) (hb _), Nat.mul_add]

/-- Session invariant at stream position `pos` (= number of bytes delivered so far): the ready part of
    the buffer is the stream from `pos` on, the buffer ends at block boundary `16·ctr`. -/
structure Inv (blocks : Nat → List Nat) (s : Session) (pos : Nat) : Prop where
  len : s.buffer.length = s.curSize
  nb : s.nextByte ≤ s.curSize
  ready : s.ready = streamSlice blocks pos (s.curSize - s.nextByte)
  ctr : 16 * s.ctr = pos + (s.curSize - s.nextByte)
  ns16 : s.nextSize % 16 = 0
  nspos : 0 < s.nextSize

theorem inv_new (ibs : Nat) (h : 1 ≤ ibs) : Inv blocks (Session.new ibs) 0 := by
  refine ⟨?_, ?_, ?_, ?_, ?_, ?_⟩ <;> simp [Session.new, Session.ready, BLOCK_SIZE] <;> omega

/-- the growth schedule ×2 up to 512 keeps the size a positive multiple of 16 -/
theorem nextSize_grow (x : Nat) (h16 : x % 16 = 0) (hpos : 0 < x) :
    (if x < BUFFER_SIZE then min BUFFER_SIZE (x * 2) else x) % 16 = 0 ∧
      0 < (if x < BUFFER_SIZE then min BUFFER_SIZE (x * 2) else x) := by
  split
  · rw [Nat.min_def]
    split
    · exact ⟨rfl, by decide⟩
    · exact ⟨by rw [Nat.mul_mod, h16], Nat.mul_pos hpos (by decide)⟩
  · exact ⟨h16, hpos⟩

theorem inv_oneBatch (hb : ∀ i, (blocks i).length = 16) (s : Session)
    (h16 : s.nextSize % 16 = 0) (hpos : 0 < s.nextSize) :
    Inv blocks (oneBatch blocks s) (16 * s.ctr) := by
  have hdvd : 16 * (s.nextSize / 16) = s.nextSize := Nat.mul_div_cancel' (Nat.dvd_of_mod_eq_zero h16)
  have hbuf : (oneBatch blocks s).buffer = streamSlice blocks (16 * s.ctr) s.nextSize :=
    (batch_eq blocks hb s.ctr (s.nextSize / 16)).trans (congrArg _ hdvd)
  have hlen : (oneBatch blocks s).buffer.length = s.nextSize := by rw [hbuf, length_streamSlice]
  exact ⟨hlen, Nat.zero_le _, (List.take_of_length_le (Nat.le_of_eq hlen)).trans hbuf,
    (Nat.mul_add 16 _ _).trans (congrArg (16 * s.ctr + ·) hdvd),
    (nextSize_grow _ h16 hpos).1, (nextSize_grow _ h16 hpos).2⟩

def Reads {α : Type} (blocks : Nat → List Nat) (g : Session → Except String (Session × α)) (pos : Nat)
    (v : α) (n : Nat) : Prop :=
  ∀ s, Inv blocks s pos → ∃ s', g s = .ok (s', v) ∧ Inv blocks s' (pos + n)

theorem fillLoop_succ (fuel : Nat) (s : Session) (need : Nat) (acc : List Nat) :
    fillLoop blocks (fuel + 1) s need acc =
      if need = 0 then .ok (s, acc)
      else if need ≤ s.ready.length then
        .ok ({ s with nextByte := s.nextByte + need }, acc ++ s.ready.take need)
      else fillLoop blocks fuel (oneBatch blocks { s with nextByte := 0 }) (need - s.ready.length)
        (acc ++ s.ready) := rfl

section
variable {blocks} {s : Session} {pos : Nat}

theorem Inv.ready_length (h : Inv blocks s pos) :
    s.ready.length = s.curSize - s.nextByte := by rw [h.ready, length_streamSlice]

theorem Inv.drop_buffer (h : Inv blocks s pos) :
    s.buffer.drop s.nextByte = s.ready := by
  rw [Session.ready, List.take_of_length_le (Nat.le_of_eq h.len)]

theorem Inv.le_nextSize (h : Inv blocks s pos) :
    16 ≤ s.nextSize :=
  Nat.le_of_dvd h.nspos (Nat.dvd_of_mod_eq_zero h.ns16)

theorem Inv.oneBatch (h : Inv blocks s pos)
    (hb : ∀ i, (blocks i).length = 16) :
    Inv blocks (oneBatch blocks s) (pos + (s.curSize - s.nextByte)) :=
  h.ctr ▸ inv_oneBatch blocks hb s h.ns16 h.nspos

theorem inv_consume (hinv : Inv blocks s pos)
    (need : Nat) (hle : need ≤ s.curSize - s.nextByte) :
    s.ready.take need = streamSlice blocks pos need ∧
    Inv blocks { s with nextByte := s.nextByte + need } (pos + need) := by
  refine ⟨?_, hinv.len, Nat.add_le_of_le_sub' hinv.nb hle, ?_, ?_, hinv.ns16, hinv.nspos⟩
  · rw [hinv.ready, streamSlice_take _ _ _ _ hle]
  · show List.drop (s.nextByte + need) (List.take s.curSize s.buffer)
      = streamSlice blocks (pos + need) (s.curSize - (s.nextByte + need))
    rw [← List.drop_drop, ← Nat.sub_sub, ← streamSlice_drop _ _ _ _ hle, ← hinv.ready]; rfl
  · show 16 * s.ctr = pos + need + (s.curSize - (s.nextByte + need))
    rw [hinv.ctr, Nat.add_assoc, ← Nat.sub_sub, Nat.add_sub_cancel' hle]

theorem Reads.map {α β : Type} {g : Session → Except String (Session × α)}
    {h : Session → Except String (Session × β)} {n : Nat} {v : α} (hg : Reads blocks g pos v n) (f : α → β)
    (hh : ∀ s s1, g s = .ok (s1, v) → h s = .ok (s1, f v)) : Reads blocks h pos (f v) n := by
  intro s hinv
  obtain ⟨s1, h1, i1⟩ := hg s hinv
  exact ⟨s1, hh s s1 h1, i1⟩

theorem Reads.cons {α : Type} {g : Session → Except String (Session × α)}
    {gs h : Session → Except String (Session × List α)} {n n' : Nat} {v : α} {vs : List α}
    (hg : Reads blocks g pos v n) (hgs : Reads blocks gs (pos + n) vs n')
    (hh : ∀ s s1 s2, g s = .ok (s1, v) → gs s1 = .ok (s2, vs) → h s = .ok (s2, v :: vs)) :
    Reads blocks h pos (v :: vs) (n + n') := by
  intro s hinv
  obtain ⟨s1, h1, i1⟩ := hg s hinv
  obtain ⟨s2, h2, i2⟩ := hgs s1 i1
  exact ⟨s2, hh s s1 s2 h1 h2, Nat.add_assoc pos n n' ▸ i2⟩

theorem fillLoop_of_le (hinv : Inv blocks s pos)
    (need : Nat) (hle : need ≤ s.curSize - s.nextByte) (fuel : Nat) (acc : List Nat) :
    ∃ s', fillLoop blocks (fuel + 1) s need acc = .ok (s', acc ++ streamSlice blocks pos need)
      ∧ Inv blocks s' (pos + need) := by
  obtain ⟨h1, h2⟩ := inv_consume hinv need hle
  have hle' : need ≤ s.ready.length := hinv.ready_length ▸ hle
  by_cases h0 : need = 0
  · subst h0; exact ⟨s, by simp only [fillLoop_succ, if_true, streamSlice_zero, List.append_nil], hinv⟩
  · exact ⟨_, by simp only [fillLoop_succ, h0, hle', if_true, if_false, h1], h2⟩

end

/-- The read loop delivers the next `need` bytes of the stream and keeps the invariant; it terminates
    within `fuel' + 1` iterations when `need ≤ ready + 16·fuel'`, since every refill brings ≥ 16 bytes. -/
theorem fillLoop_spec (hb : ∀ i, (blocks i).length = 16) :
    ∀ (fuel' : Nat) (s : Session) (need : Nat) (acc : List Nat) (pos : Nat), Inv blocks s pos →
      need ≤ (s.curSize - s.nextByte) + 16 * fuel' →
      ∃ s', fillLoop blocks (fuel' + 1) s need acc = .ok (s', acc ++ streamSlice blocks pos need)
        ∧ Inv blocks s' (pos + need) := by
  intro fuel'
  induction fuel' with
  | zero => intro s need acc pos hinv hneed; exact fillLoop_of_le hinv need hneed 0 acc
  | succ f ih =>
    intro s need acc pos hinv hneed
    by_cases hle : need ≤ s.curSize - s.nextByte
    · exact fillLoop_of_le hinv need hle (f + 1) acc
    · have hrl := hinv.ready_length
      have h16 := hinv.le_nextSize
      have h0 : ¬ need = 0 := fun h => hle (h ▸ Nat.zero_le _)
      have hle' : ¬ need ≤ s.ready.length := hrl ▸ hle
      have hfuel : need - s.ready.length ≤ s.nextSize + 16 * f := by
        rw [hrl]
        apply Nat.sub_le_of_le_add
        apply Nat.le_trans hneed
        rw [Nat.mul_succ, Nat.add_comm]
        exact Nat.add_le_add_right (Nat.add_comm (16 * f) 16 ▸ Nat.add_le_add_right h16 (16 * f)) _
      obtain ⟨s', hs', hinv'⟩ := ih (oneBatch blocks { s with nextByte := 0 }) (need - s.ready.length)
        (acc ++ s.ready) _ (hinv.oneBatch hb) hfuel
      refine ⟨s', ?_, ?_⟩
      · rw [fillLoop_succ]
        simp only [h0, hle', if_false]
        rw [hs', List.append_assoc, hrl, hinv.ready, ← streamSlice_add, Nat.add_sub_cancel' (Nat.le_of_not_le hle)]
      · rw [hrl, Nat.add_assoc, Nat.add_sub_cancel' (Nat.le_of_not_le hle)] at hinv'
        exact hinv'

theorem generateRandomBytes_spec (hb : ∀ i, (blocks i).length = 16) (n pos : Nat) :
    Reads blocks (fun s => generateRandomBytes blocks s n) pos (streamSlice blocks pos n) n :=
  fun s hinv => fillLoop_spec blocks hb n s n [] pos hinv
    (Nat.le_trans (Nat.le_mul_of_pos_left n (by decide)) (Nat.le_add_left _ _))

/-- `generate_random_number_const::<need>` (its own straddling logic): the next `need ≤ 16` stream
    bytes as a little-endian number; invariant kept. -/
theorem randomNumber_spec (hb : ∀ i, (blocks i).length = 16)
    (s : Session) (pos need : Nat) (hinv : Inv blocks s pos) (hneed : need ≤ 16) :
    (randomNumber blocks s need).2 = leValue (streamSlice blocks pos need) % 2 ^ (8 * need)
      ∧ Inv blocks (randomNumber blocks s need).1 (pos + need) := by
  unfold randomNumber
  dsimp only
  rw [hinv.drop_buffer]
  by_cases hle : need ≤ s.curSize - s.nextByte
  · obtain ⟨h1, h2⟩ := inv_consume hinv need hle
    rw [Nat.min_eq_right hle, if_pos rfl, h1]
    exact ⟨rfl, h2⟩
  · -- all ready bytes, then the first bytes of a fresh batch
    have hlt := Nat.lt_of_not_le hle
    have h16 := hinv.le_nextSize
    have hinv2 := hinv.oneBatch hb
    have hbuf : (oneBatch blocks s).buffer = (oneBatch blocks s).ready := hinv2.drop_buffer
    obtain ⟨h1, h2⟩ := inv_consume hinv2 (need - (s.curSize - s.nextByte))
      (Nat.le_trans (Nat.sub_le _ _) (Nat.le_trans hneed hinv.le_nextSize))
    rw [← hbuf] at h1
    rw [Nat.add_assoc, Nat.add_sub_cancel' (Nat.le_of_lt hlt),
      show (oneBatch blocks s).nextByte + (need - (s.curSize - s.nextByte)) = _ from Nat.zero_add _] at h2
    rw [Nat.min_eq_left (Nat.le_of_lt hlt), if_neg (Nat.ne_of_lt hlt),
      List.take_of_length_le (Nat.le_of_eq hinv.ready_length), hinv.ready, h1, ← streamSlice_add,
      Nat.add_sub_cancel' (Nat.le_of_lt hlt)]
    exact ⟨rfl, h2⟩

theorem clog2Aux_spec (m : Nat) : ∀ (fuel k : Nat), m ≤ 2 ^ (k + fuel) → m ≤ 2 ^ clog2Aux m fuel k := by
  intro fuel
  induction fuel with
  | zero => exact fun k h => h
  | succ f ih =>
    intro k h
    show m ≤ 2 ^ (if m ≤ 2 ^ k then k else clog2Aux m f (k + 1))
    split
    · assumption
    · exact ih (k + 1) (by rw [Nat.add_right_comm]; exact h)

theorem le_two_pow_clog2 (m : Nat) : m ≤ 2 ^ clog2 m := by
  unfold clog2
  exact clog2Aux_spec m m 0 (by rw [Nat.zero_add]; exact Nat.le_of_lt Nat.lt_two_pow_self)

theorem clog2Aux_le (m K : Nat) (hm : m ≤ 2 ^ K) : ∀ (fuel k : Nat), k ≤ K → clog2Aux m fuel k ≤ K := by
  intro fuel
  induction fuel with
  | zero => exact fun k hk => hk
  | succ f ih =>
    intro k hk
    show (if m ≤ 2 ^ k then k else clog2Aux m f (k + 1)) ≤ K
    split
    · exact hk
    · rename_i h
      apply ih (k + 1)
      rcases Nat.lt_or_ge k K with h' | h'
      · exact h'
      · exact absurd (Nat.le_trans hm (Nat.pow_le_pow_right (by decide) h')) h

theorem le_mul_byteSize (b : Nat) : b ≤ 8 * ((b + 7) / 8) := by
  have h := Nat.lt_mul_div_succ (b + 7) (Nat.succ_pos 7)
  generalize (b + 7) / 8 = q at h
  omega

theorem needBytes_le (m : Nat) (hm : m < 2 ^ 32) : needBytes m ≤ 5 :=
  have : clog2 m ≤ 32 := clog2Aux_le m 32 (Nat.le_of_lt hm) m 0 (Nat.zero_le _)
  Nat.succ_le_succ (Nat.div_le_div_right (c := 8) (Nat.add_le_add_right this 7))

/-- the draw space of `generate_u32_in_range` is at least 256 times the modulus -/
theorem needBytes_space (m : Nat) : 256 * m ≤ 2 ^ (needBytes m * 8) := by
  have hc : clog2 m ≤ (clog2 m + 7) / 8 * 8 := Nat.mul_comm 8 _ ▸ le_mul_byteSize (clog2 m)
  calc 256 * m ≤ 256 * 2 ^ clog2 m := Nat.mul_le_mul_left _ (le_two_pow_clog2 m)
    _ ≤ 256 * 2 ^ ((clog2 m + 7) / 8 * 8) :=
      Nat.mul_le_mul_left _ (Nat.pow_le_pow_right (by decide) hc)
    _ = 2 ^ (needBytes m * 8) := by rw [needBytes, Nat.add_mul, Nat.pow_add, Nat.mul_comm]

def countRes (N m c : Nat) : Nat := ((List.range N).filter (fun r => r % m = c)).length

theorem countRes_mul (m q c : Nat) (hc : c < m) : countRes (m * q) m c = q := by
  induction q with
  | zero => rfl
  | succ q ih =>
    unfold countRes at ih ⊢
    rw [Nat.mul_succ, List.range_add, List.filter_append, List.length_append, ih, List.filter_map,
      List.length_map]
    have : (List.filter ((fun r => decide (r % m = c)) ∘ fun x => m * q + x) (List.range m))
        = (List.range m).filter (· == c) :=
      List.filter_congr fun x hx => by
        rw [Function.comp_apply, Nat.mul_add_mod, Nat.mod_eq_of_lt (List.mem_range.mp hx)]
        rfl
    rw [this, ← List.count_eq_length_filter, List.count_range, if_pos hc]

def SameUpToSession {α : Type} (blocks : Nat → List Nat) (r1 r2 : Except String (Session × α)) : Prop :=
  (∃ e, r1 = .error e ∧ r2 = .error e) ∨
  (∃ s1 s2 v pos, r1 = .ok (s1, v) ∧ r2 = .ok (s2, v) ∧ Inv blocks s1 pos ∧ Inv blocks s2 pos)

theorem u32Loop_same (hb : ∀ i, (blocks i).length = 16) (m nb bound : Nat)
    (hnb : nb ≤ 16) : ∀ (fuel : Nat) (s1 s2 : Session) (pos : Nat), Inv blocks s1 pos → Inv blocks s2 pos →
      SameUpToSession blocks (u32Loop blocks m nb bound fuel s1) (u32Loop blocks m nb bound fuel s2) := by
  intro fuel
  induction fuel with
  | zero => intro s1 s2 pos _ _; exact Or.inl ⟨"fuel", rfl, rfl⟩
  | succ f ih =>
    intro s1 s2 pos h1 h2
    obtain ⟨v1, i1⟩ := randomNumber_spec blocks hb s1 pos nb h1 hnb
    obtain ⟨v2, i2⟩ := randomNumber_spec blocks hb s2 pos nb h2 hnb
    rw [u32Loop, u32Loop]
    generalize randomNumber blocks s1 nb = p1 at v1 i1 ⊢
    generalize randomNumber blocks s2 nb = p2 at v2 i2 ⊢
    obtain ⟨t1, r1⟩ := p1
    obtain ⟨t2, r2⟩ := p2
    dsimp only at v1 v2 i1 i2 ⊢
    rw [v1, v2]
    split
    · exact Or.inr ⟨_, _, _, _, rfl, rfl, i1, i2⟩
    · exact ih _ _ _ i1 i2

theorem u32InRange_same (hb : ∀ i, (blocks i).length = 16) (fuel m : Nat)
    (hm : m < 2 ^ 32) (s1 s2 : Session) (pos : Nat) (h1 : Inv blocks s1 pos) (h2 : Inv blocks s2 pos) :
    SameUpToSession blocks (u32InRange blocks fuel s1 m) (u32InRange blocks fuel s2 m) := by
  unfold u32InRange
  split
  · exact Or.inl ⟨_, rfl, rfl⟩
  · exact u32Loop_same blocks hb m _ _ (Nat.le_trans (needBytes_le m hm) (by decide)) fuel s1 s2 pos h1 h2

theorem u32Many_same (hb : ∀ i, (blocks i).length = 16) (fuel : Nat) :
    ∀ (ms : List Nat), (∀ m ∈ ms, m < 2 ^ 32) → ∀ (s1 s2 : Session) (pos : Nat),
      Inv blocks s1 pos → Inv blocks s2 pos →
      SameUpToSession blocks (u32Many blocks fuel s1 ms) (u32Many blocks fuel s2 ms) := by
  intro ms
  induction ms with
  | nil => intro _ s1 s2 pos h1 h2; exact Or.inr ⟨s1, s2, [], pos, rfl, rfl, h1, h2⟩
  | cons m ms ih =>
    intro hms s1 s2 pos h1 h2
    rw [u32Many, u32Many]
    rcases u32InRange_same blocks hb fuel m (hms m List.mem_cons_self) s1 s2 pos h1 h2 with
      ⟨e, e1, e2⟩ | ⟨t1, t2, v, pos', e1, e2, i1, i2⟩
    · simp only [e1, e2]
      exact Or.inl ⟨e, rfl, rfl⟩
    · simp only [e1, e2]
      rcases ih (fun m hm => hms m (List.mem_cons_of_mem _ hm)) t1 t2 pos' i1 i2 with
        ⟨e, f1, f2⟩ | ⟨u1, u2, vs, pos'', f1, f2, j1, j2⟩
      · exact Or.inl ⟨e, by rw [f1], by rw [f2]⟩
      · exact Or.inr ⟨u1, u2, v :: vs, pos'', by rw [f1], by rw [f2], j1, j2⟩

/-- induction principle of the nested inductive `RTy` with `∀ t ∈ ts` as the hypothesis for tuples
    (the generated recursor has a second motive for the component list instead) -/
theorem RTy.induct' {P : RTy → Prop} (harr : ∀ sb dims, P (.arr sb dims))
    (htup : ∀ ts, (∀ t ∈ ts, P t) → P (.tup ts)) (hvec : ∀ n t, P t → P (.vec n t)) : ∀ t, P t := by
  intro t
  refine RTy.rec (motive_1 := P) (motive_2 := fun ts => ∀ t ∈ ts, P t) harr htup hvec ?_ ?_ t
  · intro t h; cases h
  · intro h tl ih1 ih2 x hx
    rcases List.mem_cons.mp hx with rfl | hx
    · exact ih1
    · exact ih2 x hx

mutual
/-- `v` is a valid value of type `t`: right shape, right byte lengths, bytes < 256, and the integer
    stored in every scalar/array leaf is below `2^bits` (all unused bits are zero). -/
def WellTyped : RTy → RVal → Prop
  | .arr sb dims, .bytes bs =>
    bs.length = (arrBits sb dims + 7) / 8 ∧ (∀ b ∈ bs, b < 256) ∧ leValue bs < 2 ^ arrBits sb dims
  | .tup ts, .vec vs => WellTypedList ts vs
  | .vec n t, .vec vs => vs.length = n ∧ ∀ v ∈ vs, WellTyped t v
  | _, _ => False
def WellTypedList : List RTy → List RVal → Prop
  | [], [] => True
  | t :: ts, v :: vs => WellTyped t v ∧ WellTypedList ts vs
  | _, _ => False
end

theorem length_flushLast (bs : List Nat) (k : Nat) : (flushLast bs k).length = bs.length := by
  induction bs with
  | nil => rfl
  | cons b rest ih =>
    cases rest with
    | nil => rfl
    | cons c rest => exact congrArg (· + 1) ih

theorem flushLast_lt (bs : List Nat) (k : Nat) (h : ∀ b ∈ bs, b < 256) : ∀ b ∈ flushLast bs k, b < 256 := by
  induction bs with
  | nil => intro b hb; cases hb
  | cons x rest ih =>
    cases rest with
    | nil =>
      intro b hb
      exact List.mem_singleton.mp hb ▸ Nat.lt_of_le_of_lt (Nat.div_le_self _ _) (h x List.mem_cons_self)
    | cons c rest =>
      intro b hb
      rcases List.mem_cons.mp hb with rfl | hb
      · exact h _ List.mem_cons_self
      · exact ih (fun b hb => h b (List.mem_cons_of_mem _ hb)) b hb

theorem leValue_flushLast (bs : List Nat) (k : Nat) (hk : k ≤ 8) (h : ∀ b ∈ bs, b < 256) :
    leValue (flushLast bs k) < 2 ^ (8 * bs.length - k) := by
  induction bs with
  | nil => exact Nat.two_pow_pos _
  | cons x rest ih =>
    have hx : x < 256 := h x List.mem_cons_self
    cases rest with
    | nil =>
      show x / 2 ^ k + 256 * 0 < 2 ^ (8 * 1 - k)
      rw [Nat.mul_zero, Nat.add_zero, Nat.div_lt_iff_lt_mul (Nat.two_pow_pos k), ← Nat.pow_add,
        Nat.sub_add_cancel hk]
      exact hx
    | cons c rest =>
      have ih' := ih (fun b hb => h b (List.mem_cons_of_mem _ hb))
      have hk' : k ≤ 8 * (c :: rest).length := Nat.le_trans hk (Nat.le_mul_of_pos_right 8 (Nat.succ_pos _))
      rw [List.length_cons, Nat.mul_succ, Nat.add_comm, Nat.add_sub_assoc hk', Nat.pow_add]
      calc x + 256 * leValue (flushLast (c :: rest) k)
          < 256 + 256 * leValue (flushLast (c :: rest) k) := Nat.add_lt_add_right hx _
        _ = 256 * (leValue (flushLast (c :: rest) k) + 1) := by rw [Nat.mul_succ, Nat.add_comm]
        _ ≤ 256 * 2 ^ (8 * (c :: rest).length - k) := Nat.mul_le_mul_left 256 ih'

theorem streamByte_lt (hbyte : ∀ i, ∀ x ∈ blocks i, x < 256) (k : Nat) :
    streamByte blocks k < 256 := by
  rw [streamByte, List.getD_eq_getElem?_getD]
  cases h : (blocks (k / 16))[k % 16]? with
  | none => exact Nat.succ_pos 255
  | some x => exact hbyte _ x (List.mem_of_getElem? h)

theorem streamSlice_lt (hbyte : ∀ i, ∀ x ∈ blocks i, x < 256) (a n : Nat) :
    ∀ b ∈ streamSlice blocks a n, b < 256 := by
  intro b hb
  obtain ⟨j, _, rfl⟩ := List.mem_map.mp hb
  exact streamByte_lt blocks hbyte _

def ValueSpec (blocks : Nat → List Nat) (t : RTy) : Prop :=
  ∀ pos, ∃ v n, WellTyped t v ∧ Reads blocks (genValue blocks t) pos v n

theorem genLeaf_spec (hb : ∀ i, (blocks i).length = 16)
    (hbyte : ∀ i, ∀ x ∈ blocks i, x < 256) (sb : Nat) (dims : List Nat) : ValueSpec blocks (.arr sb dims) := by
  intro pos
  have hlo := le_mul_byteSize (arrBits sb dims)
  have hhi : 8 * ((arrBits sb dims + 7) / 8) - arrBits sb dims ≤ 8 :=
    Nat.sub_le_of_le_add (Nat.le_trans (Nat.mul_div_le _ 8)
      (Nat.add_comm 7 (arrBits sb dims) ▸ Nat.add_le_add_right (show 7 ≤ 8 by decide) _))
  have hlt := streamSlice_lt blocks hbyte pos ((arrBits sb dims + 7) / 8)
  refine ⟨RVal.bytes (flushLast (streamSlice blocks pos ((arrBits sb dims + 7) / 8))
    (8 * ((arrBits sb dims + 7) / 8) - arrBits sb dims)), _, ⟨?_, flushLast_lt _ _ hlt, ?_⟩,
    (generateRandomBytes_spec blocks hb _ pos).map (fun bs => RVal.bytes (flushLast bs _))
      fun s s1 h1 => by simp only [genValue, genLeaf, h1]⟩
  · rw [length_flushLast, length_streamSlice]
  · have := leValue_flushLast _ _ hhi hlt
    rwa [length_streamSlice, Nat.sub_sub_self hlo] at this

theorem genList_spec (ts : List RTy) (h : ∀ t ∈ ts, ValueSpec blocks t) :
    ∀ pos, ∃ vs n, WellTypedList ts vs ∧ Reads blocks (genList blocks ts) pos vs n := by
  induction ts with
  | nil => exact fun pos => ⟨[], 0, trivial, fun s hinv => ⟨s, rfl, hinv⟩⟩
  | cons t ts ih =>
    intro pos
    obtain ⟨v, n, hv, hgen⟩ := h t List.mem_cons_self pos
    obtain ⟨vs, n', hvs, hgens⟩ := ih (fun t ht => h t (List.mem_cons_of_mem _ ht)) (pos + n)
    exact ⟨v :: vs, n + n', ⟨hv, hvs⟩, hgen.cons hgens fun s s1 s2 h1 h2 => by simp only [genList, h1, h2]⟩

theorem repeatGen_spec (t : RTy) (h : ValueSpec blocks t) (k : Nat) :
    ∀ pos, ∃ vs n, (vs.length = k ∧ ∀ v ∈ vs, WellTyped t v) ∧
      Reads blocks (repeatGen (genValue blocks t) k) pos vs n := by
  induction k with
  | zero => exact fun pos => ⟨[], 0, ⟨rfl, fun _ hv => nomatch hv⟩, fun s hinv => ⟨s, rfl, hinv⟩⟩
  | succ k ih =>
    intro pos
    obtain ⟨v, n, hv, hgen⟩ := h pos
    obtain ⟨vs, n', ⟨hl, hvs⟩, hgens⟩ := ih (pos + n)
    exact ⟨v :: vs, n + n', ⟨congrArg (· + 1) hl, List.forall_mem_cons.mpr ⟨hv, hvs⟩⟩,
      hgen.cons hgens fun s s1 s2 h1 h2 => by simp only [repeatGen, h1, h2]⟩

theorem genValue_spec (hb : ∀ i, (blocks i).length = 16)
    (hbyte : ∀ i, ∀ x ∈ blocks i, x < 256) : ∀ t, ValueSpec blocks t := by
  apply RTy.induct'
  · exact genLeaf_spec blocks hb hbyte
  · intro ts ih pos
    obtain ⟨vs, n, hvs, hgen⟩ := genList_spec blocks ts ih pos
    exact ⟨.vec vs, n, hvs, hgen.map RVal.vec fun s s1 h1 => by simp only [genValue, h1]⟩
  · intro k t ih pos
    obtain ⟨vs, n, hvs, hgen⟩ := repeatGen_spec blocks t ih k pos
    exact ⟨.vec vs, n, hvs, hgen.map RVal.vec fun s s1 h1 => by simp only [genValue, h1]⟩

@[simp] theorem length_swap (a : List Nat) (i j : Nat) : (swap a i j).length = a.length := by
  simp only [swap, List.length_set]

theorem swap_eq_set (a : List Nat) (i j : Nat) (hi : i < a.length) (hj : j < a.length) :
    swap a i j = (a.set i a[j]).set j a[i] := by
  simp only [swap, List.getD_eq_getElem?_getD, List.getElem?_eq_getElem hi, List.getElem?_eq_getElem hj,
    Option.getD_some]

theorem swap_perm (a : List Nat) (i j : Nat) (hi : i < a.length) (hj : j < a.length) :
    (swap a i j).Perm a :=
  swap_eq_set a i j hi hj ▸ List.set_set_perm hi hj

theorem swap_self (a : List Nat) (i : Nat) (hi : i < a.length) : swap a i i = a := by
  rw [swap_eq_set a i i hi hi, List.set_getElem_self, List.set_getElem_self]

theorem getElem?_swap (a : List Nat) (i j p : Nat) (hi : i < a.length) (hj : j < a.length) :
    (swap a i j)[p]? = a[if p = j then i else if p = i then j else p]? := by
  rw [swap_eq_set a i j hi hj, List.getElem?_set, List.getElem?_set, List.length_set, if_pos hi, if_pos hj,
    ← List.getElem?_eq_getElem hi, ← List.getElem?_eq_getElem hj, apply_ite (a[·]?), apply_ite (a[·]?)]
  simp only [eq_comm (a := p)]

theorem swap_swap (a : List Nat) (i j : Nat) (hi : i < a.length) (hj : j < a.length) :
    swap (swap a i j) i j = a := by
  apply List.ext_getElem?
  intro p
  rw [getElem?_swap _ i j p (by rw [length_swap]; exact hi) (by rw [length_swap]; exact hj),
    getElem?_swap a i j _ hi hj]
  congr 1
  by_cases e1 : p = j
  · subst e1
    by_cases e2 : i = p
    · simp only [e2, if_true]
    · simp only [e2, if_true, if_false]
  · by_cases e2 : p = i
    · subst e2; simp only [e1, if_true, if_false]
    · simp only [e1, e2, if_false]

/-- the k-th draw is at most `i + k` (it is `< i + k + 1`) -/
def InRange (i : Nat) (js : List Nat) : Prop := ∀ k, k < js.length → js.getD k 0 ≤ i + k

theorem inRange_nil (i : Nat) : InRange i [] := fun _ hk => absurd hk (Nat.not_lt_zero _)

theorem inRange_cons {i j : Nat} {js : List Nat} : InRange i (j :: js) ↔ j ≤ i ∧ InRange (i + 1) js := by
  constructor
  · intro h
    refine ⟨h 0 (Nat.zero_lt_succ _), fun k hk => ?_⟩
    rw [Nat.add_right_comm]
    exact h (k + 1) (Nat.succ_lt_succ hk)
  · rintro ⟨hj, h⟩ k hk
    cases k with
    | zero => exact hj
    | succ k => exact Nat.add_right_comm i 1 k ▸ h k (Nat.lt_of_succ_lt_succ hk)

theorem inRange_concat {i j : Nat} {js : List Nat} :
    InRange i (js ++ [j]) ↔ InRange i js ∧ j ≤ i + js.length := by
  induction js generalizing i with
  | nil => simp only [List.nil_append, inRange_cons, inRange_nil, and_true, true_and, List.length_nil, Nat.add_zero]
  | cons x js ih =>
    simp only [List.cons_append, inRange_cons, ih, List.length_cons, and_assoc, Nat.add_assoc, Nat.add_comm 1]

@[simp] theorem length_applySwaps (js : List Nat) : ∀ (a : List Nat) (i : Nat),
    (applySwaps a i js).length = a.length := by
  induction js with
  | nil => intro a i; rfl
  | cons j js ih => exact fun a i => (ih (swap a i j) (i + 1)).trans (length_swap a i j)

theorem applySwaps_concat (a : List Nat) (i : Nat) (js : List Nat) (j : Nat) :
    applySwaps a i (js ++ [j]) = swap (applySwaps a i js) (i + js.length) j := by
  induction js generalizing a i with
  | nil => rfl
  | cons x js ih =>
    show applySwaps (swap a i x) (i + 1) (js ++ [j]) = swap (applySwaps (swap a i x) (i + 1) js) (i + (js.length + 1)) j
    rw [ih, Nat.add_assoc, Nat.add_comm 1]

theorem applySwaps_perm (js : List Nat) : ∀ (a : List Nat) (i : Nat), InRange i js →
    i + js.length ≤ a.length → (applySwaps a i js).Perm a := by
  induction js with
  | nil => intro a i _ _; exact List.Perm.refl _
  | cons j js ih =>
    intro a i hr hlen
    rw [List.length_cons] at hlen
    obtain ⟨hj, hr'⟩ := inRange_cons.mp hr
    have hi : i < a.length := Nat.lt_of_lt_of_le (Nat.lt_add_of_pos_right (Nat.succ_pos _)) hlen
    exact (ih (swap a i j) (i + 1) hr' (by rw [length_swap, Nat.add_right_comm]; exact hlen)).trans
      (swap_perm a i j hi (Nat.lt_of_le_of_lt hj hi))

theorem getElem?_applySwaps_of_le (js : List Nat) : ∀ (a : List Nat) (i p : Nat), InRange i js →
    i + js.length ≤ a.length → i + js.length ≤ p → (applySwaps a i js)[p]? = a[p]? := by
  induction js with
  | nil => intro a i p _ _ _; rfl
  | cons j js ih =>
    intro a i p hr hlen hp
    rw [List.length_cons] at hlen hp
    obtain ⟨hj, hr'⟩ := inRange_cons.mp hr
    have hi : i < a.length := Nat.lt_of_lt_of_le (Nat.lt_add_of_pos_right (Nat.succ_pos _)) hlen
    have hip : i < p := Nat.lt_of_lt_of_le (Nat.lt_add_of_pos_right (Nat.succ_pos _)) hp
    show (applySwaps (swap a i j) (i + 1) js)[p]? = a[p]?
    rw [ih (swap a i j) (i + 1) p hr' (by rw [length_swap, Nat.add_right_comm]; exact hlen)
        (by rw [Nat.add_right_comm]; exact hp),
      getElem?_swap a i j p hi (Nat.lt_of_le_of_lt hj hi),
      if_neg (Nat.ne_of_gt (Nat.lt_of_le_of_lt hj hip)), if_neg (Nat.ne_of_gt hip)]

/-- **Fisher–Yates is a bijection from in-range index sequences onto the rearrangements**: on a
    duplicate-free array `a`, every rearrangement `p` of `a` that leaves the positions `≥ n` alone is
    produced by exactly one in-range sequence of `n` draws (used at indices `0, 1, …, n−1`).  The last
    draw is forced, it is the position at which `p` holds `a[n−1]`; undo that swap and recurse. -/
theorem applySwaps_bijective : ∀ (n : Nat) (a p : List Nat), a.Nodup → p.Perm a → n ≤ a.length →
    (∀ q, n ≤ q → p[q]? = a[q]?) →
    ∃ js, (js.length = n ∧ InRange 0 js ∧ applySwaps a 0 js = p) ∧
      ∀ js', js'.length = n ∧ InRange 0 js' ∧ applySwaps a 0 js' = p → js' = js := by
  intro n
  induction n with
  | zero =>
    intro a p _ _ _ hag
    exact ⟨[], ⟨rfl, inRange_nil 0, List.ext_getElem? fun q => (hag q (Nat.zero_le q)).symm⟩,
      fun js' h => List.length_eq_zero_iff.mp h.1⟩
  | succ n ih =>
    intro a p hnd hp hlen hag
    have hn : n < p.length := hp.length_eq ▸ hlen
    obtain ⟨j, hjl, hj⟩ := List.getElem_of_mem (hp.mem_iff.mpr (List.getElem_mem hlen))
    have hpj : p[j]? = a[n]? := by rw [List.getElem?_eq_getElem hjl, hj, List.getElem?_eq_getElem]
    have hjn : j ≤ n := by
      apply Nat.le_of_not_lt
      intro h
      exact Nat.ne_of_lt h ((List.getElem?_inj hlen hnd).mp (hpj.symm.trans (hag j h)))
    have hag' : ∀ q, n ≤ q → (swap p n j)[q]? = a[q]? := by
      intro q hq
      rw [getElem?_swap p n j q hn hjl]
      by_cases e : q = n
      · rw [e, if_pos rfl, ite_eq_right_iff.mpr id]
        exact hpj
      · rw [if_neg fun (h : q = j) => e (Nat.le_antisymm (h ▸ hjn) hq), if_neg e]
        exact hag q (Nat.lt_of_le_of_ne hq (Ne.symm e))
    obtain ⟨L, ⟨hL, hrL, hA⟩, huniq⟩ := ih a (swap p n j) hnd
      ((swap_perm p n j hn hjl).trans hp) (Nat.le_of_succ_le hlen) hag'
    refine ⟨L ++ [j], ⟨?_, inRange_concat.mpr ⟨hrL, by rw [hL, Nat.zero_add]; exact hjn⟩, ?_⟩, ?_⟩
    · rw [List.length_append, hL]; rfl
    · rw [applySwaps_concat, hA, hL, Nat.zero_add]
      exact swap_swap p n j hn hjl
    · rintro js' ⟨h1, h2, h3⟩
      rcases List.eq_nil_or_concat js' with rfl | ⟨L', j', rfl⟩
      · exact Nat.noConfusion h1
      rw [List.concat_eq_append] at h1 h2 h3 ⊢
      obtain ⟨hrL', hj'⟩ := inRange_concat.mp h2
      have hL' : L'.length = n := by rw [List.length_append] at h1; exact Nat.succ.inj h1
      rw [applySwaps_concat, hL', Nat.zero_add] at h3
      rw [hL', Nat.zero_add] at hj'
      have hn' : n < (applySwaps a 0 L').length := by rw [length_applySwaps]; exact hlen
      have hj'' : j' < (applySwaps a 0 L').length := Nat.lt_of_le_of_lt hj' hn'
      -- `p` holds `a[n]` at the last draw, so the last draws agree
      have g : p[j']? = a[n]? := by
        rw [← h3, getElem?_swap _ n j' j' hn' hj'', if_pos rfl]
        exact getElem?_applySwaps_of_le L' a 0 n hrL' (by rw [hL', Nat.zero_add]; exact Nat.le_of_succ_le hlen)
          (by rw [hL', Nat.zero_add]; exact Nat.le_refl n)
      have hjj : j' = j :=
        (List.getElem?_inj (Nat.lt_of_le_of_lt hj' hn) (hp.nodup_iff.mpr hnd)).mp (g.trans hpj.symm)
      subst hjj
      have hA' : applySwaps a 0 L' = swap p n j' := by rw [← h3, swap_swap _ n j' hn' hj'']
      rw [huniq L' ⟨hL', hrL', hA'⟩]

end CCV.Random
