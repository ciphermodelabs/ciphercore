import CCV.Lemmas.Adder
import CCV.Lemmas.Clip
import CCV.Model.Division
import Mathlib.Tactic.Ring
/-
  long_division.rs, unsigned part: two's-complement negation in terms of "encodes modulo `2^n`"
  (`Adder.Enc`), the restoring iteration and its invariant.
-/
namespace CCV.Division
open CCV.Adder CCV.Mux CCV.Clip

@[simp] theorem invertBits_length (x : List Bool) : (invertBits x).length = x.length :=
  List.length_map _

theorem val_invertBits (x : List Bool) : val (invertBits x) + val x + 1 = 2 ^ x.length := by
  induction x with
  | nil => rfl
  | cons b t ih =>
    simp only [invertBits, List.map_cons, val_cons, List.length_cons, Nat.pow_succ] at ih ⊢
    cases b <;> simp only [notBit, Bool.xor_true, Bool.not_false, Bool.not_true, Bool.toNat_false,
      Bool.toNat_true] <;> omega

theorem enc_invertBits {x : List Bool} {z : Int} (h : Enc x z) : Enc (invertBits x) (-z - 1) := by
  obtain ⟨k, hk⟩ := h
  have hi : (val (invertBits x) : Int) + val x + 1 = ((2 ^ x.length : Nat) : Int) := by
    exact_mod_cast val_invertBits x
  refine ⟨-k - 1, ?_⟩
  rw [invertBits_length, Int.sub_mul, Int.neg_mul, Int.one_mul]
  omega

theorem enc_addCore (ov : Bool) (m : Nat) {x y : List Bool} {z w : Int} (hx : x.length = 2 ^ m)
    (hy : y.length = 2 ^ m) (h1 : Enc x z) (h2 : Enc y w) : Enc (addCore ov x y).1 (z + w) := by
  obtain ⟨k1, e1⟩ := h1
  obtain ⟨k2, e2⟩ := h2
  obtain ⟨c, hs, _⟩ := addCore_sum ov x y m hx hy
  have hs' : (val (addCore ov x y).1 : Int) + ((2 ^ 2 ^ m : Nat) : Int) * c.toNat = val x + val y := by
    exact_mod_cast hs
  rw [hx] at e1
  rw [hy] at e2
  refine ⟨k1 + k2 + c.toNat, ?_⟩
  rw [addCore_length ov x y m hx hy, Int.add_mul, Int.add_mul, Int.mul_comm (c.toNat : Int)]
  omega

/-- the constant `[1, 0, …, 0]` that `add_one` adds has the width of its operand. -/
theorem one_length (m : Nat) (x : List Bool) (h : x.length = 2 ^ m) :
    (true :: List.replicate (x.length - 1) false).length = 2 ^ m := by
  rw [List.length_cons, List.length_replicate, h, Nat.sub_add_cancel (Nat.two_pow_pos m)]

theorem addOne_length (m : Nat) (x : List Bool) (h : x.length = 2 ^ m) : (addOne x).length = 2 ^ m :=
  addCore_length false x _ m h (one_length m x h)

theorem enc_addOne (m : Nat) {x : List Bool} {z : Int} (hx : x.length = 2 ^ m) (h : Enc x z) :
    Enc (addOne x) (z + 1) :=
  enc_addCore false m hx (one_length m x hx) h
    ⟨0, by rw [Int.zero_mul, Int.add_zero, val_cons, val_replicate_false]; rfl⟩

theorem negative_length (m : Nat) (x : List Bool) (h : x.length = 2 ^ m) : (negative x).length = 2 ^ m :=
  addOne_length m _ (by rw [invertBits_length, h])

theorem enc_negative (m : Nat) {x : List Bool} {z : Int} (hx : x.length = 2 ^ m) (h : Enc x z) :
    Enc (negative x) (-z) := by
  have := enc_addOne m (by rw [invertBits_length, hx]) (enc_invertBits h)
  rwa [show -z - 1 + 1 = -z by omega] at this

/-- the arithmetic of one restoring step: `t` is the shifted remainder without the bit `top` shifted
    out of it, `s` and `c` are sum and carry out of `t + (P - D)`, `D < P`.  The carry says whether `D` fits
    into `t`; a set `top` means the true shifted value is at least `P > D`. -/
theorem restoring_step (P D R b s t : Nat) (top c : Bool) (hD : D < P) (hR : R < D) (hb : b ≤ 1)
    (hs : s < P) (hsh : t + P * top.toNat = b + 2 * R) (hsum : s + P * c.toNat + D = t + P) :
    2 * R + b = (top || c).toNat * D + (if (top || c) = true then s else t) ∧
      (if (top || c) = true then s else t) < D := by
  cases top <;> cases c <;>
    simp only [Bool.or_false, Bool.or_true, Bool.false_eq_true, if_false, if_true, Bool.toNat_false,
      Bool.toNat_true] at hsh hsum ⊢ <;>
    omega

theorem singleIteration_spec (m : Nat) (M rem : List Bool) (bit : Bool) (D : Nat)
    (hM : M.length = 2 ^ m) (hr : rem.length = 2 ^ m) (hD : D < 2 ^ (2 ^ m))
    (hMv : val M = 2 ^ (2 ^ m) - D) (hrv : val rem < D) :
    (singleIteration M rem bit).1.length = 2 ^ m ∧
    2 * val rem + bit.toNat = (singleIteration M rem bit).2.toNat * D + val (singleIteration M rem bit).1 ∧
    val (singleIteration M rem bit).1 < D := by
  have hp := Nat.two_pow_pos m
  have hne : rem ≠ [] := List.ne_nil_of_length_pos (by rw [hr]; exact hp)
  have hsl : (bit :: rem.dropLast).length = 2 ^ m := by
    rw [List.length_cons, List.length_dropLast, hr, Nat.sub_add_cancel hp]
  obtain ⟨c, hsum, hc⟩ := addCore_sum true (bit :: rem.dropLast) M m hsl hM
  have hlen := addCore_length true (bit :: rem.dropLast) M m hsl hM
  have hlt := val_lt (addCore true (bit :: rem.dropLast) M).1
  have hsh := val_shift bit rem hne
  rw [hlen] at hlt
  rw [hr] at hsh
  have hsum' : val (addCore true (bit :: rem.dropLast) M).1 + 2 ^ 2 ^ m * c.toNat + D
      = val (bit :: rem.dropLast) + 2 ^ 2 ^ m := by
    rw [hsum, hMv, Nat.add_assoc, Nat.sub_add_cancel (Nat.le_of_lt hD)]
  simp only [singleIteration, hc, if_true, Option.getD_some, orBit_eq]
  rw [muxBits_eq _ _ _ (hlen.trans hsl.symm), apply_ite val, apply_ite List.length, hlen, hsl, ite_self]
  exact ⟨rfl, restoring_step _ D _ _ _ _ _ c hD hrv (Bool.toNat_le bit) hlt hsh hsum'⟩

/-- loop invariant of the restoring division: after consuming the dividend bits `bs` (most significant
    first), `2^|bs| · r₀ + bs = q · D + r` with `0 ≤ r < D`. -/
theorem iterateBits_spec (m : Nat) (M : List Bool) (D : Nat)
    (hM : M.length = 2 ^ m) (hD : D < 2 ^ (2 ^ m)) (hMv : val M = 2 ^ (2 ^ m) - D) :
    ∀ (bs rem : List Bool), rem.length = 2 ^ m → val rem < D →
      (iterateBits M rem bs).1.length = 2 ^ m ∧ (iterateBits M rem bs).2.length = bs.length ∧
      2 ^ bs.length * val rem + val bs.reverse
        = val (iterateBits M rem bs).2.reverse * D + val (iterateBits M rem bs).1 ∧
      val (iterateBits M rem bs).1 < D := by
  intro bs
  induction bs with
  | nil =>
    intro rem hr hv
    simp [iterateBits, val_nil, hr, hv]
  | cons b bs ih =>
    intro rem hr hv
    obtain ⟨s1, s2, s3⟩ := singleIteration_spec m M rem b D hM hr hD hMv hv
    obtain ⟨r1, r2, r3, r4⟩ := ih (singleIteration M rem b).1 s1 s3
    simp only [iterateBits, List.length_cons, List.reverse_cons, val_append, List.length_reverse, r2, val_nil, val_cons,
      Nat.mul_zero, Nat.add_zero, Nat.pow_succ]
    refine ⟨r1, trivial, ?_, r4⟩
    calc 2 ^ bs.length * 2 * val rem + (val bs.reverse + 2 ^ bs.length * b.toNat)
        = 2 ^ bs.length * (2 * val rem + b.toNat) + val bs.reverse := by ring
      _ = 2 ^ bs.length * (singleIteration M rem b).2.toNat * D
          + (2 ^ bs.length * val (singleIteration M rem b).1 + val bs.reverse) := by rw [s2]; ring
      _ = _ := by rw [r3]; ring

theorem divLoop_spec (m : Nat) (absA absD : List Bool) (hd : absD.length = 2 ^ m)
    (hD0 : 0 < val absD) :
    let res := iterateBits (negative absD) (List.replicate absD.length false) absA.reverse
    res.1.length = 2 ^ m ∧ res.2.reverse.length = absA.length ∧
    val res.2.reverse = val absA / val absD ∧ val res.1 = val absA % val absD := by
  have hlt := val_lt absD
  rw [hd] at hlt
  -- `negative absD` encodes `-D`, and `-D mod 2^n = 2^n - D` as `0 < D < 2^n`
  have hMv : val (negative absD) = 2 ^ (2 ^ m) - val absD := by
    have := (enc_negative m hd (enc_val absD)).emod
    rw [negative_length m absD hd, ← Int.add_mul_emod_self_right _ 1, Int.one_mul,
      Int.emod_eq_of_lt (by omega) (by omega)] at this
    omega
  obtain ⟨r1, r2, r3, r4⟩ := iterateBits_spec m (negative absD) (val absD) (negative_length m absD hd) hlt hMv
    absA.reverse (List.replicate absD.length false) (by rw [List.length_replicate, hd])
    (by rw [val_replicate_false]; exact hD0)
  simp only [val_replicate_false, Nat.mul_zero, Nat.zero_add, List.reverse_reverse] at r3
  refine ⟨r1, by rw [List.length_reverse, r2, List.length_reverse], ?_, ?_⟩
  · rw [r3, Nat.mul_comm, Nat.mul_add_div hD0, Nat.div_eq_of_lt r4, Nat.add_zero]
  · rw [r3, Nat.mul_comm, Nat.mul_add_mod, Nat.mod_eq_of_lt r4]

end CCV.Division
