import CCV.Lemmas.OptimizerSpec
/-
  The three copying passes (constants, duplicates, dangling): `Track`, what such a pass guarantees
  about (source, result, mapping), its one step lemma `Track.step` and the loop lemma `fold_inv`;
  the loop invariants `CInv`, `DInv`, `KInv` of the passes; what follows from `Track` (C04(b),
  annotations, Input nodes, `ValOK`); the transported oracle; `maps_join` for the mapping chain.
-/
namespace CCV.Optimizer

theorem closed_deps_lt {pre l : List Node} {n : Node} (h : Closed (pre ++ n :: l)) :
    ∀ d ∈ n.deps, d < pre.length := by
  intro d hd
  exact h pre.length n (by simp) d hd

/-- bookkeeping shared by the three passes: besides `Refines`, every result node is the image of
    a source node with the same operation and annotations; randomising / PRF / input nodes are
    never merged with another node.  `c = true` (constants pass): an image may also be a Constant
    node standing for a foldable, unannotated node. -/
structure Track (c : Bool) (pre out : List Node) (m : Mapping) : Prop where
  len : m.length = pre.length
  ref : Refines pre out m
  nin : countIn out = countIn pre
  ins : inputsOf out = inputsOf pre
  same : ∀ i k n, Maps m i k → pre[i]? = some n → ∃ n', out[k]? = some n' ∧
    (n'.op = n.op ∧ n'.ann = n.ann ∨ (c = true ∧ n'.op.isConstant ∧ n.ann = [] ∧ n.op.foldable))
  inj : ∀ i k n, Maps m i k → pre[i]? = some n →
    (n.op.isRandom ∨ n.op.isPrf ∨ n.op.isInput) → ∀ j, Maps m j k → j = i
  surj : ∀ k, k < out.length → ∃ i, Maps m i k

theorem Track.nil {c : Bool} : Track c [] [] [] :=
  ⟨rfl, Refines.nil, rfl, rfl, by intro i k n h; simp [Maps] at h, by intro i k n h; simp [Maps] at h,
   by intro k h; simp at h⟩

theorem not_special_of_plain {op : Op}
    (h : op.isInput = false ∧ op.isRandom = false ∧ op.isPrf = false) : ¬ Special op := by
  rintro (h' | h' | h')
  · rw [h.2.1] at h'; cases h'
  · rw [h.2.2] at h'; cases h'
  · rw [h.1] at h'; cases h'

theorem Op.foldable_not_special {op : Op} (h : op.foldable = true) : ¬ Special op :=
  not_special_of_plain (Op.foldable_plain h)

theorem Op.isConstant_not_special {op : Op} (h : op.isConstant = true) : ¬ Special op :=
  not_special_of_plain (Op.isConstant_plain h)

/-- the obligations of `Track` about the entries for `pre` are discharged here, once, for every kind
    of step of the three passes -/
theorem Track.step {c : Bool} {pre out : List Node} {m : Mapping} (T : Track c pre out m) (n : Node)
    (ext : List Node) (x : Option Nat) (out' : List Node) (hout : out' = out ++ ext)
    (hclosed : Closed out') (hins : inputsOf ext = inputsOf [n])
    (hx : ∀ k, x = some k → ∃ n', out'[k]? = some n' ∧ Img m n n' ∧
      (n'.op = n.op ∧ n'.ann = n.ann ∨ (c = true ∧ n'.op.isConstant ∧ n.ann = [] ∧ n.op.foldable)) ∧
      (n.op.isInput → countIn (out'.take k) = countIn pre))
    (hold : ∀ k n', x = some k → out[k]? = some n' → ¬ Special n.op ∧ ¬ Special n'.op)
    (hnew : ∀ k, out.length ≤ k → k < out'.length → x = some k) :
    Track c (pre ++ [n]) out' (m ++ [x]) := by
  subst hout
  have hsp : ∀ i k n0, Maps m i k → pre[i]? = some n0 → Special n0.op →
      ∃ n', out[k]? = some n' ∧ Special n'.op := by
    intro i k n0 h hn0 hs
    obtain ⟨n', h1, ⟨h2, _⟩ | ⟨_, _, _, h2⟩⟩ := T.same i k n0 h hn0
    · exact ⟨n', h1, by rw [h2]; exact hs⟩
    · exact absurd hs (Op.foldable_not_special h2)
  refine ⟨by rw [List.length_append, List.length_append, T.len]; rfl, ?_, ?_, ?_, ?_, ?_, ?_⟩
  · refine T.ref.extend T.len n ext x hclosed fun k hk => ?_
    obtain ⟨n', h1, h2, _, h4⟩ := hx k hk
    exact ⟨⟨n', h1, h2⟩, h4⟩
  · rw [countIn_append, countIn_append, T.nin, countIn_eq_inputsOf ext, hins, ← countIn_eq_inputsOf]
  · rw [inputsOf_append, inputsOf_append, T.ins, hins]
  · intro i k n0 h hn0
    rcases maps_snoc_cases T.len h hn0 with ⟨h, hn0⟩ | ⟨_, hx', rfl⟩
    · obtain ⟨n', h1, h2⟩ := T.same i k n0 h hn0
      exact ⟨n', getElem?_append_some ext h1, h2⟩
    · obtain ⟨n', h1, _, h3, _⟩ := hx k hx'
      exact ⟨n', h1, h3⟩
  · intro i k n0 h hn0 hs j hj
    rcases maps_snoc_cases T.len h hn0 with ⟨h, hn0⟩ | ⟨hi, hx', rfl⟩
    · rcases maps_append_cases hj with hj | ⟨_, hx'⟩
      · exact T.inj i k n0 h hn0 hs j hj
      · obtain ⟨n', h1, h2⟩ := hsp i k n0 h hn0 hs
        exact absurd h2 (hold k n' hx' h1).2
    · rcases maps_append_cases hj with hj | ⟨hj, _⟩
      · exact absurd hs (hold k _ hx' (List.getElem?_eq_getElem (T.ref.bound j k hj).2)).1
      · rw [hj, hi, T.len]
  · intro k hk
    rcases Nat.lt_or_ge k out.length with h | h
    · obtain ⟨i, hi⟩ := T.surj k h; exact ⟨i, maps_append_left hi⟩
    · rw [hnew k h hk]; exact ⟨m.length, maps_append_new m k⟩

theorem Track.copy {c : Bool} {pre out : List Node} {m : Mapping} (T : Track c pre out m) (n : Node)
    (hd : ∀ d ∈ n.deps, ∃ kd, Maps m d kd) :
    Track c (pre ++ [n]) (out ++ [n.remap m]) (m ++ [some out.length]) := by
  have hcl : Closed (out ++ [n.remap m]) := closed_snoc T.ref.closedOut fun d h => by
    obtain ⟨d0, hd0, rfl⟩ := List.mem_map.mp h
    obtain ⟨kd, hkd⟩ := hd d0 hd0
    rw [look_of_maps hkd]; exact (T.ref.bound d0 kd hkd).2
  refine T.step n [n.remap m] _ _ rfl hcl (inputsOf_singleton_congr rfl rfl rfl) ?_ ?_ ?_
  · intro k hk; cases hk
    exact ⟨n.remap m, List.getElem?_concat_length, Or.inl ⟨rfl, rfl, hd⟩, Or.inl ⟨rfl, rfl⟩,
      fun _ => by rw [List.take_left]; exact T.nin⟩
  · intro k n' hk h1; cases hk
    exact absurd (lt_of_getElem?_some h1) (Nat.lt_irrefl _)
  · intro k h1 h2
    rw [List.length_append] at h2
    exact congrArg some (Nat.le_antisymm h1 (Nat.le_of_lt_succ h2))

theorem Track.alias {c : Bool} {pre out : List Node} {m : Mapping} (T : Track c pre out m) (n n' : Node) (k : Nat)
    (hd : ∀ d ∈ n.deps, ∃ kd, Maps m d kd) (hk : out[k]? = some n')
    (hop : n'.op = n.op) (hann : n'.ann = n.ann) (hdeps : n'.deps = n.deps.map (look m))
    (hns : ¬ Special n.op) :
    Track c (pre ++ [n]) out (m ++ [some k]) := by
  have hni : n.op.isInput = false := Bool.eq_false_iff.mpr fun h => hns (Or.inr (Or.inr h))
  refine T.step n [] _ _ (List.append_nil out).symm T.ref.closedOut
    (inputsOf_noInput [n] (by simpa using hni)).symm ?_ ?_ ?_
  · intro k' hk'; cases hk'
    exact ⟨n', hk, Or.inl ⟨hop, hdeps, hd⟩, Or.inl ⟨hop, hann⟩, fun h => by rw [hni] at h; cases h⟩
  · intro k' n'' hk' h1; cases hk'
    rw [hk] at h1; cases h1
    exact ⟨hns, by rw [hop]; exact hns⟩
  · intro k' h1 h2; exact absurd h2 (Nat.not_lt.mpr h1)

theorem Track.drop {c : Bool} {pre out : List Node} {m : Mapping} (T : Track c pre out m) (n : Node)
    (hni : n.op.isInput = false) : Track c (pre ++ [n]) out (m ++ [none]) :=
  T.step n [] _ _ (List.append_nil out).symm T.ref.closedOut
    (inputsOf_noInput [n] (by simpa using hni)).symm (fun k hk => by cases hk)
    (fun k n' hk => by cases hk) (fun k h1 h2 => absurd h2 (Nat.not_lt.mpr h1))

/-- `src = pre ++ n :: rest`: the step may use the position of its node in the graph -/
theorem fold_inv {σ : Type} (step : σ → Node → σ) (P : List Node → σ → Prop) (src : List Node)
    (hstep : ∀ pre n rest st, src = pre ++ n :: rest → P pre st → P (pre ++ [n]) (step st n)) :
    ∀ (l pre : List Node) (st : σ), src = pre ++ l → P pre st → P src (l.foldl step st) := by
  intro l
  induction l with
  | nil => intro pre st hs h; rw [hs, List.append_nil]; exact h
  | cons n l ih =>
    intro pre st hs h
    exact ih (pre ++ [n]) (step st n) (by rw [hs, List.append_assoc]; rfl) (hstep pre n l st hs h)

structure DInv (pre : List Node) (st : DSt) : Prop where
  tr : Track false pre st.out st.m
  total : ∀ i, i < pre.length → ∃ k, Maps st.m i k
  sigs : ∀ key k, sigGet key st.sigs = some k →
    ∃ n', st.out[k]? = some n' ∧ n'.deps = key.1 ∧ n'.ann = key.2.1 ∧ n'.op = key.2.2

/-- `sigs` and `constant_cache` are association lists searched front to back -/
theorem assoc_append {α : Type} [DecidableEq α] (get : α → List (α × Nat) → Option Nat)
    (hnil : ∀ k, get k [] = none)
    (hcons : ∀ k a b r, get k ((a, b) :: r) = if a = k then some b else get k r)
    {key a : α} {l : List (α × Nat)} {b k : Nat} (h : get key (l ++ [(a, b)]) = some k) :
    get key l = some k ∨ (a = key ∧ b = k) := by
  induction l with
  | nil =>
    rw [List.nil_append, hcons, hnil] at h
    split at h
    · exact Or.inr ⟨by assumption, Option.some.inj h⟩
    · cases h
  | cons x l ih =>
    rw [List.cons_append, hcons] at h
    rw [hcons]
    split
    · rename_i hx; rw [if_pos hx] at h; exact Or.inl h
    · rename_i hx; rw [if_neg hx] at h; exact ih h

theorem sigGet_append {key : Key} {l : List (Key × Nat)} {a : Key} {b k : Nat}
    (h : sigGet key (l ++ [(a, b)]) = some k) : sigGet key l = some k ∨ (a = key ∧ b = k) :=
  assoc_append sigGet (fun _ => rfl) (fun _ _ _ _ => rfl) h

theorem total_snoc {pre : List Node} {m : Mapping} {n : Node} {k : Nat} (hlen : m.length = pre.length)
    (h : ∀ i, i < pre.length → ∃ k, Maps m i k) :
    ∀ i, i < (pre ++ [n]).length → ∃ k', Maps (m ++ [some k]) i k' := by
  intro i hi
  rw [List.length_append] at hi
  rcases Nat.lt_or_ge i pre.length with h' | h'
  · obtain ⟨k', hk'⟩ := h i h'; exact ⟨k', maps_append_left hk'⟩
  · rw [Nat.le_antisymm (Nat.le_of_lt_succ hi) h', ← hlen]; exact ⟨k, maps_append_new m k⟩

theorem nodeKey_some {n : Node} {ds : List Nat} {key : Key} (h : nodeKey n ds = some key) :
    key = (ds, n.ann, n.op) ∧ ¬ Special n.op := by
  unfold nodeKey at h
  split at h
  · cases h
  · rename_i hns
    simp only [Bool.or_eq_true, not_or] at hns
    refine ⟨(Option.some.inj h).symm, ?_⟩
    rintro (h' | h' | h')
    · exact hns.1.1.2 h'
    · exact hns.1.1.1 h'
    · exact hns.1.2 h'

theorem dupStep_inv (pre : List Node) (st : DSt) (n : Node) (I : DInv pre st)
    (hd : ∀ d ∈ n.deps, d < pre.length) : DInv (pre ++ [n]) (dupStep st n) := by
  have hmapped : ∀ d ∈ n.deps, ∃ kd, Maps st.m d kd := fun d h => I.total d (hd d h)
  have hsigs : ∀ key k, sigGet key st.sigs = some k → ∃ n', (st.out ++ [n.remap st.m])[k]? = some n' ∧
      n'.deps = key.1 ∧ n'.ann = key.2.1 ∧ n'.op = key.2.2 := fun key k h => by
    obtain ⟨n', h1, h2⟩ := I.sigs key k h
    exact ⟨n', getElem?_append_some _ h1, h2⟩
  simp only [dupStep]
  split
  · exact ⟨I.tr.copy n hmapped, total_snoc I.tr.len I.total, hsigs⟩
  · rename_i key hkey
    obtain ⟨rfl, hns⟩ := nodeKey_some hkey
    split
    · rename_i k hsig
      obtain ⟨n', h1, h2, h3, h4⟩ := I.sigs _ k hsig
      exact ⟨I.tr.alias n n' k hmapped h1 h4 h3 h2 hns, total_snoc I.tr.len I.total, I.sigs⟩
    · refine ⟨I.tr.copy n hmapped, total_snoc I.tr.len I.total, fun key' k h => ?_⟩
      rcases sigGet_append h with h | ⟨rfl, rfl⟩
      · exact hsigs key' k h
      · exact ⟨n.remap st.m, List.getElem?_concat_length, rfl, rfl, rfl⟩

theorem duplicates_inv (g : Graph) (hc : Closed g.nodes) :
    DInv g.nodes (g.nodes.foldl dupStep ⟨[], [], []⟩) :=
  fold_inv dupStep DInv g.nodes
    (fun pre n rest st hs I => dupStep_inv pre st n I (closed_deps_lt (hs ▸ hc))) g.nodes [] _ rfl
    ⟨Track.nil, fun i h => absurd h (Nat.not_lt_zero i), fun key k h => (by cases h)⟩

theorem Op.eq_constant {op : Op} (h : op.isConstant = true) : ∃ vid num, op = .constant vid num :=
  match op, h with
  | .constant vid num, _ => ⟨vid, num, rfl⟩

theorem Track.toConst {pre out : List Node} {m : Mapping} (T : Track true pre out m) (n n' : Node)
    (ext : List Node) (k : Nat) (hext : ext = [] ∨ (ext = [n'] ∧ k = out.length))
    (hk : (out ++ ext)[k]? = some n') (hc : n'.op.isConstant = true) (hd0 : n'.deps = [])
    (hann : n.ann = []) (hf : n.op.foldable = true) (hwf : n.op.isConstant = true → n.deps = []) :
    Track true (pre ++ [n]) (out ++ ext) (m ++ [some k]) := by
  obtain ⟨hni, hnr, _⟩ := Op.foldable_plain hf
  have hn'i : n'.op.isInput = false := (Op.isConstant_plain hc).1
  refine T.step n ext _ _ rfl ?_ ?_ ?_ ?_ ?_
  · rcases hext with rfl | ⟨rfl, _⟩
    · rw [List.append_nil]; exact T.ref.closedOut
    · exact closed_snoc T.ref.closedOut (by rw [hd0]; intro d h; cases h)
  · rw [inputsOf_noInput [n] (by simpa using hni)]
    rcases hext with rfl | ⟨rfl, _⟩
    · rfl
    · exact inputsOf_noInput [n'] (by simpa using hn'i)
  · intro k' hk'; cases hk'
    refine ⟨n', hk, ?_, Or.inr ⟨rfl, hc, hann, hf⟩, fun h => by rw [hni] at h; cases h⟩
    by_cases heq : n'.op = n.op
    · have : n.deps = [] := hwf (by rw [← heq]; exact hc)
      exact Or.inl ⟨heq, by rw [hd0, this]; rfl, by rw [this]; intro d h; cases h⟩
    · exact Or.inr ⟨hc, heq, hd0, by rw [hni]; rfl, by rw [hnr]; rfl⟩
  · intro k' n'' hk' h1; cases hk'
    rw [getElem?_append_some ext h1] at hk; cases hk
    exact ⟨Op.foldable_not_special hf, Op.isConstant_not_special hc⟩
  · intro k' h1 h2
    rcases hext with rfl | ⟨rfl, rfl⟩
    · rw [List.append_nil] at h2; exact absurd h2 (Nat.not_lt.mpr h1)
    · rw [List.length_append] at h2
      exact congrArg some (Nat.le_antisymm h1 (Nat.le_of_lt_succ h2))

def Created (pre out : List Node) (m : Mapping) : Prop :=
  ∀ k n', out[k]? = some n' → ∃ i n, Maps m i k ∧ pre[i]? = some n ∧ n'.ty = n.ty

theorem Created.keep {pre out : List Node} {m : Mapping} (h : Created pre out m) (n : Node)
    (x : Option Nat) : Created (pre ++ [n]) out (m ++ [x]) := by
  intro k n' hk
  obtain ⟨i, ni, h1, h2, h3⟩ := h k n' hk
  exact ⟨i, ni, maps_append_left h1, getElem?_append_some _ h2, h3⟩

theorem Created.push {pre out : List Node} {m : Mapping} (h : Created pre out m)
    (hlen : m.length = pre.length) (n e : Node) (hty : e.ty = n.ty) :
    Created (pre ++ [n]) (out ++ [e]) (m ++ [some out.length]) := by
  intro k n' hk
  rcases getElem?_snoc_cases hk with hk | ⟨rfl, rfl⟩
  · exact h.keep n _ k n' hk
  · exact ⟨pre.length, n, hlen ▸ maps_append_new m _, List.getElem?_concat_length, hty⟩

structure CInv (pre : List Node) (st : CSt) : Prop where
  tr : Track true pre st.out st.m
  total : ∀ i, i < pre.length → ∃ k, Maps st.m i k
  ty : Created pre st.out st.m
  cache : ∀ vid k, assocGet vid st.cache = some k →
    ∃ n' num, st.out[k]? = some n' ∧ n'.op = .constant vid num ∧ n'.deps = []

theorem assocGet_append {key : Nat} {l : List (Nat × Nat)} {a b k : Nat}
    (h : assocGet key (l ++ [(a, b)]) = some k) : assocGet key l = some k ∨ (a = key ∧ b = k) :=
  assoc_append assocGet (fun _ => rfl) (fun _ _ _ _ => rfl) h

theorem CInv.cache_append {pre : List Node} {st : CSt} (I : CInv pre st) (e : Node) (vid k : Nat)
    (h : assocGet vid st.cache = some k) :
    ∃ n' num, (st.out ++ [e])[k]? = some n' ∧ n'.op = .constant vid num ∧ n'.deps = [] := by
  obtain ⟨n', num', h1, h2⟩ := I.cache vid k h
  exact ⟨n', num', getElem?_append_some _ h1, h2⟩

theorem resolveConst_inv (pre : List Node) (st : CSt) (n : Node) (vid : Nat) (num : Option Nat)
    (I : CInv pre st) (hann : n.ann = []) (hf : n.op.foldable = true)
    (hwf : n.op.isConstant = true → n.deps = []) :
    CInv (pre ++ [n]) (resolveConst st (.constant vid num) n.name n.ty vid) := by
  unfold resolveConst
  split
  · rename_i k hc
    obtain ⟨n', num', h1, h2, h3⟩ := I.cache vid k hc
    have := I.tr.toConst n n' [] k (Or.inl rfl) (getElem?_append_some [] h1) (by rw [h2]; rfl) h3
      hann hf hwf
    rw [List.append_nil] at this
    exact ⟨this, total_snoc I.tr.len I.total, I.ty.keep n _, I.cache⟩
  · refine ⟨I.tr.toConst n _ [_] st.out.length (Or.inr ⟨rfl, rfl⟩) List.getElem?_concat_length rfl
      rfl hann hf hwf, total_snoc I.tr.len I.total, I.ty.push I.tr.len n _ rfl, fun vid' k h => ?_⟩
    rcases assocGet_append h with h | ⟨rfl, rfl⟩
    · exact I.cache_append _ vid' k h
    · exact ⟨_, num, List.getElem?_concat_length, rfl, rfl⟩

theorem constStep_inv (oracle : Nat → Nat × Option Nat) (pre : List Node) (st : CSt) (n : Node)
    (I : CInv pre st) (hd : ∀ d ∈ n.deps, d < pre.length)
    (hok : n.op.isConstant = true → n.ann = [] ∧ n.deps = []) :
    CInv (pre ++ [n]) (constStep oracle st n) := by
  unfold constStep
  split
  · rename_i vid num hop
    have hc : n.op.isConstant = true := by rw [hop]; rfl
    exact resolveConst_inv pre st n vid num I (hok hc).1 (by rw [hop]; rfl) (fun _ => (hok hc).2)
  · rename_i hnc
    split
    · rename_i hcond
      refine resolveConst_inv pre st n _ _ I hcond.2.2 hcond.1 (fun h => ?_)
      obtain ⟨vid, num, e⟩ := Op.eq_constant h
      exact absurd e (hnc vid num)
    · exact ⟨I.tr.copy n fun d h => I.total d (hd d h), total_snoc I.tr.len I.total,
        I.ty.push I.tr.len n _ rfl, I.cache_append _⟩

theorem constants_inv (oracle : Nat → Nat × Option Nat) (g : Graph) (hc : Closed g.nodes)
    (hwf : ConstWF g.nodes) :
    CInv g.nodes (g.nodes.foldl (constStep oracle) ⟨[], [], [], []⟩) :=
  fold_inv (constStep oracle) CInv g.nodes
    (fun pre n rest st hs I => constStep_inv oracle pre st n I (closed_deps_lt (hs ▸ hc))
      (hwf n (by rw [hs]; simp))) g.nodes [] _ rfl
    ⟨Track.nil, fun i h => absurd h (Nat.not_lt_zero i), fun k n' h => (by cases h),
     fun vid k h => (by cases h)⟩

theorem markAll_cons (marks : List Bool) (d : Nat) (ds : List Nat) :
    markAll marks (d :: ds) = markAll (marks.set d true) ds := rfl

theorem markAll_length (marks : List Bool) (ds : List Nat) : (markAll marks ds).length = marks.length := by
  induction ds generalizing marks with
  | nil => rfl
  | cons d ds ih => rw [markAll_cons, ih, List.length_set]

theorem markAll_mono (marks : List Bool) (ds : List Nat) (j : Nat) (h : marks[j]? = some true) :
    (markAll marks ds)[j]? = some true := by
  induction ds generalizing marks with
  | nil => exact h
  | cons d ds ih =>
    apply ih
    rw [List.getElem?_set]
    split
    · rename_i hdj; subst hdj
      have := lt_of_getElem?_some h
      simp [this]
    · exact h

theorem markAll_marks (marks : List Bool) (ds : List Nat) (d : Nat) (hd : d ∈ ds) (hl : d < marks.length) :
    (markAll marks ds)[d]? = some true := by
  induction ds generalizing marks with
  | nil => cases hd
  | cons d0 ds ih =>
    rw [markAll_cons]
    rcases List.mem_cons.mp hd with rfl | h
    · apply markAll_mono
      rw [List.getElem?_set]; simp [hl]
    · exact ih _ h (by simpa using hl)

theorem markAll_other (marks : List Bool) (ds : List Nat) (j : Nat) (h : ∀ d ∈ ds, d ≠ j) :
    (markAll marks ds)[j]? = marks[j]? := by
  induction ds generalizing marks with
  | nil => rfl
  | cons d ds ih =>
    rw [markAll_cons]
    rw [ih _ (fun d' hd' => h d' (by simp [hd']))]
    rw [List.getElem?_set]
    have := h d (by simp)
    simp [this]

theorem closed_prefix {a b : List Node} (h : Closed (a ++ b)) : Closed a := by
  intro k n hk d hd
  exact h k n (getElem?_append_some _ hk) d hd

theorem sweep_cons (n : Node) (rev : List Node) (marks : List Bool) :
    sweep (n :: rev) marks =
      sweep rev (if marks.getD rev.length false then markAll marks n.deps else marks) := rfl

theorem sweep_length (rev : List Node) (marks : List Bool) : (sweep rev marks).length = marks.length := by
  induction rev generalizing marks with
  | nil => rfl
  | cons n r ih =>
    rw [sweep_cons]
    rw [ih]
    split <;> simp [markAll_length]

theorem sweep_mono (rev : List Node) (marks : List Bool) (j : Nat) (h : marks[j]? = some true) :
    (sweep rev marks)[j]? = some true := by
  induction rev generalizing marks with
  | nil => exact h
  | cons n r ih =>
    rw [sweep_cons]
    apply ih
    split
    · exact markAll_mono _ _ _ h
    · exact h

theorem sweep_high (rev : List Node) (marks : List Bool) (hc : Closed rev.reverse) (j : Nat)
    (hj : rev.length ≤ j) : (sweep rev marks)[j]? = marks[j]? := by
  induction rev generalizing marks with
  | nil => rfl
  | cons n r ih =>
    rw [sweep_cons]
    have hc' : Closed (r.reverse ++ [n]) := by simpa using hc
    rw [ih _ (closed_prefix hc') (by simp at hj; omega)]
    split
    · apply markAll_other
      intro d hd
      have := hc' r.reverse.length n (by simp) d hd
      simp at this hj; omega
    · rfl

theorem sweep_closed (rev : List Node) (marks : List Bool) (hc : Closed rev.reverse)
    (hl : rev.length ≤ marks.length) :
    ∀ (q : Nat) (n : Node), rev.reverse[q]? = some n → (sweep rev marks)[q]? = some true →
      ∀ d ∈ n.deps, (sweep rev marks)[d]? = some true := by
  induction rev generalizing marks with
  | nil => intro q n h; simp at h
  | cons n0 r ih =>
    intro q n hq hm d hd
    have hc' : Closed (r.reverse ++ [n0]) := by simpa using hc
    have hq' : (r.reverse ++ [n0])[q]? = some n := by simpa using hq
    rw [sweep_cons] at hm ⊢
    rcases getElem?_snoc_cases hq' with hq' | ⟨hq1, hq2⟩
    · refine ih _ (closed_prefix hc') ?_ q n hq' hm d hd
      simp only [List.length_cons] at hl
      split
      · rw [markAll_length]; omega
      · omega
    · subst hq2
      simp only [List.length_reverse] at hq1
      subst hq1
      rw [sweep_high _ _ (closed_prefix hc') _ (Nat.le_refl _)] at hm
      have hdl : d < r.length := by
        have := hc' r.reverse.length n0 (by simp) d hd
        simpa using this
      cases hb : marks.getD r.length false with
      | true =>
        simp only [hb, if_true] at hm ⊢
        apply sweep_mono
        apply markAll_marks _ _ _ hd
        simp at hl; omega
      | false =>
        simp only [hb] at hm
        have := (getD_true_iff marks r.length).mpr (by simpa using hm)
        rw [hb] at this; cases this

theorem useful_closed (g : Graph) (hc : Closed g.nodes) :
    ∀ (i : Nat) (n : Node), g.nodes[i]? = some n → (useful g).getD i false = true →
      ∀ d ∈ n.deps, (useful g).getD d false = true := by
  intro i n hi hm d hd
  rw [getD_true_iff] at hm ⊢
  exact sweep_closed g.nodes.reverse _ (by simpa using hc) (by simp) i n (by simpa using hi) hm d hd

theorem useful_out (g : Graph) (ho : g.out < g.nodes.length) : (useful g).getD g.out false = true := by
  rw [getD_true_iff]
  apply sweep_mono
  rw [List.getElem?_set]; simp [ho]

structure KInv (marks : List Bool) (pre : List Node) (st : KSt) : Prop where
  tr : Track false pre st.out st.m
  kept : ∀ i n, pre[i]? = some n → (marks.getD i false = true ∨ n.op.isInput = true) →
    ∃ k, Maps st.m i k

theorem dangStep_inv (marks : List Bool) (pre : List Node) (st : KSt) (n : Node)
    (I : KInv marks pre st) (hd : ∀ d ∈ n.deps, d < pre.length)
    (hin : n.op.isInput = true → n.deps = [])
    (hcl : marks.getD pre.length false = true → ∀ d ∈ n.deps, marks.getD d false = true) :
    KInv marks (pre ++ [n]) (dangStep marks st n) := by
  have hlen := I.tr.len
  have hkept : ∀ x i n0, pre[i]? = some n0 → (marks.getD i false = true ∨ n0.op.isInput = true) →
      ∃ k, Maps (st.m ++ [x]) i k := fun x i n0 hi hk => by
    obtain ⟨k, hk⟩ := I.kept i n0 hi hk; exact ⟨k, maps_append_left hk⟩
  unfold dangStep
  split
  · rename_i hdrop
    simp only [Bool.and_eq_true, Bool.not_eq_true', hlen] at hdrop
    refine ⟨I.tr.drop n hdrop.1, fun i n0 hi hk => ?_⟩
    rcases getElem?_snoc_cases hi with hi | ⟨rfl, rfl⟩
    · exact hkept none i n0 hi hk
    · rcases hk with hk | hk
      · rw [hdrop.2] at hk; cases hk
      · rw [hdrop.1] at hk; cases hk
  · rename_i hkeep
    have hkeep' : marks.getD pre.length false = true ∨ n.op.isInput = true := by
      simp only [Bool.and_eq_true, Bool.not_eq_true', hlen, not_and, Bool.not_eq_false] at hkeep
      cases h : n.op.isInput
      · exact Or.inl (hkeep h)
      · exact Or.inr rfl
    -- a kept node is marked, hence so are its dependencies, or an Input without dependencies
    have hmapped : ∀ d ∈ n.deps, ∃ kd, Maps st.m d kd := by
      intro d hdd
      rcases hkeep' with hm | hi
      · have hdl := hd d hdd
        exact I.kept d pre[d] (List.getElem?_eq_getElem hdl) (Or.inl (hcl hm d hdd))
      · rw [hin hi] at hdd; cases hdd
    refine ⟨I.tr.copy n hmapped, fun i n0 hi hk => ?_⟩
    rcases getElem?_snoc_cases hi with hi | ⟨rfl, _⟩
    · exact hkept _ i n0 hi hk
    · rw [← hlen]; exact ⟨_, maps_append_new _ _⟩

theorem dangling_inv (g : Graph) (hc : Closed g.nodes) (hwf : InputWF g.nodes) :
    KInv (useful g) g.nodes (g.nodes.foldl (dangStep (useful g)) ⟨[], []⟩) :=
  fold_inv (dangStep (useful g)) (KInv (useful g)) g.nodes
    (fun pre n rest st hs I =>
      have hn : g.nodes[pre.length]? = some n := by rw [hs]; simp
      dangStep_inv _ pre st n I (closed_deps_lt (hs ▸ hc)) (hwf n (List.mem_of_getElem? hn))
        (useful_closed g hc pre.length n hn))
    g.nodes [] _ rfl ⟨Track.nil, fun i n h => (by cases h)⟩

variable {V : Type}

theorem Track.preimage {c : Bool} {src out : List Node} {m : Mapping} (T : Track c src out m) {k : Nat}
    (hk : k < out.length) : ∃ i n, Maps m i k ∧ src[i]? = some n := by
  obtain ⟨i, hi⟩ := T.surj k hk
  have hil := (T.ref.bound i k hi).1
  exact ⟨i, src[i], hi, List.getElem?_eq_getElem hil⟩

theorem Track.special {c : Bool} {src out : List Node} {m : Mapping} (T : Track c src out m) :
    SpecialPreserved src out m := by
  refine ⟨fun i k n h hn hsp => ⟨?_, T.inj i k n h hn hsp⟩, fun k n' hk hsp => ?_⟩
  · obtain ⟨n', h1, ⟨h2, _⟩ | ⟨_, _, _, h3⟩⟩ := T.same i k n h hn
    · exact ⟨n', h1, h2⟩
    · exact absurd hsp (Op.foldable_not_special h3)
  · obtain ⟨i, n, hi, hn⟩ := T.preimage (lt_of_getElem?_some hk)
    obtain ⟨n'', h1, h2⟩ := T.same i k n hi hn
    rw [hk] at h1; cases h1
    rcases h2 with ⟨h2, _⟩ | ⟨_, h2, _, _⟩
    · exact ⟨i, n, hi, hn, h2.symm, T.inj i k n hi hn (by rw [← h2]; exact hsp)⟩
    · exact absurd hsp (Op.isConstant_not_special h2)

theorem Track.annotations {c : Bool} {src out : List Node} {m : Mapping} (T : Track c src out m) :
    ∀ i k n, Maps m i k → src[i]? = some n → ∃ n', out[k]? = some n' ∧ ∀ a ∈ n.ann, a ∈ n'.ann := by
  intro i k n h hn
  obtain ⟨n', h1, h2⟩ := T.same i k n h hn
  refine ⟨n', h1, ?_⟩
  rcases h2 with ⟨_, h2⟩ | ⟨_, _, h2, _⟩
  · rw [h2]; exact fun a h => h
  · rw [h2]; intro a h; cases h

theorem Track.noConst {src out : List Node} {m : Mapping} (T : Track false src out m) :
    ∀ i k n n', Maps m i k → src[i]? = some n → out[k]? = some n' → n'.op = n.op := by
  intro i k n n' h hn hk
  obtain ⟨n'', h1, h2⟩ := T.same i k n h hn
  rw [hk] at h1; cases h1
  rcases h2 with ⟨h2, _⟩ | ⟨h2, _⟩
  · exact h2
  · cases h2

theorem Track.source {c : Bool} {src out : List Node} {m : Mapping} (T : Track c src out m) {k : Nat}
    {n' : Node} (hk : out[k]? = some n') : ∃ i n, Maps m i k ∧ src[i]? = some n ∧ Img m n n' := by
  obtain ⟨i, n, hi, hn⟩ := T.preimage (lt_of_getElem?_some hk)
  obtain ⟨n'', h1, h2⟩ := T.ref.img i k n hi hn
  rw [hk] at h1; cases h1
  exact ⟨i, n, hi, hn, h2⟩

theorem Track.inputWF {c : Bool} {src out : List Node} {m : Mapping} (T : Track c src out m)
    (h : InputWF src) : InputWF out := by
  intro n' hn' hin
  obtain ⟨k, hk⟩ := List.mem_iff_getElem?.mp hn'
  obtain ⟨i, n, _, hn, ⟨hop, hdeps, _⟩ | ⟨hc, _⟩⟩ := T.source hk
  · rw [hdeps, h n (List.mem_of_getElem? hn) (by rw [← hop]; exact hin)]; rfl
  · rw [(Op.isConstant_plain hc).1] at hin; cases hin

theorem reach_useful (g : Graph) (hc : Closed g.nodes) (ho : g.out < g.nodes.length) :
    ∀ i, Reach g i → (useful g).getD i false = true := by
  intro i h
  induction h with
  | out => exact useful_out g ho
  | dep i d n _ hn hd ih => exact useful_closed g hc i n hn ih d hd

theorem origin_spec {m : Mapping} {i k : Nat} (h : Maps m i k) : Maps m (origin m k) k ∧ origin m k ≤ i := by
  have hlt : m.idxOf (some k) < m.length := List.idxOf_lt_length_iff.mpr (List.mem_of_getElem? h)
  refine ⟨?_, Nat.le_of_not_lt fun hi => ?_⟩
  · unfold Maps origin
    rw [List.getElem?_eq_getElem hlt, List.getElem_idxOf hlt]
  · have := List.not_of_lt_findIdx (p := (· == some k)) hi
    obtain ⟨_, e⟩ := List.getElem?_eq_some_iff.mp h
    rw [e, beq_self_eq_true] at this
    cases this

/-- the form of C04(b) that all four passes satisfy -/
theorem SpecialPreserved.inj {src out : List Node} {m : Mapping} (S : SpecialPreserved src out m) :
    SpecialInj src out m := by
  refine ⟨fun i k n h hn hs => ?_, fun k n' hk hs => ?_⟩
  · obtain ⟨h1, h2⟩ := S.1 i k n h hn hs
    exact ⟨h1, fun j _ hj _ _ => h2 j hj, fun j hj => Nat.le_of_eq (h2 j hj).symm⟩
  · obtain ⟨i, n, h1, h2, h3, _⟩ := S.2 k n' hk hs
    exact ⟨i, n, h1, h2, h3⟩

/-- because a randomising node is the first node mapped to its image, the transported oracle is
    compatible -/
theorem compat_transport_inj {src out : List Node} {m : Mapping} (S : SpecialInj src out m)
    (rO : Nat → List V → V) : Compat src m rO (transport m rO) := by
  intro i k n h hn hr
  obtain ⟨h1, h2⟩ := origin_spec h
  unfold transport
  rw [Nat.le_antisymm h2 ((S.1 i k n h hn (Or.inl hr)).2.2 _ h1)]

theorem compat_transport {src out : List Node} {m : Mapping} (S : SpecialPreserved src out m)
    (rO : Nat → List V → V) : Compat src m rO (transport m rO) :=
  compat_transport_inj S.inj rO

def closedFrom : Nat → List Node → Bool
  | _, [] => true
  | k, n :: r => n.deps.all (· < k) && closedFrom (k + 1) r

theorem closedFrom_cons (k : Nat) (n : Node) (r : List Node) :
    closedFrom k (n :: r) = (n.deps.all (· < k) && closedFrom (k + 1) r) := rfl

theorem closedFrom_spec (ns : List Node) (k : Nat) (h : closedFrom k ns = true) :
    ∀ (j : Nat) (n : Node), ns[j]? = some n → ∀ d ∈ n.deps, d < k + j := by
  induction ns generalizing k with
  | nil => intro j n hj; simp at hj
  | cons x r ih =>
    simp only [closedFrom_cons, Bool.and_eq_true, List.all_eq_true, decide_eq_true_eq] at h
    intro j n hj d hd
    cases j with
    | zero => simp at hj; subst hj; exact h.1 d hd
    | succ j =>
      have := ih (k + 1) h.2 j n (by simpa using hj) d hd
      omega

theorem closed_of_closedFrom (ns : List Node) (h : closedFrom 0 ns = true) : Closed ns := by
  intro k n hk d hd
  have := closedFrom_spec ns 0 h k n hk d hd
  omega

theorem Track.valOK {c : Bool} {src out : List Node} {m : Mapping} (T : Track c src out m)
    {ok : V → Prop} {sem : Op → List V → V} {inp : Nat → V} {dv : V} {rO rN : Nat → List V → V}
    (hval : ∀ i k, Maps m i k →
      (eval sem inp dv rN out).getD k dv = (eval sem inp dv rO src).getD i dv)
    (hok : ValOK ok sem inp dv rO src) : ValOK ok sem inp dv rN out := by
  intro k hk
  obtain ⟨i, n, hi, hn⟩ := T.preimage hk
  rw [hval i k hi]
  exact hok i (lt_of_getElem?_some hn)

theorem VecWF.ok {sem : Op → List V → V} {inp : Nat → V} {dv : V} {rnd : Nat → List V → V}
    {tyv : V → Ty} {ns : List Node} (hc : Closed ns) (h : VecWF ns)
    (hty : TyOK sem inp dv rnd tyv ns) : VecOK sem inp dv rnd tyv ns := by
  have key : ∀ (i : Nat) (n : Node) (d : Nat), ns[i]? = some n → d ∈ n.deps → ∀ e, tyOf ns d = .vec e →
      tyv ((eval sem inp dv rnd ns).getD d dv) = .vec e := by
    intro i n d hn hd e he
    have hdi : d < i := hc i n hn d hd
    have hdl : d < ns.length := Nat.lt_trans hdi (lt_of_getElem?_some hn)
    rw [hty d ns[d] (List.getElem?_eq_getElem hdl), ← he]
    unfold tyOf
    rw [List.getD_eq_getElem?_getD, List.getElem?_eq_getElem hdl]; rfl
  intro i n hn
  refine ⟨fun hop d hd => ?_, fun hop d hd => ?_⟩
  · obtain ⟨e, he⟩ := (h i n hn).1 hop d hd
    exact ⟨e, key i n d hn (List.mem_of_mem_head? hd) e he⟩
  · obtain ⟨e, he⟩ := (h i n hn).2 hop d hd
    exact ⟨e, key i n d hn hd e he⟩

/-- what the meta pass needs of the result of the constants pass -/
theorem CInv.keeps {pre : List Node} {st : CSt} (C : CInv pre st) (hwf : MetaWF pre)
    {sem : Op → List V → V} {inp : Nat → V} {dv : V} {r0 r1 : Nat → List V → V} {tyv : V → Ty}
    (hty : TyOK sem inp dv r0 tyv pre)
    (hval : ∀ i k, Maps st.m i k →
      (eval sem inp dv r1 st.out).getD k dv = (eval sem inp dv r0 pre).getD i dv) :
    TyOK sem inp dv r1 tyv st.out ∧ MetaWF st.out ∧
    (VecOK sem inp dv r0 tyv pre → VecOK sem inp dv r1 tyv st.out) := by
  refine ⟨fun k n' hk => ?_, fun n' hn' => ?_, fun hvo k n' hk => ?_⟩
  · obtain ⟨i, n, h1, h2, h3⟩ := C.ty k n' hk
    rw [hval i k h1, h3]
    exact hty i n h2
  · obtain ⟨k, hk⟩ := List.mem_iff_getElem?.mp hn'
    unfold metaWF
    obtain ⟨i, n, _, hn, ⟨hop, hdeps, _⟩ | ⟨hconst, _, hd0, _⟩⟩ := C.tr.source hk
    · rw [hop, hdeps, List.length_map]
      exact hwf n (List.mem_of_getElem? hn)
    · obtain ⟨vid, num, e⟩ := Op.eq_constant hconst
      rw [hd0, e]
      rfl
  · obtain ⟨i, n, _, hn, ⟨hop, hdeps, hmp⟩ | ⟨hconst, _⟩⟩ := C.tr.source hk
    · -- a dependency of the copy has the value, hence the type, of the dependency of the source node
      have hdv : ∀ d ∈ n.deps, ∀ t, tyv ((eval sem inp dv r0 pre).getD d dv) = t →
          tyv ((eval sem inp dv r1 st.out).getD (look st.m d) dv) = t := by
        intro d hd t ht
        obtain ⟨kd, hkd⟩ := hmp d hd
        rw [look_of_maps hkd, hval d kd hkd]
        exact ht
      rw [hop] at *
      refine ⟨fun hop' d hdh => ?_, fun hop' d hdm => ?_⟩
      · rw [hdeps, List.head?_map] at hdh
        obtain ⟨d0, hh, rfl⟩ := Option.map_eq_some_iff.mp hdh
        obtain ⟨t, ht⟩ := (hvo i n hn).1 hop' d0 hh
        exact ⟨t, hdv d0 (List.mem_of_mem_head? hh) _ ht⟩
      · rw [hdeps] at hdm
        obtain ⟨d0, hd0, rfl⟩ := List.mem_map.mp hdm
        obtain ⟨t, ht⟩ := (hvo i n hn).2 hop' d0 hd0
        exact ⟨t, hdv d0 hd0 _ ht⟩
    · obtain ⟨vid, num, e⟩ := Op.eq_constant hconst
      refine ⟨fun hop' => ?_, fun hop' => ?_⟩
      · rw [hop'] at e; cases e
      · rw [hop'] at e; cases e

theorem maps_join {m1 m2 : Mapping} {i k : Nat} :
    Maps (join m1 m2) i k ↔ ∃ a, Maps m1 i a ∧ Maps m2 a k := by
  unfold Maps join
  rw [List.getElem?_map]
  cases h : m1[i]? with
  | none => simp
  | some x =>
    cases x with
    | none => simp
    | some a => simp only [Option.map_some, Option.some.injEq, getD_none_eq_some, exists_eq_left']

end CCV.Optimizer
