import CCV.Model.Bytes
import CCV.Lemmas.Blocks
import CCV.Lemmas.Kernels
/-
  Lemmas about the byte codecs of `CCV.Model.Bytes`: little-endian digits (`leBytes` / `fromLE`),
  bit packing (`packBits` / `unpackByte`), the two chunkings, the casts and sign padding of the
  scalar types, and the `u64` writer.
-/
namespace CCV.Bytes

theorem length_leBytes (n k : Nat) : (leBytes n k).length = k := by
  induction k generalizing n with
  | zero => rfl
  | succ k ih => simp [leBytes, ih]

theorem leBytes_lt (n k : Nat) : ∀ b ∈ leBytes n k, b < 256 := by
  induction k generalizing n with
  | zero => simp [leBytes]
  | succ k ih =>
    intro b hb
    simp only [leBytes, List.mem_cons] at hb
    rcases hb with h | h
    · omega
    · exact ih _ _ h

theorem fromLE_leBytes (n k : Nat) : fromLE (leBytes n k) = n % 256 ^ k := by
  induction k generalizing n with
  | zero => simp [leBytes, fromLE, Nat.mod_one]
  | succ k ih =>
    simp only [leBytes, fromLE, ih]
    rw [Nat.pow_succ, Nat.mul_comm (256 ^ k) 256, Nat.mod_mul]

theorem leBytes_fromLE (bs : List Nat) (h : ∀ b ∈ bs, b < 256) : leBytes (fromLE bs) bs.length = bs := by
  induction bs with
  | nil => rfl
  | cons b bs ih =>
    have hb := h b (by simp)
    simp only [fromLE, List.length_cons, leBytes]
    rw [Nat.add_mul_mod_self_left, Nat.add_mul_div_left _ _ (by decide : 0 < 256), Nat.mod_eq_of_lt hb,
      Nat.div_eq_of_lt hb, Nat.zero_add, ih (fun x hx => h x (by simp [hx]))]

theorem fromLE_lt (bs : List Nat) (h : ∀ b ∈ bs, b < 256) : fromLE bs < 256 ^ bs.length := by
  induction bs with
  | nil => simp [fromLE]
  | cons b bs ih =>
    have hb := h b (by simp)
    have ih' := ih (fun x hx => h x (by simp [hx]))
    simp only [fromLE, List.length_cons, Nat.pow_succ]
    omega

theorem take_leBytes (n k m : Nat) : (leBytes n k).take m = leBytes n (min m k) := by
  induction k generalizing n m with
  | zero => simp [leBytes]
  | succ k ih =>
    cases m with
    | zero => simp [leBytes]
    | succ m =>
      simp only [leBytes, List.take_succ_cons, ih]
      rw [Nat.succ_min_succ]; simp [leBytes]

theorem leBytes_congr (n m k : Nat) (h : n % 256 ^ k = m % 256 ^ k) : leBytes n k = leBytes m k := by
  have hmod : ∀ a, leBytes (a % 256 ^ k) k = leBytes a k := fun a => by
    have h := leBytes_fromLE (leBytes a k) (leBytes_lt a k)
    rwa [fromLE_leBytes, length_leBytes] at h
  rw [← hmod n, h, hmod]

theorem leBytes_add (n a b : Nat) : leBytes n (a + b) = leBytes n a ++ leBytes (n / 256 ^ a) b := by
  induction a generalizing n with
  | zero => simp [leBytes]
  | succ a ih =>
    rw [Nat.succ_add]
    simp only [leBytes, ih, List.cons_append]
    rw [Nat.pow_succ, Nat.mul_comm, Nat.div_div_eq_div_mul]

def unpackN : Nat → Nat → List Nat
  | _, 0 => []
  | n, k + 1 => n % 2 :: unpackN (n / 2) k

theorem unpackByte_eq (b : Nat) : unpackByte b = unpackN b 8 := by
  simp [unpackByte, unpackN, Nat.div_div_eq_div_mul]

theorem mem_unpackN_le (n k : Nat) : ∀ a ∈ unpackN n k, a ≤ 1 := by
  induction k generalizing n with
  | zero => simp [unpackN]
  | succ k ih =>
    intro a ha
    simp only [unpackN, List.mem_cons] at ha
    rcases ha with h | h
    · omega
    · exact ih _ _ h

theorem packBits_unpackN (n k : Nat) : packBits (unpackN n k) = n % 2 ^ k := by
  induction k generalizing n with
  | zero => simp [unpackN, packBits, Nat.mod_one]
  | succ k ih =>
    simp only [unpackN, packBits, ih]
    rw [Nat.pow_succ, Nat.mul_comm (2 ^ k) 2, Nat.mod_mul]

theorem take_unpackN (n k m : Nat) : (unpackN n k).take m = unpackN n (min m k) := by
  induction k generalizing n m with
  | zero => simp [unpackN]
  | succ k ih =>
    cases m with
    | zero => simp [unpackN]
    | succ m =>
      simp only [unpackN, List.take_succ_cons, ih]
      rw [Nat.succ_min_succ]; simp [unpackN]

theorem unpackN_zero (k : Nat) : unpackN 0 k = List.replicate k 0 := by
  induction k with
  | zero => rfl
  | succ k ih => simp [unpackN, ih, List.replicate_succ]

theorem unpackN_packBits (c : List Nat) (hc : ∀ y ∈ c, y ≤ 1) (k : Nat) (hk : c.length ≤ k) :
    unpackN (packBits c) k = c ++ List.replicate (k - c.length) 0 := by
  induction c generalizing k with
  | nil => simp [packBits, unpackN_zero]
  | cons a t ih =>
    cases k with
    | zero => simp at hk
    | succ k =>
      have ha : a ≤ 1 := hc a (by simp)
      have h1 : (a + 2 * packBits t) % 2 = a := by omega
      have h2 : (a + 2 * packBits t) / 2 = packBits t := by omega
      simp only [packBits, unpackN, h1, h2, List.cons_append, List.length_cons]
      rw [ih (fun y hy => hc y (by simp [hy])) k (by simpa using hk)]
      simp

theorem packBits_lt (c : List Nat) (hc : ∀ y ∈ c, y ≤ 1) : packBits c < 2 ^ c.length := by
  induction c with
  | nil => simp [packBits]
  | cons a t ih =>
    have ha : a ≤ 1 := hc a (by simp)
    have := ih (fun y hy => hc y (by simp [hy]))
    simp only [packBits, List.length_cons, Nat.pow_succ]
    omega

theorem length_unpackByte (b : Nat) : (unpackByte b).length = 8 := rfl

theorem mem_unpackByte_le (b a : Nat) (h : a ∈ unpackByte b) : a ≤ 1 :=
  mem_unpackN_le b 8 a (unpackByte_eq b ▸ h)

theorem packBits_unpackByte_take (b k : Nat) (hk : k ≤ 8) :
    packBits ((unpackByte b).take k) = b % 2 ^ k := by
  rw [unpackByte_eq, take_unpackN, packBits_unpackN, Nat.min_eq_left hk]

theorem packBits_unpackByte (b : Nat) (hb : b < 256) : packBits (unpackByte b) = b := by
  rw [unpackByte_eq, packBits_unpackN]; exact Nat.mod_eq_of_lt hb

theorem length_flatMap_unpackByte (bs : List Nat) : (bs.flatMap unpackByte).length = 8 * bs.length := by
  rw [Ops.length_flatMap_const _ _ 8 (fun b _ => length_unpackByte b), Nat.mul_comm]

theorem chunks8_nil {α : Type} : chunks8 ([] : List α) = [] := by
  rw [chunks8]; simp

theorem chunks8_ne_nil {α : Type} (xs : List α) (h : xs ≠ []) :
    chunks8 xs = xs.take 8 :: chunks8 (xs.drop 8) := by
  rw [chunks8]; simp [h]

theorem chunks8_short {α : Type} (xs : List α) (hne : xs ≠ []) (h : xs.length ≤ 8) : chunks8 xs = [xs] := by
  rw [chunks8_ne_nil _ hne, List.take_of_length_le h, List.drop_eq_nil_of_le h, chunks8_nil]

theorem chunks8_map {α β : Type} (f : α → β) (xs : List α) :
    chunks8 (xs.map f) = (chunks8 xs).map (List.map f) := by
  fun_induction chunks8 xs with
  | case1 => simp [chunks8_nil]
  | case2 xs h ih =>
    rw [chunks8_ne_nil _ (by simpa using h), List.map_cons, ← List.map_take, ← List.map_drop, ih]

theorem length_chunks8 {α : Type} (xs : List α) : (chunks8 xs).length = (xs.length + 7) / 8 := by
  fun_induction chunks8 xs with
  | case1 => simp
  | case2 xs h ih =>
    have : 0 < xs.length := List.length_pos_iff.2 h
    simp only [List.length_cons, ih, List.length_drop]; omega

theorem mem_chunks8 {α : Type} (xs : List α) : ∀ c ∈ chunks8 xs, c.length ≤ 8 ∧ ∀ y ∈ c, y ∈ xs := by
  fun_induction chunks8 xs with
  | case1 => simp
  | case2 xs h ih =>
    intro c hc
    rcases List.mem_cons.1 hc with rfl | hc
    · exact ⟨by simp [List.length_take]; omega, fun y hy => List.mem_of_mem_take hy⟩
    · exact ⟨(ih c hc).1, fun y hy => List.mem_of_mem_drop ((ih c hc).2 y hy)⟩

theorem unpack_pack_chunks8 (ys : List Nat) (hy : ∀ y ∈ ys, y ≤ 1) :
    ((chunks8 ys).map packBits).flatMap unpackByte
      = ys ++ List.replicate (8 * (chunks8 ys).length - ys.length) 0 := by
  fun_induction chunks8 ys with
  | case1 => simp
  | case2 ys h ih =>
    have ih := ih (fun y hy' => hy y (List.mem_of_mem_drop hy'))
    have hpos : 0 < ys.length := List.length_pos_iff.2 h
    simp only [List.map_cons, List.flatMap_cons, List.length_cons]
    rw [ih, unpackByte_eq, unpackN_packBits _ (fun y hy' => hy y (List.mem_of_mem_take hy')) 8
      (by simp [List.length_take]; omega)]
    by_cases h8 : 8 ≤ ys.length
    · have e1 : 8 - (List.take 8 ys).length = 0 := by simp [List.length_take]; omega
      have e2 : 8 * (chunks8 (List.drop 8 ys)).length - (List.drop 8 ys).length
          = 8 * ((chunks8 (List.drop 8 ys)).length + 1) - ys.length := by
        simp [List.length_drop]; omega
      rw [e1, e2]; simp [← List.append_assoc]
    · have hd : List.drop 8 ys = [] := List.drop_eq_nil_of_le (by omega)
      have ht : List.take 8 ys = ys := List.take_of_length_le (by omega)
      rw [hd, ht, chunks8_nil]; simp

theorem all_isBit_iff (xs : List Int) : xs.all isBit = true ↔ ∀ x ∈ xs, x = 0 ∨ x = 1 := by
  simp [isBit, List.all_eq_true]

theorem bitsToBytes_ok (xs : List Int) (h : ∀ x ∈ xs, x = 0 ∨ x = 1) :
    bitsToBytes xs = .ok ((chunks8 (xs.map Int.toNat)).map packBits) := by
  rw [bitsToBytes, if_pos ((all_isBit_iff xs).2 h), chunks8_map, List.map_map]; rfl

theorem toNat_bit_le (xs : List Int) (h : ∀ x ∈ xs, x = 0 ∨ x = 1) : ∀ y ∈ xs.map Int.toNat, y ≤ 1 := by
  intro y hy
  rcases List.mem_map.1 hy with ⟨x, hx, rfl⟩
  rcases h x hx with rfl | rfl <;> decide

theorem length_chunksExact (k n : Nat) (xs : List Nat) : (chunksExact k n xs).length = n := by
  induction n generalizing xs with
  | zero => rfl
  | succ n ih => simp [chunksExact, ih]

theorem chunksExact_mem_length (k n : Nat) (xs : List Nat) (h : xs.length = n * k) :
    ∀ c ∈ chunksExact k n xs, c.length = k := by
  induction n generalizing xs with
  | zero => intro c hc; simp [chunksExact] at hc
  | succ n ih =>
    intro c hc
    simp only [chunksExact, List.mem_cons] at hc
    rw [Nat.succ_mul] at h
    rcases hc with rfl | hc
    · rw [List.length_take]; omega
    · exact ih (xs.drop k) (by rw [List.length_drop]; omega) c hc

theorem chunksExact_flatten (k n : Nat) (xs : List Nat) (h : xs.length = n * k) :
    (chunksExact k n xs).flatten = xs := by
  induction n generalizing xs with
  | zero =>
    have : xs = [] := List.eq_nil_of_length_eq_zero (by omega)
    subst this; rfl
  | succ n ih =>
    rw [Nat.succ_mul] at h
    simp only [chunksExact, List.flatten_cons]
    rw [ih (xs.drop k) (by rw [List.length_drop]; omega), List.take_append_drop]

theorem chunksExact_flatMap {α : Type} (k : Nat) (f : α → List Nat) (xs : List α)
    (hf : ∀ x ∈ xs, (f x).length = k) :
    chunksExact k xs.length (xs.flatMap f) = xs.map f := by
  induction xs with
  | nil => rfl
  | cons a t ih =>
    have ha : (f a).length = k := hf a (by simp)
    simp only [List.length_cons, chunksExact, List.flatMap_cons, List.map_cons]
    rw [List.take_left' ha, List.drop_left' ha, ih (fun x hx => hf x (by simp [hx]))]

theorem numel_nil : numel [] = 1 := rfl

theorem foldl_mul_acc (a : Nat) (s : List Nat) :
    List.foldl (· * ·) a s = a * List.foldl (· * ·) 1 s := by
  induction s generalizing a with
  | nil => simp
  | cons d s ih =>
    simp only [List.foldl_cons]
    rw [ih (a * d), ih (1 * d), Nat.one_mul, Nat.mul_assoc]

theorem numel_cons (d : Nat) (s : List Nat) : numel (d :: s) = d * numel s := by
  unfold numel
  simp only [List.foldl_cons]
  rw [foldl_mul_acc, Nat.one_mul]

theorem numel_singleton (d : Nat) : numel [d] = d := by
  rw [numel_cons, numel_nil, Nat.mul_one]

theorem numel_pos (s : List Nat) (h : ∀ d ∈ s, 0 < d) : 0 < numel s := by
  induction s with
  | nil => rw [numel_nil]; exact Nat.one_pos
  | cons d s ih =>
    rw [numel_cons]
    exact Nat.mul_pos (h d (by simp)) (ih (fun x hx => h x (by simp [hx])))

theorem bits_pos (st : ST) : 0 < st.bits := by cases st <;> decide

theorem byteLen_pos (st : ST) : 0 < st.byteLen := by cases st <;> decide

theorem bits_eq_byteLen (st : ST) (h : st ≠ .bit) : st.bits = 8 * st.byteLen := by
  cases st <;> first | exact absurd rfl h | rfl

/-- the byte length `check_type` asks of `n` elements of a non-bit type -/
theorem bytes_of_bits (st : ST) (h : st ≠ .bit) (n : Nat) : (n * st.bits + 7) / 8 = n * st.byteLen := by
  rw [bits_eq_byteLen st h, Nat.mul_left_comm]; omega

theorem pow256_byteLen (st : ST) (h : st ≠ .bit) : 256 ^ st.byteLen = 2 ^ st.bits := by
  rw [bits_eq_byteLen st h, Nat.pow_mul]

theorem asU128_mod (x : Int) {w : Nat} (h : w ≤ 128) :
    asU128 x % 2 ^ w = (x % ((2 ^ w : Nat) : Int)).toNat := by
  have hd : ((2 ^ w : Nat) : Int) ∣ ((2 ^ 128 : Nat) : Int) :=
    Int.natCast_dvd_natCast.2 (Nat.pow_dvd_pow 2 h)
  have hw : ((2 ^ w : Nat) : Int) ≠ 0 := Int.natCast_ne_zero.2 (Nat.ne_of_gt (Nat.two_pow_pos w))
  apply Int.natCast_inj.1
  rw [asU128, Int.natCast_emod, Int.toNat_of_nonneg (Int.emod_nonneg _ (by decide)),
    Int.toNat_of_nonneg (Int.emod_nonneg _ hw), Int.emod_emod_of_dvd _ hd]

theorem asU128_lt (x : Int) : asU128 x < 2 ^ 128 :=
  (Int.toNat_lt (Int.emod_nonneg _ (by decide))).2 (Int.emod_lt_of_pos _ (by decide))

theorem asU128_ofNat (n : Nat) : asU128 (n : Int) = n % 2 ^ 128 := by
  rw [asU128, ← Int.natCast_emod, Int.toNat_natCast]

theorem asU64_eq (x : Int) : asU64 x = asU128 x % 2 ^ 64 := (asU128_mod x (by decide)).symm

theorem ofInt_eq (st : ST) (x : Int) : st.ofInt x = asU128 x % 2 ^ st.bits :=
  (asU128_mod x (Ops.bits_le st)).symm

theorem ofInt_lt (st : ST) (x : Int) : st.ofInt x < 2 ^ st.bits := by
  rw [ofInt_eq]; exact Nat.mod_lt _ (Nat.two_pow_pos _)

theorem toInt_congr (st : ST) (a b : Nat) (h : a % 2 ^ st.bits = b % 2 ^ st.bits) :
    st.toInt a = st.toInt b := by
  unfold ST.toInt; rw [h]

theorem asU128_toInt_mod (st : ST) (r : Nat) :
    asU128 (st.toInt r) % 2 ^ st.bits = r % 2 ^ st.bits := by
  rw [asU128_mod _ (Ops.bits_le st), Ops.toInt_emod, Int.toNat_natCast]

theorem toInt_range (st : ST) (r : Nat) :
    -((2 ^ 127 : Nat) : Int) ≤ st.toInt r ∧ st.toInt r < ((2 ^ 128 : Nat) : Int) := by
  obtain ⟨b, hb⟩ : ∃ b, st.bits = b + 1 := ⟨st.bits - 1, by have := bits_pos st; omega⟩
  have hlt : r % 2 ^ st.bits < 2 ^ st.bits := Nat.mod_lt _ (Nat.two_pow_pos _)
  have hB : 2 ^ b ≤ 2 ^ 127 := Nat.pow_le_pow_right (by decide) (by have := Ops.bits_le st; omega)
  unfold ST.toInt
  rw [hb] at hlt ⊢
  rw [Nat.add_sub_cancel]
  split <;> omega

theorem or_mask (r i w : Nat) (hr : r < 2 ^ i) (hiw : i ≤ w) :
    r ||| (2 ^ w - 2 ^ i) = r + (2 ^ w - 2 ^ i) := by
  have h : 2 ^ w - 2 ^ i = 2 ^ i * (2 ^ (w - i) - 1) := by
    rw [Nat.mul_sub, ← Nat.pow_add, Nat.mul_one]
    congr 2; omega
  rw [h, Nat.or_comm, ← Nat.two_pow_add_eq_or_of_lt hr, Nat.add_comm]

theorem signPad_of_le (w : Nat) (st : ST) (r : Nat) (h : w ≤ st.byteLen * 8) : signPad w st r = r :=
  if_neg (fun h' => Nat.not_lt.2 h h'.2)

/-- On a residue of the type's width, in an accumulator at least as wide, sign padding yields the
    `w`-bit two's-complement image of the integer the residue denotes.  With `2^b` the sign bit:
    a set sign bit means `toInt r = r - 2^(b+1)`, whose residue mod `2^w` is `r + (2^w - 2^(b+1))`,
    which is what OR-ing the mask adds. -/
theorem signPad_eq (w : Nat) (st : ST) (h : st ≠ .bit) (r : Nat) (hr : r < 2 ^ st.bits)
    (hw : st.bits ≤ w) : signPad w st r = (st.toInt r % ((2 ^ w : Nat) : Int)).toNat := by
  obtain ⟨b, hb⟩ : ∃ b, st.bits = b + 1 := ⟨st.bits - 1, by have := bits_pos st; omega⟩
  have hbl : st.byteLen * 8 = b + 1 := by rw [← hb, bits_eq_byteLen st h, Nat.mul_comm]
  have hor := or_mask r st.bits w hr hw
  have hQ : 2 ^ st.bits ≤ 2 ^ w := Nat.pow_le_pow_right (by decide) hw
  have hdiv : r / 2 ^ b = 1 ↔ 2 ^ b ≤ r := by
    rw [Nat.div_eq_iff (Nat.two_pow_pos b)]; rw [hb] at hr; omega
  unfold signPad ST.toInt
  simp only [hbl, Nat.mod_eq_of_lt hr, Nat.add_sub_cancel, hdiv]
  rw [hb] at hr hor hQ ⊢
  rw [Nat.add_sub_cancel]
  by_cases hs : st.signed = true ∧ 2 ^ b ≤ r
  · have hs2 := hs.2
    rw [if_pos hs, ← Int.add_emod_right, Int.emod_eq_of_lt (by omega) (by omega)]
    split
    · rw [hor]; omega
    · rename_i h1
      have : ¬ b + 1 < w := fun h2 => h1 ⟨hs.1, h2⟩
      obtain rfl : w = b + 1 := by omega
      omega
  · rw [if_neg hs, Int.emod_eq_of_lt (Int.natCast_nonneg _) (Int.ofNat_lt.2 (Nat.lt_of_lt_of_le hr hQ)),
      Int.toNat_natCast]
    split
    · rename_i h1; rw [if_neg (fun h2 => hs ⟨h1.1, h2⟩)]
    · rfl

theorem signPad_mod (w : Nat) (st : ST) (h : st ≠ .bit) (r : Nat) (hr : r < 2 ^ st.bits)
    (hw : st.bits ≤ w) (hw' : w ≤ 128) : signPad w st r % 2 ^ st.bits = r := by
  rw [signPad_eq w st h r hr hw, ← asU128_mod _ hw', Nat.mod_mod_of_dvd _ (Nat.pow_dvd_pow 2 hw),
    asU128_toInt_mod, Nat.mod_eq_of_lt hr]

theorem vecFromBytesW_ne_bit (w : Nat) (st : ST) (h : st ≠ .bit) (bytes : List Nat) :
    vecFromBytesW w st bytes =
      if bytes.length % st.byteLen != 0 then .error "Incompatible vector and scalar type"
      else .ok ((chunksExact st.byteLen (bytes.length / st.byteLen) bytes).map
        (fun c => signPad w st (fromLE (c.take (w / 8))))) := by
  cases st <;> first | exact absurd rfl h | rfl

theorem vecToBytes_ne_bit (st : ST) (h : st ≠ .bit) (xs : List Int) :
    vecToBytes st xs = .ok (xs.flatMap (fun x => leBytes (asU128 x) st.byteLen)) := by
  cases st <;> first | exact absurd rfl h | rfl

theorem vecU64ToBytes_ne_bit (nb : Nat) (ns : Bool) (st : ST) (h : st ≠ .bit) (xs : List Int) :
    vecU64ToBytes nb ns st xs =
      if xs.all (fitsU64 nb ns) then .ok (xs.flatMap (elemU64ToBytes st.byteLen))
      else .error "The integer of this size is not supported" := by
  cases st <;> first | exact absurd rfl h | rfl

theorem vecFromBytesW_of_length (w : Nat) (st : ST) (h : st ≠ .bit) (n : Nat) (bs : List Nat)
    (hl : bs.length = n * st.byteLen) :
    vecFromBytesW w st bs
      = .ok ((chunksExact st.byteLen n bs).map fun c => signPad w st (fromLE (c.take (w / 8)))) := by
  rw [vecFromBytesW_ne_bit w st h, hl, Nat.mul_mod_left, Nat.mul_div_cancel _ (byteLen_pos st)]
  rfl

theorem vecFromBytesW_flatMap {α : Type} (w : Nat) (st : ST) (h : st ≠ .bit) (f : α → List Nat)
    (xs : List α) (hf : ∀ x ∈ xs, (f x).length = st.byteLen) :
    vecFromBytesW w st (xs.flatMap f)
      = .ok (xs.map fun x => signPad w st (fromLE ((f x).take (w / 8)))) := by
  rw [vecFromBytesW_of_length w st h xs.length _ (Ops.length_flatMap_const xs f _ hf),
    chunksExact_flatMap _ f xs hf, List.map_map]
  rfl

theorem vecFromBytesW_ok_iff (w : Nat) (st : ST) (bs : List Nat) :
    (∃ r, vecFromBytesW w st bs = .ok r) ↔ bs.length % st.byteLen = 0 := by
  by_cases h : st = .bit
  · subst h; simp [vecFromBytesW, ST.byteLen, ST.bits, Nat.mod_one]
  · rw [vecFromBytesW_ne_bit w st h]
    by_cases hm : bs.length % st.byteLen = 0
    · simp [hm]
    · simp [hm]

theorem leBytes_asU64 (x : Int) (k : Nat) (h : k ≤ 8) : leBytes (asU64 x) k = leBytes (asU128 x) k := by
  apply leBytes_congr
  rw [asU64_eq, show (2 : Nat) ^ 64 = 256 ^ 8 by decide]
  exact Nat.mod_mod_of_dvd _ (Nat.pow_dvd_pow 256 h)

theorem elemU64_le8 (bl : Nat) (h : bl ≤ 8) (x : Int) :
    elemU64ToBytes bl x = leBytes (asU128 x) bl := by
  rw [elemU64ToBytes, Nat.min_eq_left h, Nat.sub_eq_zero_of_le h, List.replicate_zero,
    List.append_nil, leBytes_asU64 x bl h]

/-- A 16-byte element.  Bytes 8..15 of `x as u128` are `asU128 x / 2^64`: `0` when `x` is in the `u64` range,
    `2^64 - 1` in the two ranges `fitsU64_range` leaves besides, i.e. eight `0x00` resp. `0xff`, which is the
    padding the writer chooses. -/
theorem elemU64_16 (x : Int)
    (h : (0 ≤ x ∧ x < 2 ^ 64) ∨ (-(2 ^ 64) ≤ x ∧ x < 0) ∨ (2 ^ 128 - 2 ^ 64 ≤ x ∧ x < 2 ^ 128)) :
    elemU64ToBytes 16 x = leBytes (asU128 x) 16 := by
  have e0 : elemU64ToBytes 16 x = leBytes (asU64 x) 8 ++
      List.replicate 8 (if decide (0 ≤ x) && decide (x < (2 ^ 64 : Int)) then 0 else 255) := rfl
  rw [leBytes_add _ 8 8, e0, leBytes_asU64 x 8 (Nat.le_refl 8)]
  congr 1
  by_cases hx : 0 ≤ x ∧ x < 2 ^ 64
  · have : asU128 x / 256 ^ 8 = 0 := by
      rw [asU128, Int.emod_eq_of_lt hx.1 (by omega)]; omega
    rw [this, if_pos (by simpa using hx)]; decide
  · have : asU128 x / 256 ^ 8 = 2 ^ 64 - 1 := by
      rcases h with h | h | h
      · exact absurd h hx
      · rw [asU128, ← Int.add_emod_right, Int.emod_eq_of_lt (by omega) (by omega)]; omega
      · rw [asU128, Int.emod_eq_of_lt (by omega) (by omega)]; omega
    rw [this, if_neg (by simpa using hx)]; decide

/-- what `as_u64` accepts of a native type of at most 64 or of exactly 128 bits: the `u64` range, or
    the range whose complement in the type is in the `u64` range -/
theorem fitsU64_range (nb : Nat) (hnb : nb ≤ 64 ∨ nb = 128) (ns : Bool) (x : Int)
    (hr : if ns = true then -(2 ^ (nb - 1)) ≤ x ∧ x < 2 ^ (nb - 1) else 0 ≤ x ∧ x < 2 ^ nb)
    (hf : fitsU64 nb ns x = true) :
    (0 ≤ x ∧ x < 2 ^ 64) ∨ (-(2 ^ 64) ≤ x ∧ x < 0) ∨ (2 ^ 128 - 2 ^ 64 ≤ x ∧ x < 2 ^ 128) := by
  simp only [fitsU64, Bool.or_eq_true, Bool.and_eq_true, decide_eq_true_eq] at hf
  cases ns
  · simp only [Bool.false_eq_true, if_false] at hf hr
    rcases hnb with h64 | rfl
    · have : (2 : Int) ^ nb ≤ 2 ^ 64 := by
        exact_mod_cast Nat.pow_le_pow_right (by decide : 2 > 0) h64
      exact .inl ⟨hr.1, Int.lt_of_lt_of_le hr.2 this⟩
    · rcases hf with h | h
      · exact .inl h
      · exact .inr (.inr ⟨by omega, hr.2⟩)
  · simp only [if_true] at hf
    rcases hf with h | h
    · exact .inl h
    · exact .inr (.inl ⟨by omega, by omega⟩)

end CCV.Bytes
