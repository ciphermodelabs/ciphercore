import CCV.Lemmas.InlineBatchLayout
import CCV.Lemmas.InlineBatch
import CCV.Lemmas.Slices
/-
  Elementwise specifications of `maskToValue` and `oneHotEncode` (model of `mask_to_value` and
  `one_hot_encode` of exponential_inliner.rs on flat arrays).
-/
namespace CCV.InlineBatch
open CCV CCV.Shape CCV.Ops CCV.Slices CCV.Inline

theorem flat_snoc {β B : List Nat} (hl : β.length = B.length) (k K : Nat) :
    flat (β ++ [k]) (B ++ [K]) = flat β B * K + k := by
  rw [flat_append hl]
  show flat β B * (K * 1) + (k * 1 + 0) = _
  rw [Nat.mul_one, Nat.mul_one, Nat.add_zero]

theorem validIdx_snoc {β B : List Nat} (h : validIdx β B) {k K : Nat} (hk : k < K) :
    validIdx (β ++ [k]) (B ++ [K]) :=
  validIdx_append h (show validIdx [k] [K] from ⟨hk, trivial⟩)

theorem maskToValue_spec (B : List Nat) (K m : Nat) :
    (maskToValue (B ++ [K]) K m).length = prod (B ++ [K]) ∧
    (∀ p, (maskToValue (B ++ [K]) K m).getD p 0 < 2) ∧
    ∀ β k, validIdx β B → k < K →
      (maskToValue (B ++ [K]) K m).getD (flat (β ++ [k]) (B ++ [K])) 0 = (m.testBit k).toNat := by
  refine ⟨?_, maskToValue_bits _ _ _, ?_⟩
  · unfold maskToValue
    rw [List.length_map, List.length_range]
  · intro β k hβ hk
    have hv := validIdx_snoc hβ hk
    unfold maskToValue
    rw [getD_map_range _ _ _ (flat_lt hv)]
    simp only [numberToIndex_flat hv]
    have hsi : (if K = 1 then 0 else (β ++ [k]).getD ((β ++ [k]).length - 1) 0) = k := by
      by_cases h1 : K = 1
      · rw [if_pos h1]
        omega
      · rw [if_neg h1, List.length_append, List.length_singleton, Nat.add_sub_cancel,
          List.getD_eq_getElem?_getD, List.getElem?_append_right (Nat.le_refl _), Nat.sub_self]
        rfl
    rw [hsi, Nat.toNat_testBit, Nat.shiftRight_eq_div_pow]

theorem maskToValue_getD (B : List Nat) (K m : Nat) (hB : pos B) {q k : Nat}
    (hq : q < prod B) (hk : k < K) :
    (maskToValue (B ++ [K]) K m).getD (q * K + k) 0 = (m.testBit k).toNat := by
  have hv := numberToIndex_valid hB hq
  have := (maskToValue_spec B K m).2.2 _ k hv hk
  rwa [flat_snoc (validIdx_length hv), flat_numberToIndex hB hq] at this

theorem bit_cases : ∀ {a : Nat}, a < 2 → a = 0 ∨ a = 1
  | 0, _ => .inl rfl
  | 1, _ => .inr rfl
  | _ + 2, h => absurd h (Nat.not_lt_of_le (Nat.le_add_left 2 _))

theorem xor_beq_one {x y : Nat} (hx : x < 2) (hy : y < 2) : (xor (x == 1) (y == 1)).toNat = (x + y) % 2 := by
  rcases bit_cases hx with rfl | rfl <;> rcases bit_cases hy with rfl | rfl <;> rfl

theorem and_beq_one {x y : Nat} (hx : x < 2) (hy : y < 2) : ((x == 1) && (y == 1)).toNat = x * y := by
  rcases bit_cases hx with rfl | rfl <;> rcases bit_cases hy with rfl | rfl <;> rfl

theorem bit_mul_eq_one {a b : Nat} (ha : a < 2) : a * b = 1 ↔ a = 1 ∧ b = 1 := by
  rcases bit_cases ha with rfl | rfl
  · rw [Nat.zero_mul]
    exact ⟨fun h => absurd h (by decide), fun h => absurd h.1 (by decide)⟩
  · rw [Nat.one_mul]
    exact ⟨fun h => ⟨rfl, h⟩, fun h => h.2⟩

theorem bit_add_not_eq_one {v : Nat} (hv : v < 2) (b : Bool) :
    (v + (!b).toNat) % 2 = 1 ↔ (v == 1) = b := by
  rcases bit_cases hv with rfl | rfl <;> cases b <;> decide

theorem eq_toNat_of_iff {x : Nat} (hx : x < 2) {b : Bool} (h : x = 1 ↔ b = true) : x = b.toNat := by
  cases b
  · rcases bit_cases hx with h0 | h1
    · exact h0
    · exact absurd (h.mp h1) Bool.false_ne_true
  · exact h.mpr rfl

theorem bitAdd_spec (s a b : List Nat) (hs : pos s) (ha : ∀ p, a.getD p 0 < 2)
    (hb : ∀ p, b.getD p 0 < 2) :
    (bitAdd s a b).length = prod s ∧ (∀ p, (bitAdd s a b).getD p 0 < 2) ∧
    ∀ p, p < prod s → (bitAdd s a b).getD p 0 = (a.getD p 0 + b.getD p 0) % 2 :=
  ⟨okD_arith_length .add s a b, okD_arith_bits .add s a b hs, fun p hp => by
    rw [bitAdd_entry s a b hs p hp, Nat.mod_eq_of_lt (ha p), Nat.mod_eq_of_lt (hb p), xor_beq_one (ha p) (hb p)]⟩

theorem bitMul_spec (s a b : List Nat) (hs : pos s) (ha : ∀ p, a.getD p 0 < 2)
    (hb : ∀ p, b.getD p 0 < 2) :
    (bitMul s a b).length = prod s ∧ (∀ p, (bitMul s a b).getD p 0 < 2) ∧
    ∀ p, p < prod s → (bitMul s a b).getD p 0 = a.getD p 0 * b.getD p 0 :=
  ⟨okD_arith_length .mul s a b, okD_arith_bits .mul s a b hs, fun p hp => by
    rw [bitMul_entry s a b hs p hp, Nat.mod_eq_of_lt (ha p), Nat.mod_eq_of_lt (hb p), and_beq_one (ha p) (hb p)]⟩

theorem sliceIndexLoop_col (K k : Nat) :
    ∀ (B β : List Nat) (j : Nat), β.length = B.length →
      sliceIndexLoop (B ++ [K])
        (List.replicate B.length (SE.sub none none none) ++ [SE.single (Int.ofNat k)]) β j
        = .ok (β ++ [k], j + B.length) := by
  intro B
  induction B with
  | nil =>
    intro β j hl
    cases β with
    | cons x xs => exact absurd hl (Nat.succ_ne_zero _)
    | nil => rfl
  | cons d ds ih =>
    intro β j hl
    cases β with
    | nil => exact absurd hl.symm (Nat.succ_ne_zero _)
    | cons x xs =>
      simp only [List.cons_append, List.length_cons, List.replicate_succ, sliceIndexLoop,
        slice1dIndex_full, ih xs (j + 1) (Nat.succ.inj hl)]
      rw [Nat.add_assoc, Nat.add_comm 1]

theorem prod_dimsOf (B : List Nat) : prod (dimsOf B) = prod B := by
  unfold dimsOf
  by_cases h : B = []
  · rw [if_pos h, h]; rfl
  · rw [if_neg h]

theorem pos_dimsOf {B : List Nat} (hB : pos B) : pos (dimsOf B) := by
  unfold dimsOf
  by_cases h : B = []
  · rw [if_pos h]; intro d hd; simp at hd; omega
  · rw [if_neg h]; exact hB

theorem sliceIndex_col (B : List Nat) (K k i : Nat) (hB : pos B) (hi : i < prod B) :
    sliceIndex (B ++ [K]) [.ellipsis, .single (Int.ofNat k)] (numberToIndex i (dimsOf B))
      = .ok (numberToIndex i B ++ [k]) := by
  by_cases hn : B = []
  · -- a scalar result has dimensions `[1]` and the one index `[0]`
    subst hn
    obtain rfl : i = 0 := Nat.lt_one_iff.mp hi
    rfl
  · have hclean : getCleanSlice (B ++ [K]).length [.ellipsis, .single (Int.ofNat k)]
        = .ok (List.replicate B.length (SE.sub none none none) ++ [SE.single (Int.ofNat k)]) := by
      rw [List.length_append, List.length_singleton]
      exact getCleanSlice_ellipsis (B.length + 1) [] [.single (Int.ofNat k)] (fun _ h => nomatch h)
        (fun x hx => by rw [List.mem_singleton.mp hx]; exact fun h => SE.noConfusion h)
        (Nat.le_add_left 1 _)
    have hd : dimsOf B = B := by unfold dimsOf; rw [if_neg hn]
    have hl := validIdx_length (numberToIndex_valid hB hi)
    have hlen : B.length ≠ 0 := fun h => hn (List.length_eq_zero_iff.mp h)
    unfold sliceIndex
    rw [hclean, hd]
    dsimp only
    rw [sliceIndexLoop_col K k B (numberToIndex i B) 0 hl]
    simp only [Nat.zero_add]
    rw [if_neg (fun h => hlen h.1), if_neg (by rw [hl]; exact fun h => h rfl)]

theorem getSlice_column (B : List Nat) (K k : Nat) (xs : List Nat) (hB : pos B) (hk : k < K) :
    getSlice (B ++ [K]) xs [.ellipsis, .single (Int.ofNat k)] (dimsOf B)
      = .ok ((List.range (prod B)).map fun q => xs.getD (q * K + k) 0) := by
  unfold getSlice
  rw [prod_dimsOf]
  apply mapM_eq_ok_map
  intro i hi
  have hi' : i < prod B := List.mem_range.mp hi
  rw [sliceIndex_col B K k i hB hi']
  have hv := numberToIndex_valid hB hi'
  simp only
  rw [indexToNumber_eq_flat (validIdx_snoc hv hk), flat_snoc (validIdx_length hv),
    flat_numberToIndex hB hi']

theorem elem_natOfBits_lt : ∀ (K : Nat) (f : Nat → Bool), natOfBits K f < 2 ^ K :=
  natOfBits_lt

theorem natOfBits_eq_iff (K : Nat) (f : Nat → Bool) (j : Nat) (hj : j < 2 ^ K) :
    natOfBits K f = j ↔ ∀ k, k < K → f k = j.testBit k :=
  ⟨fun h k hk => by rw [← h, testBit_natOfBits K f k hk],
   fun h => by rw [natOfBits_congr K f (fun b => j.testBit b) h, natOfBits_testBit K j hj]⟩

theorem testBit_compl (K j k : Nat) (hk : k < K) :
    ((2 ^ K - 1) ^^^ j).testBit k = !j.testBit k := by
  rw [Nat.testBit_xor, Nat.testBit_two_pow_sub_one]
  simp [hk]

theorem foldl_bitMul (d : List Nat) (hd : pos d) :
    ∀ (cs : List (List Nat)) (acc : List Nat), acc.length = prod d → (∀ p, acc.getD p 0 < 2) →
      (∀ c ∈ cs, ∀ p, c.getD p 0 < 2) →
      (cs.foldl (fun eq c => bitMul d eq c) acc).length = prod d ∧
      (∀ p, (cs.foldl (fun eq c => bitMul d eq c) acc).getD p 0 < 2) ∧
      ∀ q, q < prod d → ((cs.foldl (fun eq c => bitMul d eq c) acc).getD q 0 = 1 ↔
        acc.getD q 0 = 1 ∧ ∀ c ∈ cs, c.getD q 0 = 1) := by
  intro cs
  induction cs with
  | nil => intro acc hl hb _; exact ⟨hl, hb, fun q _ => by simp⟩
  | cons c cs ih =>
    intro acc hl hb hc
    obtain ⟨m1, m2, m3⟩ := bitMul_spec d acc c hd hb (hc c List.mem_cons_self)
    obtain ⟨r1, r2, r3⟩ := ih (bitMul d acc c) m1 m2 (fun x hx => hc x (List.mem_cons_of_mem _ hx))
    simp only [List.foldl_cons]
    refine ⟨r1, r2, ?_⟩
    intro q hq
    rw [r3 q hq, m3 q hq]
    rw [bit_mul_eq_one (hb q)]
    simp only [List.mem_cons, forall_eq_or_imp]
    exact and_assoc

/-- `one_hot_encode` folds `multiply` over the columns, starting with the first -/
theorem foldl_bitMul_cols (d : List Nat) (hd : pos d) (cols : List (List Nat)) (hne : cols ≠ [])
    (hc : ∀ c ∈ cols, c.length = prod d ∧ ∀ p, c.getD p 0 < 2) :
    ((cols.drop 1).foldl (fun eq c => bitMul d eq c) (cols.headD [])).length = prod d ∧
    (∀ p, ((cols.drop 1).foldl (fun eq c => bitMul d eq c) (cols.headD [])).getD p 0 < 2) ∧
    ∀ q, q < prod d → (((cols.drop 1).foldl (fun eq c => bitMul d eq c) (cols.headD [])).getD q 0 = 1 ↔
      ∀ c ∈ cols, c.getD q 0 = 1) := by
  cases cols with
  | nil => exact absurd rfl hne
  | cons c0 cs =>
    obtain ⟨f1, f2, f3⟩ := foldl_bitMul d hd cs c0 (hc c0 List.mem_cons_self).1
      (hc c0 List.mem_cons_self).2 (fun c h => (hc c (List.mem_cons_of_mem _ h)).2)
    refine ⟨f1, f2, fun q hq => ?_⟩
    rw [List.forall_mem_cons]
    exact f3 q hq

/-- the product of the `K` columns `xs[..., k]` of an array `xs` of shape `B ++ [K]`, as
    `one_hot_encode` forms it -/
def colProd (B : List Nat) (K : Nat) (xs : List Nat) : List Nat :=
  let cols := (List.range K).map fun (k : Nat) =>
    okD (getSlice (B ++ [K]) xs [.ellipsis, .single (Int.ofNat k)] (dimsOf B))
  (cols.drop 1).foldl (fun eq c => bitMul (dimsOf B) eq c) (cols.headD [])

theorem colProd_spec (B : List Nat) (K : Nat) (xs : List Nat) (hB : pos B) (hK : 1 ≤ K)
    (hxs : ∀ p, xs.getD p 0 < 2) :
    (colProd B K xs).length = prod B ∧ (∀ p, (colProd B K xs).getD p 0 < 2) ∧
    ∀ q, q < prod B → ((colProd B K xs).getD q 0 = 1 ↔ ∀ k, k < K → xs.getD (q * K + k) 0 = 1) := by
  have hcols : ((List.range K).map fun (k : Nat) =>
      okD (getSlice (B ++ [K]) xs [.ellipsis, .single (Int.ofNat k)] (dimsOf B)))
      = (List.range K).map fun k => (List.range (prod B)).map fun q => xs.getD (q * K + k) 0 := by
    apply List.map_congr_left
    intro k hk
    rw [getSlice_column B K k xs hB (List.mem_range.mp hk)]
    rfl
  have h := foldl_bitMul_cols (dimsOf B) (pos_dimsOf hB)
    ((List.range K).map fun k => (List.range (prod B)).map fun q => xs.getD (q * K + k) 0)
    (by
      intro h0
      have := congrArg List.length h0
      rw [List.length_map, List.length_range] at this
      exact absurd this (Nat.ne_of_gt hK))
    (by
      rw [List.forall_mem_map]
      intro k _
      refine ⟨by rw [List.length_map, List.length_range, prod_dimsOf], ?_⟩
      rw [bits_iff_mem, List.forall_mem_map]
      intro q _
      exact hxs _)
  rw [prod_dimsOf] at h
  unfold colProd
  simp only [hcols]
  refine ⟨h.1, h.2.1, fun q hq => ?_⟩
  rw [h.2.2 q hq, List.forall_mem_map]
  constructor
  · intro h k hk
    have := h k (List.mem_range.mpr hk)
    rwa [getD_map_range _ _ _ hq] at this
  · intro h k hk
    rw [getD_map_range _ _ _ hq]
    exact h k (List.mem_range.mp hk)

def oneHotRow (B : List Nat) (K : Nat) (val : List Nat) (mask : Nat) : List Nat :=
  colProd B K (bitAdd (B ++ [K]) val (maskToValue (B ++ [K]) K ((2 ^ K - 1) ^^^ mask)))

theorem oneHotEncode_eq_rows (B : List Nat) (K : Nat) (val : List Nat) :
    oneHotEncode B K val = vectorToArray ((List.range (2 ^ K)).map (oneHotRow B K val)) := rfl

theorem oneHotRow_spec (B : List Nat) (K : Nat) (val : List Nat) (j : Nat) (hB : pos B) (hK : 1 ≤ K)
    (hwf : WF (B ++ [K]) val) (hj : j < 2 ^ K) :
    (oneHotRow B K val j).length = prod B ∧
    (∀ p, (oneHotRow B K val j).getD p 0 < 2) ∧
    ∀ q, q < prod B → (oneHotRow B K val j).getD q 0 =
      (natOfBits K (fun k => val.getD (q * K + k) 0 == 1) == j).toNat := by
  obtain ⟨_, a2, a3⟩ := bitAdd_spec (B ++ [K]) val (maskToValue (B ++ [K]) K ((2 ^ K - 1) ^^^ j))
    (pos_snoc hB hK) hwf.2 (maskToValue_bits _ _ _)
  obtain ⟨c1, c2, c3⟩ := colProd_spec B K _ hB hK a2
  -- entry `q` is a bit, and it is 1 iff every bit of row `q` of `val` is the bit of `j`
  refine ⟨c1, c2, fun q hq => eq_toNat_of_iff (c2 q) ?_⟩
  rw [c3 q hq, beq_iff_eq, natOfBits_eq_iff K _ j hj]
  apply forall_congr'
  intro k
  apply imp_congr_right
  intro hk
  have hp : q * K + k < prod (B ++ [K]) := by
    rw [prod_append]
    show _ < prod B * (K * 1)
    rw [Nat.mul_one]
    exact block_lt hq hk
  rw [a3 _ hp, maskToValue_getD B K _ hB hq hk, testBit_compl K j k hk]
  exact bit_add_not_eq_one (hwf.2 _) _

theorem oneHotEncode_spec (B : List Nat) (K : Nat) (val : List Nat) (hB : pos B) (hK : 1 ≤ K)
    (hwf : WF (B ++ [K]) val) :
    (oneHotEncode B K val).length = 2 ^ K * prod B ∧
    (∀ p, (oneHotEncode B K val).getD p 0 < 2) ∧
    ∀ j β, j < 2 ^ K → validIdx β B →
      (oneHotEncode B K val).getD (flat (j :: β) (2 ^ K :: B)) 0 = (rowNat B K val β == j).toNat := by
  rw [oneHotEncode_eq_rows]
  have hrow : ∀ j, j < 2 ^ K → _ := fun j hj => oneHotRow_spec B K val j hB hK hwf hj
  have hrows : ∀ a ∈ (List.range (2 ^ K)).map (oneHotRow B K val), a.length = prod B := by
    rw [List.forall_mem_map]
    intro j hj
    exact (hrow j (List.mem_range.mp hj)).1
  refine ⟨?_, ?_, ?_⟩
  · rw [vectorToArray_length _ _ hrows, List.length_map, List.length_range]
  · apply vectorToArray_bits
    rw [List.forall_mem_map]
    intro j hj
    exact (hrow j (List.mem_range.mp hj)).2.1
  · intro j β hj hβ
    show (vectorToArray _).getD (j * prod B + flat β B) 0 = _
    rw [vectorToArray_getD _ _ hrows j _ (by rw [List.length_map, List.length_range]; exact hj)
        (flat_lt hβ),
      getD_map_range _ _ _ hj, (hrow j hj).2.2 _ (flat_lt hβ)]
    unfold rowNat
    simp only [flat_snoc (validIdx_length hβ)]

example : oneHotEncode [2] 2 [1, 0, 0, 1] = [0, 0, 1, 0, 0, 1, 0, 0] := by decide +kernel
example : oneHotEncode [] 2 [1, 1] = [0, 0, 0, 1] := by decide +kernel

end CCV.InlineBatch
