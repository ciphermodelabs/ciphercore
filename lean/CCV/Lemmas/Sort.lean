import CCV.Model.Sort
/-
  The orders of C18 (sorting): `lexLt` on keys and the orders of the row indices built from it,
  all of them lexicographic refinements of a strict total order (`IsSTO.lex`); the stable insertion
  sort orders its input by any relation its comparator implies (`isort_pairwise`).
-/
namespace CCV.Sort

theorem lexLt_cons_cons (a b : Nat) (as bs : List Nat) :
    lexLt (a :: as) (b :: bs) = if a < b then true else if b < a then false else lexLt as bs := rfl

theorem lexLt_cons (a b : Nat) (as bs : List Nat) :
    lexLt (a :: as) (b :: bs) = true ↔ a < b ∨ (a = b ∧ lexLt as bs = true) := by
  rw [lexLt_cons_cons]
  rcases Nat.lt_trichotomy a b with h | rfl | h
  · simp [h]
  · simp
  · have h1 : ¬ a < b := by omega
    have h2 : a ≠ b := by omega
    simp [h, h1, h2]

theorem lexLt_irrefl (a : List Nat) : lexLt a a = false := by
  induction a with
  | nil => rfl
  | cons x xs ih => rw [lexLt_cons_cons, if_neg (Nat.lt_irrefl x), if_neg (Nat.lt_irrefl x), ih]

theorem lexLt_trans (a b c : List Nat) (h1 : lexLt a b = true) (h2 : lexLt b c = true) :
    lexLt a c = true := by
  induction a generalizing b c with
  | nil =>
    cases b with
    | nil => cases h1
    | cons y ys =>
      cases c with
      | nil => cases h2
      | cons z zs => rfl
  | cons x xs ih =>
    cases b with
    | nil => cases h1
    | cons y ys =>
      cases c with
      | nil => cases h2
      | cons z zs =>
        rw [lexLt_cons] at h1 h2 ⊢
        rcases h1 with h1 | ⟨rfl, h1⟩
        · rcases h2 with h2 | ⟨rfl, h2⟩
          · exact Or.inl (Nat.lt_trans h1 h2)
          · exact Or.inl h1
        · rcases h2 with h2 | ⟨rfl, h2⟩
          · exact Or.inl h2
          · exact Or.inr ⟨rfl, ih _ _ h1 h2⟩

theorem lexLt_tri (a b : List Nat) : lexLt a b = true ∨ a = b ∨ lexLt b a = true := by
  induction a generalizing b with
  | nil =>
    cases b with
    | nil => exact Or.inr (Or.inl rfl)
    | cons y ys => exact Or.inl rfl
  | cons x xs ih =>
    cases b with
    | nil => exact Or.inr (Or.inr rfl)
    | cons y ys =>
      rw [lexLt_cons, lexLt_cons]
      rcases Nat.lt_trichotomy x y with h | rfl | h
      · exact Or.inl (Or.inl h)
      · rcases ih ys with h | rfl | h
        · exact Or.inl (Or.inr ⟨rfl, h⟩)
        · exact Or.inr (Or.inl rfl)
        · exact Or.inr (Or.inr (Or.inr ⟨rfl, h⟩))
      · exact Or.inr (Or.inr (Or.inl h))

structure IsSTO (lt : Nat → Nat → Bool) : Prop where
  irrefl : ∀ a, lt a a = false
  trans : ∀ a b c, lt a b = true → lt b c = true → lt a c = true
  tri : ∀ a b, lt a b = true ∨ a = b ∨ lt b a = true

theorem IsSTO.asymm {lt : Nat → Nat → Bool} (hs : IsSTO lt) {a b : Nat} (h : lt a b = true) :
    lt b a = false := by
  cases h' : lt b a with
  | false => rfl
  | true => rw [← hs.irrefl a, ← hs.trans a b a h h']

/-- Every order below compares a key `f k` of the rows by `r` and breaks ties by an order `lt` of the
    rows; `irr`, `tr`, `tri` say that `r` is a strict total order on the keys (the fields of `IsSTO`,
    which is fixed to row indices). -/
theorem IsSTO.lex {α : Type} [BEq α] [LawfulBEq α] {r : α → α → Bool} (irr : ∀ a, r a a = false)
    (tr : ∀ a b c, r a b = true → r b c = true → r a c = true)
    (tri : ∀ a b, r a b = true ∨ a = b ∨ r b a = true) (f : Nat → α) {lt : Nat → Nat → Bool}
    (hs : IsSTO lt) : IsSTO fun k i => r (f k) (f i) || (f k == f i && lt k i) := by
  have iff : ∀ k i, (r (f k) (f i) || (f k == f i && lt k i)) = true ↔
      r (f k) (f i) = true ∨ (f k = f i ∧ lt k i = true) := by simp
  refine ⟨fun a => ?_, fun a b c h1 h2 => ?_, fun a b => ?_⟩
  · simp [irr, hs.irrefl]
  · rw [iff] at h1 h2 ⊢
    rcases h1 with h1 | ⟨e1, l1⟩ <;> rcases h2 with h2 | ⟨e2, l2⟩
    · exact Or.inl (tr _ _ _ h1 h2)
    · exact Or.inl (e2 ▸ h1)
    · exact Or.inl (e1 ▸ h2)
    · exact Or.inr ⟨e1.trans e2, hs.trans a b c l1 l2⟩
  · rw [iff, iff]
    rcases tri (f a) (f b) with h | e | h
    · exact Or.inl (Or.inl h)
    · rcases hs.tri a b with h | h | h
      · exact Or.inl (Or.inr ⟨e, h⟩)
      · exact Or.inr (Or.inl h)
      · exact Or.inr (Or.inr (Or.inr ⟨e.symm, h⟩))
    · exact Or.inr (Or.inr (Or.inl h))

def idxLt (k i : Nat) : Bool := decide (k < i)

def lexStep (h : Nat → Nat) (lt : Nat → Nat → Bool) (k i : Nat) : Bool :=
  decide (h k < h i) || (h k == h i && lt k i)

def keyLt (key : Nat → List Nat) (k i : Nat) : Bool :=
  lexLt (key k) (key i) || (key k == key i && decide (k < i))

theorem idxLt_sto : IsSTO idxLt := by
  refine ⟨?_, ?_, ?_⟩ <;> intros <;> simp only [idxLt, decide_eq_true_eq, decide_eq_false_iff_not] at * <;> omega

theorem lexStep_true {h : Nat → Nat} {lt : Nat → Nat → Bool} {k i : Nat} :
    lexStep h lt k i = true ↔ h k < h i ∨ (h k = h i ∧ lt k i = true) := by
  simp [lexStep]

theorem lexStep_sto {h : Nat → Nat} {lt : Nat → Nat → Bool} (hs : IsSTO lt) : IsSTO (lexStep h lt) :=
  IsSTO.lex idxLt_sto.irrefl idxLt_sto.trans idxLt_sto.tri h hs

-- `keyLt` breaks ties by `decide (k < i)`, which is `idxLt k i` unfolded
theorem keyLt_sto (key : Nat → List Nat) : IsSTO (keyLt key) :=
  IsSTO.lex lexLt_irrefl lexLt_trans lexLt_tri key idxLt_sto

def stableLt (keys : List (List Nat)) (i j : Nat) : Prop :=
  lexLt (keys.getD i []) (keys.getD j []) = true ∨ (keys.getD i [] = keys.getD j [] ∧ i < j)

-- `stableLt` is the `Prop` the statements about `sortPerm` use (`List.Pairwise`), `keyLt` the `Bool` the
-- ranks count with
theorem keyLt_iff_stableLt (keys : List (List Nat)) (k i : Nat) :
    keyLt (keys.getD · []) k i = true ↔ stableLt keys k i := by
  simp [keyLt, stableLt]

theorem stableLt_trans (keys : List (List Nat)) (a b c : Nat) (h1 : stableLt keys a b)
    (h2 : stableLt keys b c) : stableLt keys a c := by
  rw [← keyLt_iff_stableLt] at h1 h2 ⊢
  exact (keyLt_sto _).trans a b c h1 h2

theorem stableLt_asymm (keys : List (List Nat)) (a b : Nat) (h1 : stableLt keys a b) :
    ¬ stableLt keys b a := by
  rw [← keyLt_iff_stableLt] at h1 ⊢
  rw [(keyLt_sto _).asymm h1]
  exact Bool.false_ne_true

theorem stableLt_tri (keys : List (List Nat)) (a b : Nat) :
    stableLt keys a b ∨ a = b ∨ stableLt keys b a := by
  rw [← keyLt_iff_stableLt, ← keyLt_iff_stableLt]
  exact (keyLt_sto _).tri a b

def IsStableSortPerm (keys : List (List Nat)) (p : List Nat) : Prop :=
  p.Perm (List.range keys.length) ∧ p.Pairwise (stableLt keys)

theorem insertBy_cons {α : Type} (lt : α → α → Bool) (x y : α) (ys : List α) :
    insertBy lt x (y :: ys) = if lt y x then y :: insertBy lt x ys else x :: y :: ys := rfl

theorem insertBy_perm {α : Type} (lt : α → α → Bool) (x : α) (l : List α) :
    (insertBy lt x l).Perm (x :: l) := by
  induction l with
  | nil => exact List.Perm.refl _
  | cons y ys ih =>
    rw [insertBy_cons]
    split
    · exact ((List.Perm.cons y ih).trans (List.Perm.swap x y ys))
    · exact List.Perm.refl _

theorem isort_perm {α : Type} (lt : α → α → Bool) (l : List α) : (isort lt l).Perm l := by
  induction l with
  | nil => exact List.Perm.refl _
  | cons x xs ih => exact (insertBy_perm lt x _).trans (List.Perm.cons x ih)

theorem pairwise_insertBy {α : Type} (lt : α → α → Bool) (R : α → α → Prop)
    (trans : ∀ a b c, R a b → R b c → R a c) (x : α) (l : List α) (hl : l.Pairwise R)
    (h1 : ∀ y ∈ l, lt y x = true → R y x) (h2 : ∀ y ∈ l, lt y x = false → R x y) :
    (insertBy lt x l).Pairwise R := by
  induction l with
  | nil => exact List.pairwise_singleton R x
  | cons y ys ih =>
    rw [insertBy_cons]
    have hy := List.pairwise_cons.mp hl
    cases hlt : lt y x with
    | true =>
      simp only [if_true]
      refine List.pairwise_cons.mpr ⟨?_, ih hy.2 (fun z hz => h1 z (List.mem_cons_of_mem _ hz))
        (fun z hz => h2 z (List.mem_cons_of_mem _ hz))⟩
      intro z hz
      rcases (List.mem_cons.mp ((insertBy_perm lt x ys).mem_iff.mp hz)) with rfl | hz
      · exact h1 y List.mem_cons_self hlt
      · exact hy.1 z hz
    | false =>
      simp only [Bool.false_eq_true, if_false]
      have hxy : R x y := h2 y List.mem_cons_self hlt
      refine List.pairwise_cons.mpr ⟨?_, hl⟩
      intro z hz
      rcases List.mem_cons.mp hz with rfl | hz
      · exact hxy
      · exact trans _ _ _ hxy (hy.1 z hz)

theorem isort_pairwise {α : Type} (lt : α → α → Bool) {R : α → α → Prop}
    (trans : ∀ a b c, R a b → R b c → R a c) (l : List α)
    (h1 : ∀ x ∈ l, ∀ y ∈ l, lt y x = true → R y x)
    (h2 : l.Pairwise fun x y => lt y x = false → R x y) : (isort lt l).Pairwise R := by
  induction l with
  | nil => exact List.Pairwise.nil
  | cons x xs ih =>
    have hx := List.pairwise_cons.mp h2
    have hm : ∀ y ∈ isort lt xs, y ∈ x :: xs := fun y hy =>
      List.mem_cons_of_mem _ ((isort_perm lt xs).mem_iff.mp hy)
    apply pairwise_insertBy lt R trans x
    · exact ih (fun a ha b hb => h1 a (List.mem_cons_of_mem _ ha) b (List.mem_cons_of_mem _ hb)) hx.2
    · exact fun y hy => h1 x List.mem_cons_self y (hm y hy)
    · exact fun y hy => hx.1 y ((isort_perm lt xs).mem_iff.mp hy)

theorem mem_zip_range (keys : List (List Nat)) (x : List Nat × Nat)
    (h : x ∈ keys.zip (List.range keys.length)) : keys.getD x.2 [] = x.1 := by
  obtain ⟨j, hj, e⟩ := List.mem_iff_getElem.mp h
  simp only [List.length_zip, List.length_range, Nat.min_self] at hj
  subst e
  simp [List.getD, hj]

end CCV.Sort
