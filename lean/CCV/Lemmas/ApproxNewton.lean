import CCV.Lemmas.ApproxFixed
/-
  C20: the error recurrence of the Newton–Raphson reciprocal (ops/newton_inversion.rs).  Statements
  are over ℤ with denominators cleared: with `P = 2^c`, `E = P - x·d` is `P` times the relative
  error `e = 1 - x·d/2^c`.
-/
namespace CCV.Approx

theorem newtonConst_eq (sg : Bool) {c : Nat} (hc : c ≤ 29) : newtonConst sg 64 c = 2 ^ (c + 1) := by
  unfold newtonConst i32Shl1
  have h1 : (c + 1) % 32 = c + 1 := Nat.mod_eq_of_lt (by omega)
  rw [h1, if_neg (by omega)]
  exact wrap64_nonneg sg (le_of_lt (two_pow_pos' _))
    (lt_of_le_of_lt (two_pow_le_two_pow (show c + 1 ≤ 30 by omega)) (by decide))

/-- invariant carried through the iteration at level `k`: `B = 2^(2^k)`,
    `B·E ≤ P + 4·d·B`, i.e. `e ≤ 2^(-2^k) + 4·d/2^c`. -/
def NewtonInv (c : Nat) (d : Int) (k : Nat) (x : Int) : Prop :=
  0 ≤ x ∧ x * d ≤ 2 ^ c ∧ 2 ^ (2 ^ k) * (2 ^ c - x * d) ≤ 2 ^ c + 4 * d * 2 ^ (2 ^ k)

section
variable (sg : Bool) {c : Nat} {d : Int} (hc : c ≤ 29) (hd : 0 < d)
include hc hd

/-- nothing wraps: `x ≤ x·d ≤ 2^c ≤ 2^29`, so both products stay below `2^59`. -/
theorem newtonStep_eq {x : Int} (hx : 0 ≤ x) (hxd : x * d ≤ 2 ^ c) :
    newtonStep sg 64 c d x = ((2 ^ (c + 1) - x * d) * x) / 2 ^ c := by
  have hP29 : (2:Int) ^ c ≤ 2 ^ 29 := two_pow_le_two_pow hc
  have hsucc := two_pow_succ c
  have hxd0 : 0 ≤ x * d := mul_nonneg hx (le_of_lt hd)
  have hxP : x ≤ x * d := le_mul_of_one_le_right hx hd
  have hm1 : (2 ^ (c + 1) - x * d) * x ≤ (2 * 2 ^ 29) * 2 ^ 29 :=
    mul_le_mul (by omega) (by omega) hx (by decide)
  unfold newtonStep
  rw [newtonConst_eq sg hc, mul64 sg hxd0 (by omega), sub64 sg (by omega) (by omega),
    mulFixed64 sg c (mul_nonneg (by omega) hx) (lt_of_le_of_lt hm1 (by decide))]

/-- one-step error recurrence: `P·E' = E² + r·d` with the remainder `r` of the final floor, since
    `x'·P + r = (2P − x·d)·x`. -/
theorem newton_error_recurrence {x : Int} (hx : 0 ≤ x) (hxd : x * d ≤ 2 ^ c) :
    ∃ r : Int, 0 ≤ r ∧ r < 2 ^ c ∧
      2 ^ c * (2 ^ c - newtonStep sg 64 c d x * d) = (2 ^ c - x * d) ^ 2 + r * d := by
  rw [newtonStep_eq sg hc hd hx hxd, two_pow_succ]
  obtain ⟨r, h0, h1, e⟩ := ediv_rem ((2 * 2 ^ c - x * d) * x) (two_pow_pos' c)
  refine ⟨r, h0, h1, ?_⟩
  generalize (2 * 2 ^ c - x * d) * x / 2 ^ c = q at e ⊢
  generalize (2:Int) ^ c = P at e ⊢
  have e' : (q * P + r) * d = (2 * P - x * d) * x * d := by rw [e]
  linarith only [e']

/-- the step keeps the invariant `0 ≤ x'`, `x'·d ≤ 2^c` (the iterate approaches `2^c/d` from below)
    and `e' ≤ e² + d/2^c` (cleared: `P·E' ≤ E² + P·d`). -/
theorem newton_step_invariant {x : Int} (hx : 0 ≤ x) (hxd : x * d ≤ 2 ^ c) :
    0 ≤ newtonStep sg 64 c d x ∧ newtonStep sg 64 c d x * d ≤ 2 ^ c ∧
      2 ^ c * (2 ^ c - newtonStep sg 64 c d x * d) ≤ (2 ^ c - x * d) ^ 2 + 2 ^ c * d := by
  have hP : (0:Int) < 2 ^ c := two_pow_pos' c
  obtain ⟨r, hr0, hr1, hrec⟩ := newton_error_recurrence sg hc hd hx hxd
  have hrd0 : 0 ≤ r * d := mul_nonneg hr0 (le_of_lt hd)
  have hrd1 : r * d ≤ 2 ^ c * d := mul_le_mul_of_nonneg_right (le_of_lt hr1) (le_of_lt hd)
  refine ⟨?_, ?_, by linarith only [hrec, hrd1]⟩
  · rw [newtonStep_eq sg hc hd hx hxd]
    exact Int.ediv_nonneg (mul_nonneg (by rw [two_pow_succ]; omega) hx) (le_of_lt hP)
  · have : 0 ≤ 2 ^ c * (2 ^ c - newtonStep sg 64 c d x * d) := by
      rw [hrec]; exact add_nonneg (sq_nonneg _) hrd0
    exact sub_nonneg.mp (nonneg_of_mul_nonneg_right this hP)

theorem newtonInv_step {k : Nat} {x : Int} (hd16 : 16 * d ≤ 2 ^ c) (hk : 1 ≤ k)
    (h : NewtonInv c d k x) :
    NewtonInv c d (k + 1) (newtonStep sg 64 c d x) := by
  obtain ⟨hx, hxd, hB⟩ := h
  obtain ⟨h0, h1, h2⟩ := newton_step_invariant sg hc hd hx hxd
  refine ⟨h0, h1, ?_⟩
  rw [two_pow_two_pow_succ]
  exact quad_inv_step (two_pow_pos' c) (le_of_lt hd) hd16 (four_le_two_pow_two_pow hk)
    (by omega) hB h2

theorem newtonInv_first {x : Int} (hc1 : 1 ≤ c) (hx : 0 ≤ x) (hlo : 2 ^ (c - 1) ≤ x * d)
    (hxd : x * d ≤ 2 ^ c) :
    NewtonInv c d 1 (newtonStep sg 64 c d x) := by
  obtain ⟨h0, h1, h2⟩ := newton_step_invariant sg hc hd hx hxd
  have hPH := two_pow_pred c hc1
  have := quad_first_step (two_pow_pos' c) (by omega) (by omega) h2
  exact ⟨h0, h1, by omega⟩

theorem newtonInv_iter (hd16 : 16 * d ≤ 2 ^ c) :
    ∀ (n k : Nat) (x : Int), 1 ≤ k → NewtonInv c d k x →
      NewtonInv c d (k + n) (newtonIter sg 64 c d n x)
  | 0, _, _, _, h => h
  | n + 1, k, x, hk, h => by
    rw [← Nat.add_assoc, Nat.add_right_comm]
    exact newtonInv_iter hd16 n (k + 1) _ (by omega) (newtonInv_step sg hc hd hd16 hk h)

end

end CCV.Approx
