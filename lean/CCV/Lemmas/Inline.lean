import CCV.Model.Inline
/-
  C07: the specification functions (`scanl1`, `sumO`, `Assoc`) and the lemmas behind Proofs/C07.lean.
  The prefix algorithms equal `scanl1` / `sumO` for every associative operation.  The mapping-based
  Iterate strategies (one-bit and small state, batched or not) are instances of one scheme, `iterVia`,
  which is the reference loop as soon as extraction turns the prefix products of the step mappings into
  the states the loop passes through (`iterVia_ref`; for states made of independent rows `iterVia_hom_rows` in Lemmas/InlineMap.lean).
-/
namespace CCV.Inline

def scanAux (f : α → α → α) : α → List α → List α
  | _, [] => []
  | acc, x :: xs => f acc x :: scanAux f (f acc x) xs

def scanl1 (f : α → α → α) : List α → List α
  | [] => []
  | x :: xs => x :: scanAux f x xs

def sumO (f : α → α → α) : List α → Option α
  | [] => none
  | x :: xs => some (xs.foldl f x)

def Assoc (f : α → α → α) : Prop := ∀ a b c, f (f a b) c = f a (f b c)

variable {α : Type} {f : α → α → α}

theorem pairUp_foldl (h : Assoc f) : ∀ (l : List α) (acc : α), (pairUp f l).1.foldl f acc = l.foldl f acc
  | [], _ => rfl
  | [_], _ => rfl
  | a :: b :: rest, acc => by
    simp only [pairUp, List.foldl_cons]
    rw [pairUp_foldl h rest, h]

theorem pairUp_length : ∀ (l : List α), (pairUp f l).1.length = (l.length + 1) / 2
  | [] => by simp [pairUp]
  | [_] => by simp [pairUp]
  | a :: b :: rest => by
    simp only [pairUp, List.length_cons, pairUp_length rest]; omega

theorem sumO_pairUp (h : Assoc f) : ∀ (l : List α), sumO f (pairUp f l).1 = sumO f l
  | [] => rfl
  | [_] => rfl
  | a :: b :: rest => by
    simp only [pairUp, sumO, List.foldl_cons, pairUp_foldl h]

theorem sumO_short : ∀ (c : List α), c.length ≤ 1 → c.head? = sumO f c
  | [], _ => rfl
  | [_], _ => rfl
  | _ :: _ :: _, h => by simp at h

/-- each round at least halves a list of length ≥ 2, so the length as fuel is enough -/
theorem ldLoop_spec (h : Assoc f) : ∀ (fuel : Nat) (c : List α), c.length ≤ fuel + 1 →
    (ldLoop f fuel c).1.head? = sumO f c
  | 0, c, hl => by simpa [ldLoop] using sumO_short c (by omega)
  | fuel + 1, c, hl => by
    unfold ldLoop
    split
    · rename_i h1
      simp only
      rw [ldLoop_spec h fuel _ (by rw [pairUp_length]; omega), sumO_pairUp h]
    · exact sumO_short c (by omega)

theorem logDepthSum_eq (h : Assoc f) (items : List α) : logDepthSum f items = sumO f items := by
  unfold logDepthSum logDepthSumT
  cases items with
  | nil => rfl
  | cons a l =>
    simp only [List.isEmpty_cons, Bool.false_eq_true, if_false]
    exact ldLoop_spec h _ _ (by omega)

def ozip (f : α → α → α) : Option α → Option α → Option α
  | some a, some b => some (f a b)
  | _, _ => none

theorem ozip_none (a : Option α) : ozip f a none = none := by cases a <;> rfl

theorem getElem?_zipWith_ozip (as bs : List α) (i : Nat) : (List.zipWith f as bs)[i]? = ozip f as[i]? bs[i]? := by
  rw [List.getElem?_zipWith]
  cases as[i]? <;> cases bs[i]? <;> rfl

theorem ozip_assoc (h : Assoc f) : ∀ a b c : Option α, ozip f (ozip f a b) c = ozip f a (ozip f b c)
  | some a, some b, some c => congrArg some (h a b c)
  | none, _, _ => rfl
  | some _, none, _ => rfl
  | some _, some _, none => rfl

/-- invariant of `prefix_sums_binary_ascent` at depth `d`, `P` being the prefix folds: `c` agrees with `P`
    below `d`, and from `d` on `P[i] = P[i - d] ⊕ c[i]` (`c[i]` is the fold of the `d` items ending at `i`);
    out-of-range positions take care of themselves -/
def BaInv (f : α → α → α) (P : List α) (d : Nat) (c : List α) : Prop :=
  ∀ i, P[i]? = if i < d then c[i]? else ozip f P[i - d]? c[i]?

theorem scanAux_getElem?_ozip : ∀ (t : List α) (acc : α) (j : Nat),
    (scanAux f acc t)[j]? = ozip f (acc :: scanAux f acc t)[j]? t[j]?
  | [], _, _ => (ozip_none _).symm
  | _ :: _, _, 0 => rfl
  | y :: t, acc, j + 1 => scanAux_getElem?_ozip t (f acc y) j

theorem BaInv_init : ∀ (xs : List α), BaInv f (scanl1 f xs) 1 xs
  | [], i => by
    rw [scanl1, List.getElem?_nil, ozip_none, ite_self]
  | x :: t, 0 => rfl
  | x :: t, i + 1 => scanAux_getElem?_ozip t x i

theorem baStep_getElem? (d : Nat) (c : List α) (hd : d ≤ c.length) (i : Nat) :
    (baStep f d c).1[i]? = if i < d then c[i]? else ozip f c[i - d]? c[i]? := by
  have hl : (c.take d).length = d := by rw [List.length_take]; omega
  rw [baStep]
  split
  · rename_i h
    rw [List.getElem?_append_left (by omega), List.getElem?_take_of_lt h]
  · rename_i h
    rw [List.getElem?_append_right (by omega), hl, getElem?_zipWith_ozip, List.getElem?_drop,
      Nat.add_sub_cancel' (Nat.le_of_not_lt h)]

theorem BaInv_step (h : Assoc f) {P c : List α} {d : Nat} (hd : d ≤ c.length) (inv : BaInv f P d c) :
    BaInv f P (2 * d) (baStep f d c).1 := by
  intro i
  rw [baStep_getElem? d c hd, inv i]
  by_cases h1 : i < d
  · rw [if_pos h1, if_pos h1, if_pos (by omega)]
  · rw [if_neg h1, if_neg h1, inv (i - d)]
    by_cases h2 : i < 2 * d
    · rw [if_pos h2, if_pos (by omega)]
    · rw [if_neg h2, if_neg (by omega), ozip_assoc h, Nat.sub_sub, ← Nat.two_mul]

theorem BaInv_final {P c : List α} {d : Nat} (hd : c.length ≤ d) (inv : BaInv f P d c) : c = P := by
  apply List.ext_getElem?
  intro i
  rw [inv i]
  split
  · rfl
  · rw [List.getElem?_eq_none (by omega), ozip_none]

theorem baStep_length (d : Nat) (c : List α) : (baStep f d c).1.length = c.length := by
  simp only [baStep, List.length_append, List.length_take, List.length_zipWith, List.length_drop]
  omega

/-- the depth doubles in each round and starts at 1, so `c.length` rounds are enough -/
theorem baLoop_spec (h : Assoc f) (P : List α) : ∀ (fuel d : Nat) (c : List α), 1 ≤ d → c.length ≤ d + fuel →
    BaInv f P d c → (baLoop f fuel d c).1 = P
  | 0, d, c, _, hf, inv => BaInv_final hf inv
  | fuel + 1, d, c, hd, hf, inv => by
    unfold baLoop
    split
    · rename_i hlt
      exact baLoop_spec h P fuel (2 * d) _ (by omega) (by rw [baStep_length]; omega)
        (BaInv_step h (Nat.le_of_lt hlt) inv)
    · rename_i hge
      exact BaInv_final (Nat.le_of_not_lt hge) inv

theorem prefixBinaryAscent_eq (h : Assoc f) (items : List α) : prefixBinaryAscent f items = scanl1 f items :=
  baLoop_spec h _ _ 1 items (Nat.le_refl 1) (by omega) (BaInv_init items)

/-- The two passes of the sqrt trick run in lockstep over the positions from `i` on: `p1` is pass 1's value
    at `i - 1` (the fold inside the current block), `prev` the final value at `i - 1` (the full prefix fold),
    `carry` the final value at the end of the previous block.  Inside the first block the two agree; from the
    second block on, away from a block start, `prev = carry ⊕ p1`. -/
theorem sqrt_fused (h : Assoc f) (b : Nat) : ∀ (xs : List α) (i : Nat) (carry prev p1 : α),
    1 ≤ i → (i < b → p1 = prev) → (b ≤ i → i % b ≠ 0 → prev = f carry p1) →
    (sqrtPass2 f b i carry prev (sqrtPass1 f b i p1 xs).1).1 = scanAux f prev xs
  | [], _, _, _, _, _, _, _ => by simp [sqrtPass1, sqrtPass2, scanAux]
  | x :: t, i, carry, prev, p1, hi, h1, h2 => by
    by_cases hm : i % b = 0
    · have hbi : b ≤ i := by
        apply Nat.le_of_not_lt; intro hlt
        rw [Nat.mod_eq_of_lt hlt] at hm; omega
      have hnl : ¬ i < b := by omega
      simp only [sqrtPass1, hm, ne_eq, not_true_eq_false, if_false, sqrtPass2, hnl, if_true, scanAux]
      rw [sqrt_fused h b t (i + 1) prev (f prev x) x (by omega) (by omega) (fun _ _ => rfl)]
    · by_cases hlt : i < b
      · have hp : p1 = prev := h1 hlt
        subst hp
        simp only [sqrtPass1, hm, ne_eq, not_false_eq_true, if_true, sqrtPass2, hlt, scanAux]
        rw [sqrt_fused h b t (i + 1) carry (f p1 x) (f p1 x) (by omega) (fun _ => rfl)
          (by
            intro hb1 hm1
            have : i + 1 = b := by omega
            rw [this, Nat.mod_self] at hm1; exact absurd rfl hm1)]
      · have hbi : b ≤ i := by omega
        have hp := h2 hbi hm
        simp only [sqrtPass1, hm, ne_eq, not_false_eq_true, if_true, sqrtPass2, hlt, if_false, scanAux]
        have hz : f carry (f p1 x) = f prev x := by rw [hp, h]
        rw [hz, sqrt_fused h b t (i + 1) carry (f prev x) (f p1 x) (by omega) (by omega)
          (fun _ _ => hz.symm)]

theorem prefixSqrtB_eq (h : Assoc f) (b : Nat) (hb : 1 ≤ b) : ∀ (items : List α),
    (prefixSqrtBT f b items).1 = scanl1 f items
  | [] => rfl
  | x :: xs => by
    have h0 : 0 % b = 0 := Nat.zero_mod b
    have hlt : 0 < b := hb
    simp only [prefixSqrtBT, sqrtPass1, h0, ne_eq, not_true_eq_false, if_false, sqrtPass2, hlt, if_true,
      scanl1, Nat.zero_add]
    rw [sqrt_fused h b xs 1 x x x (by omega) (fun _ => rfl)
      (by
        intro hb1 hm1
        have : b = 1 := by omega
        rw [this] at hm1; exact absurd rfl hm1)]

theorem sqrtBlock_pos (n : Nat) : 1 ≤ sqrtBlock n := Nat.le_max_left 1 _

theorem prefixSqrt_eq (h : Assoc f) (items : List α) : prefixSqrt f items = scanl1 f items :=
  prefixSqrtB_eq h _ (sqrtBlock_pos _) items

theorem scanl1_short : ∀ (c : List α), c.length ≤ 1 → scanl1 f c = c
  | [], _ => rfl
  | [_], _ => rfl
  | _ :: _ :: _, h => by simp at h

theorem stDownRest_spec (h : Assoc f) : ∀ (t : List α) (acc : α),
    (stDownRest f acc t (scanAux f acc (pairUp f t).1)).1 = scanAux f acc t
  | [], _ => by simp [stDownRest, scanAux]
  | [e], acc => by simp [stDownRest, scanAux]
  | e :: e' :: rest, acc => by
    simp only [pairUp, scanAux, stDownRest]
    rw [stDownRest_spec h rest, h]

theorem stDown_spec (h : Assoc f) : ∀ (l : List α), (stDown f l (scanl1 f (pairUp f l).1)).1 = scanl1 f l
  | [] => by simp [stDown, scanl1]
  | [e] => by simp [stDown, scanl1, scanAux]
  | e0 :: e1 :: rest => by
    simp only [pairUp, scanl1, scanAux, stDown]
    rw [stDownRest_spec h rest]

theorem stBuild_ne_nil : ∀ (fuel : Nat) (c : List α), ∃ r rs, (stBuild f fuel c).1 = r :: rs
  | 0, c => ⟨c, [], rfl⟩
  | fuel + 1, c => by
    unfold stBuild
    split
    · exact ⟨c, _, rfl⟩
    · exact ⟨c, [], rfl⟩

theorem stDescend_build (h : Assoc f) : ∀ (fuel : Nat) (c : List α), c.length ≤ fuel + 1 →
    (stDescend f (stBuild f fuel c).1).1 = scanl1 f c
  | 0, c, hl => by simp [stBuild, stDescend, scanl1_short c (by omega)]
  | fuel + 1, c, hl => by
    unfold stBuild
    split
    · simp only
      have ih := stDescend_build h fuel (pairUp f c).1 (by rw [pairUp_length]; omega)
      obtain ⟨r, rs, hr⟩ := stBuild_ne_nil (f := f) fuel (pairUp f c).1
      rw [hr] at ih ⊢
      simp only [stDescend]
      rw [ih, stDown_spec h]
    · simp [stDescend, scanl1_short c (by omega)]

theorem prefixSegmentTree_eq (h : Assoc f) (items : List α) : prefixSegmentTree f items = scanl1 f items := by
  unfold prefixSegmentTree prefixSegmentTreeT
  cases items with
  | nil => rfl
  | cons a l =>
    simp only [List.isEmpty_cons, Bool.false_eq_true, if_false]
    exact stDescend_build h _ _ (by omega)

theorem scanAux_getElem? : ∀ (xs : List α) (acc : α) (i : Nat), i < xs.length →
    (scanAux f acc xs)[i]? = some ((xs.take (i + 1)).foldl f acc)
  | [], _, _, hi => by simp at hi
  | x :: xs, acc, 0, _ => by simp [scanAux]
  | x :: xs, acc, i + 1, hi => by
    simp only [scanAux, List.getElem?_cons_succ, List.take_succ_cons, List.foldl_cons]
    exact scanAux_getElem? xs (f acc x) i (by simpa using hi)

theorem pick_eq (h : Assoc f) (level : Level) (n' : Nat) (items : List α) : pick level n' f items = scanl1 f items := by
  unfold pick pickT
  cases level with
  | extreme => exact prefixBinaryAscent_eq h items
  | default =>
    simp only
    split
    · exact prefixSqrt_eq h items
    · exact prefixSegmentTree_eq h items

def stepScan (step : S → I → S) : S → List I → List S
  | _, [] => []
  | s, x :: xs => step s x :: stepScan step (step s x) xs

theorem scanAux_eq_stepScan : ∀ (xs : List α) (s : α), scanAux f s xs = stepScan f s xs
  | [], _ => rfl
  | x :: xs, s => by simp only [scanAux, stepScan, scanAux_eq_stepScan xs]

theorem stepScan_length (step : S → I → S) : ∀ (xs : List I) (s : S), (stepScan step s xs).length = xs.length
  | [], _ => rfl
  | x :: xs, s => by simp only [stepScan, List.length_cons, stepScan_length step xs]

theorem getLast?_cons_getD (a d : γ) (l : List γ) : (a :: l).getLast?.getD d = l.getLast?.getD a := by
  rw [List.getLast?_cons, Option.getD_some]

theorem iterRef_closed (g : S → I → S × O) : ∀ (xs : List I) (s : S),
    iterRef g s xs = ((stepScan (fun a b => (g a b).1) s xs).getLast?.getD s,
      List.zipWith (fun p x => (g p x).2) (s :: stepScan (fun a b => (g a b).1) s xs) xs)
  | [], _ => rfl
  | x :: xs, s => by
    simp only [iterRef, iterRef_closed g xs, stepScan, List.zipWith_cons_cons, getLast?_cons_getD]

theorem getLast_scanAux (m : α) : ∀ (ms : List α), (m :: scanAux f m ms).getLast? = some (ms.foldl f m)
  | [] => rfl
  | x :: ms => by
    simp only [scanAux, List.foldl_cons, List.getLast?_cons_cons]
    exact getLast_scanAux (f m x) ms

theorem sumO_eq_getLast : ∀ (l : List α), sumO f l = (scanl1 f l).getLast?
  | [] => rfl
  | x :: t => (getLast_scanAux x t).symm

/-- all that the strategies use of the algorithms -/
theorem algs_ext (h : Assoc f) {e : α → β} {ms : List α} {L : List β} (hL : (scanl1 f ms).map e = L)
    (level : Level) (n : Nat) :
    (pick level n f ms).map e = L ∧ (logDepthSum f ms).map e = L.getLast? := by
  rw [pick_eq h, logDepthSum_eq h, sumO_eq_getLast, ← List.getLast?_map, hL]
  exact ⟨rfl, rfl⟩

theorem eq_of_all_unit {unit : γ} (hu : ∀ o : γ, o = unit) : ∀ (l l' : List γ), l.length = l'.length → l = l'
  | [], [], _ => rfl
  | a :: l, b :: l', h => by
    rw [hu a, hu b, eq_of_all_unit hu l l' (Nat.succ.inj h)]

theorem iterSimpleLoop_spec (g : S → I → S × O) : ∀ (xs : List I) (s : S) (outs : List O),
    iterSimpleLoop g s outs xs = ((iterRef g s xs).1, outs ++ (iterRef g s xs).2)
  | [], _, _ => by simp only [iterSimpleLoop, iterRef, List.append_nil]
  | x :: xs, s, outs => by
    simp only [iterSimpleLoop, iterRef, iterSimpleLoop_spec g xs, List.append_assoc, List.singleton_append]

/-- The common shape of the one-bit and small-state strategies, batched or not: the steps are turned
    into mappings, `total` is their `log_depth_sum` and `ps` their prefix sums (by the picked
    algorithm); `ext` extracts from a mapping the state it sends the initial state to. -/
def iterVia (emptyOut : Bool) (unit : O) (G : S → I → S × O) (ext : M → S) (dflt : M)
    (total : Option M) (ps : List M) (s : S) (xs : List I) : S × List O :=
  if xs.isEmpty then (s, [])
  else if emptyOut then (ext (total.getD dflt), xs.map fun _ => unit)
  else (ext (ps.getLast?.getD dflt), List.zipWith (fun st x => (G st x).2) (s :: ps.map ext) xs)

theorem getD_of_map_eq {ext : M → S} {o : Option M} {v : S} (h : o.map ext = some v) (d : M) :
    ext (o.getD d) = v := by
  cases o with
  | none => cases h
  | some p => exact Option.some.inj h

theorem iterVia_ref {emptyOut : Bool} {unit : O} (hu : emptyOut = true → ∀ o : O, o = unit)
    (G : S → I → S × O) (ext : M → S) (dflt : M) (total : Option M) (ps : List M) (s : S) (xs : List I)
    (hps : ps.map ext = stepScan (fun a b => (G a b).1) s xs)
    (htot : total.map ext = (stepScan (fun a b => (G a b).1) s xs).getLast?) :
    iterVia emptyOut unit G ext dflt total ps s xs = iterRef G s xs := by
  unfold iterVia
  cases xs with
  | nil => rfl
  | cons x t =>
    simp only [List.isEmpty_cons, Bool.false_eq_true, if_false]
    rw [iterRef_closed, hps]
    rw [stepScan, List.getLast?_cons] at htot
    have hl := congrArg List.getLast? hps
    rw [List.getLast?_map, stepScan, List.getLast?_cons] at hl
    simp only [stepScan, getLast?_cons_getD]
    split
    · rename_i he
      rw [getD_of_map_eq htot]
      congr 1
      apply eq_of_all_unit (hu he)
      simp only [List.length_map, List.length_zipWith, List.length_cons, stepScan_length]
      omega
    · rw [getD_of_map_eq hl]

theorem iterVia_assoc {emptyOut : Bool} {unit : O} (hu : emptyOut = true → ∀ o : O, o = unit)
    {comb : M → M → M} (h : Assoc comb) (G : S → I → S × O) (ext : M → S) (dflt : M) (ms : List M)
    (s : S) (xs : List I) (hL : (scanl1 comb ms).map ext = stepScan (fun a b => (G a b).1) s xs)
    (level : Level) (n : Nat) :
    iterVia emptyOut unit G ext dflt (logDepthSum comb ms) (pick level n comb ms) s xs = iterRef G s xs :=
  iterVia_ref hu G ext dflt _ _ s xs (algs_ext h hL level n).1 (algs_ext h hL level n).2

theorem extract1_comb1 (s : Bool) (m1 m2 : Map1) : extract1 s (comb1 m1 m2) = extract1 (extract1 s m1) m2 := by
  obtain ⟨a0, a1⟩ := m1; obtain ⟨b0, b1⟩ := m2
  revert s a0 a1 b0 b1; decide

theorem map1_ext : ∀ (m m' : Map1), (∀ s, extract1 s m = extract1 s m') → m = m'
  | (a0, a1), (b0, b1), h => by
    have h0 := h false
    have h1 := h true
    simp only [extract1, Bool.xor_true, Bool.not_false, Bool.and_true, Bool.and_false, Bool.xor_false,
      Bool.not_true, Bool.false_xor] at h0 h1
    rw [h0, h1]

/-- combining tables is composing the functions they tabulate, hence associative -/
theorem comb1_assoc : Assoc comb1 := fun a b c =>
  map1_ext _ _ fun s => by rw [extract1_comb1, extract1_comb1, extract1_comb1, extract1_comb1]

def mapOf (st : Bool → I → Bool) (x : I) : Map1 := (st false x, st true x)

theorem extract1_mapOf (st : Bool → I → Bool) (x : I) (s : Bool) : extract1 s (mapOf st x) = st s x := by
  cases s <;> simp [extract1, mapOf]

theorem extract1_scanAux (st : Bool → I → Bool) (s : Bool) : ∀ (xs : List I) (m : Map1),
    (scanAux comb1 m (xs.map (mapOf st))).map (extract1 s) = stepScan st (extract1 s m) xs
  | [], _ => rfl
  | x :: xs, m => by
    simp only [List.map_cons, scanAux, stepScan]
    rw [extract1_scanAux st s xs, extract1_comb1, extract1_mapOf]

theorem extract1_scanl1 (st : Bool → I → Bool) (s : Bool) : ∀ (xs : List I),
    (scanl1 comb1 (xs.map (mapOf st))).map (extract1 s) = stepScan st s xs
  | [] => rfl
  | x :: xs => by
    simp only [List.map_cons, scanl1, stepScan]
    rw [extract1_scanAux st s xs, extract1_mapOf]

theorem iterOneBit_eq_iterVia (level : Level) (emptyOut : Bool) (unit : O) (g : Bool → I → Bool × O) (s : Bool)
    (xs : List I) :
    iterOneBit level emptyOut unit g s xs
      = iterVia emptyOut unit g (extract1 s) (false, true)
          (logDepthSum comb1 (xs.map (mapOf fun a b => (g a b).1)))
          (pick level xs.length comb1 (xs.map (mapOf fun a b => (g a b).1))) s xs := rfl

theorem iterOneBit_eq_ref {I O : Type} (g : Bool → I → Bool × O) (level : Level) (emptyOut : Bool) (unit : O)
    (hu : emptyOut = true → ∀ o : O, o = unit) (s : Bool) (xs : List I) :
    iterOneBit level emptyOut unit g s xs = iterRef g s xs := by
  rw [iterOneBit_eq_iterVia]
  exact iterVia_assoc hu comb1_assoc g _ _ _ s xs (extract1_scanl1 (fun a b => (g a b).1) s xs) level xs.length

/-! ### small state: transition matrices over GF(2) -/

theorem xsum_congr (p q : Nat → Bool) : ∀ (N : Nat), (∀ k, k < N → p k = q k) → xsum N p = xsum N q
  | 0, _ => rfl
  | N + 1, h => by
    simp only [xsum]
    rw [xsum_congr p q N (fun k hk => h k (by omega)), h N (by omega)]

theorem xsum_false : ∀ (N : Nat), xsum N (fun _ => false) = false
  | 0 => rfl
  | N + 1 => by simp [xsum, xsum_false N]

theorem xsum_single (h : Nat → Bool) (k0 : Nat) : ∀ (N : Nat), k0 < N → xsum N (fun k => (k0 == k) && h k) = h k0
  | N + 1, hk => by
    rw [xsum]
    by_cases e : k0 = N
    · have z : xsum N (fun k => (k0 == k) && h k) = false := by
        rw [xsum_congr _ (fun _ => false) N fun k hk' => by rw [beq_eq_false_iff_ne.mpr (by omega)]; rfl,
          xsum_false]
      rw [z, e, beq_self_eq_true, Bool.true_and, Bool.false_xor]
    · rw [xsum_single h k0 N (by omega), beq_eq_false_iff_ne.mpr e, Bool.false_and, Bool.xor_false]

theorem xsum_xor (p q : Nat → Bool) : ∀ (N : Nat), xsum N (fun k => xor (p k) (q k)) = xor (xsum N p) (xsum N q)
  | 0 => rfl
  | N + 1 => by
    simp only [xsum, xsum_xor p q N]
    cases xsum N p <;> cases xsum N q <;> cases p N <;> cases q N <;> rfl

theorem xsum_and_right (g : Nat → Bool) (c : Bool) : ∀ (N : Nat), xsum N (fun k => g k && c) = (xsum N g && c)
  | 0 => by simp [xsum]
  | N + 1 => by
    simp only [xsum, xsum_and_right g c N]
    cases xsum N g <;> cases g N <;> cases c <;> rfl

theorem xsum_and_left (g : Nat → Bool) (c : Bool) (N : Nat) : xsum N (fun k => c && g k) = (c && xsum N g) := by
  rw [Bool.and_comm, ← xsum_and_right]
  exact xsum_congr _ _ N fun k _ => Bool.and_comm c (g k)

theorem xsum_swap (h : Nat → Nat → Bool) (M : Nat) : ∀ (N : Nat),
    xsum N (fun k => xsum M (fun l => h k l)) = xsum M (fun l => xsum N (fun k => h k l))
  | 0 => by simp [xsum, xsum_false]
  | N + 1 => by
    simp only [xsum]
    rw [xsum_swap h M N, ← xsum_xor]

theorem matMul_assoc (N : Nat) : Assoc (matMul N) := by
  intro a b c
  funext i j
  simp only [matMul]
  have e1 : (fun k => xsum N (fun l => a i l && b l k) && c k j)
      = (fun k => xsum N (fun l => (a i l && b l k) && c k j)) := by
    funext k; rw [xsum_and_right]
  have e2 : (fun l => a i l && xsum N (fun k => b l k && c k j))
      = (fun l => xsum N (fun k => (a i l && b l k) && c k j)) := by
    funext l; rw [← xsum_and_left]; congr 1; funext k; rw [Bool.and_assoc]
  rw [e1, e2, xsum_swap]

/-- `M` is, on the rows `< N`, the transition matrix of `p`.  Two shapes of such matrices occur: `matOfFun p`
    (total) in the unbatched model, and blocks read off arrays (`rowMat`, `Fm`), `false` outside `N × N`;
    both are `Rep`, which is all the product and the extraction look at. -/
def Rep (N : Nat) (M : Mat) (p : Nat → Nat) : Prop := ∀ i, i < N → ∀ j, M i j = (p i == j)

theorem Rep_mul (N : Nat) (M1 M2 : Mat) (p q : Nat → Nat) (h1 : Rep N M1 p) (h2 : Rep N M2 q)
    (hp : ∀ i, i < N → p i < N) : Rep N (matMul N M1 M2) (fun i => q (p i)) := by
  intro i hi j
  simp only [matMul]
  have e : (fun k => M1 i k && M2 k j) = (fun k => (p i == k) && M2 k j) := by
    funext k; rw [h1 i hi k]
  rw [e, xsum_single (fun k => M2 k j) (p i) N (hp i hi), h2 (p i) (hp i hi) j]

theorem natOfBits_congr : ∀ (K : Nat) (f g : Nat → Bool), (∀ k, k < K → f k = g k) →
    natOfBits K f = natOfBits K g
  | 0, _, _, _ => rfl
  | K + 1, f, g, h => by
    simp only [natOfBits]
    rw [h 0 (by omega), natOfBits_congr K _ _ (fun k hk => h (k + 1) (by omega))]

theorem natOfBits_lt : ∀ (K : Nat) (f : Nat → Bool), natOfBits K f < 2 ^ K
  | 0, _ => Nat.one_pos
  | K + 1, f => by
    have := natOfBits_lt K (fun b => f (b + 1))
    have := Bool.toNat_lt (f 0)
    simp only [natOfBits]
    omega

theorem testBit_natOfBits : ∀ (K : Nat) (f : Nat → Bool) (k : Nat), k < K → (natOfBits K f).testBit k = f k
  | K + 1, f, 0, _ => by
    show ((f 0).toNat + 2 * natOfBits K (fun b => f (b + 1))).testBit 0 = f 0
    rw [Nat.testBit_zero, Nat.add_mul_mod_self_left, Nat.mod_eq_of_lt (Bool.toNat_lt _)]
    cases f 0 <;> rfl
  | K + 1, f, k + 1, h => by
    show ((f 0).toNat + 2 * natOfBits K (fun b => f (b + 1))).testBit (k + 1) = f (k + 1)
    rw [Nat.testBit_succ, Nat.add_mul_div_left _ _ Nat.zero_lt_two,
      Nat.div_eq_of_lt (Bool.toNat_lt _), Nat.zero_add]
    exact testBit_natOfBits K _ k (Nat.lt_of_succ_lt_succ h)

theorem natOfBits_testBit (K n : Nat) (h : n < 2 ^ K) : natOfBits K (fun b => n.testBit b) = n := by
  apply Nat.eq_of_testBit_eq
  intro k
  by_cases hk : k < K
  · exact testBit_natOfBits K _ k hk
  · have hp : 2 ^ K ≤ 2 ^ k := Nat.pow_le_pow_right (by omega) (by omega)
    rw [Nat.testBit_lt_two_pow (Nat.lt_of_lt_of_le (natOfBits_lt K _) hp),
      Nat.testBit_lt_two_pow (Nat.lt_of_lt_of_le h hp)]

theorem natOfBits_inj (K : Nat) (f g : Nat → Bool) (h : natOfBits K f = natOfBits K g) (k : Nat) (hk : k < K) :
    f k = g k := by
  rw [← testBit_natOfBits K f k hk, h, testBit_natOfBits K g k hk]

theorem extractS_Rep (K : Nat) (M : Mat) (p : Nat → Nat) (s : Nat) (h : Rep (2 ^ K) M p) (hs : s < 2 ^ K)
    (hps : p s < 2 ^ K) : extractS K s M = p s := by
  unfold extractS
  have e1 : vecMul (2 ^ K) (oneHot s) M = oneHot (p s) := by
    funext j
    simp only [vecMul, oneHot]
    rw [xsum_single (fun k => M k j) s _ hs, h s hs j]
  have e2 : decodeBit (2 ^ K) (oneHot (p s)) = fun b => (p s).testBit b := by
    funext b
    simp only [decodeBit, oneHot]
    exact xsum_single (fun j => j.testBit b) (p s) _ hps
  rw [e1, e2, natOfBits_testBit K _ hps]

section
variable {I : Type} (K : Nat) (F : I → Mat) (g : Nat → I → Nat)
  (hF : ∀ x, Rep (2 ^ K) (F x) (fun st => g st x)) (hg : ∀ st x, st < 2 ^ K → g st x < 2 ^ K)
  (s : Nat) (hs : s < 2 ^ K)
include hF hg hs

theorem extractS_scanAux : ∀ (xs : List I) (M : Mat) (p : Nat → Nat), Rep (2 ^ K) M p →
    (∀ i, i < 2 ^ K → p i < 2 ^ K) →
    (scanAux (matMul (2 ^ K)) M (xs.map F)).map (extractS K s) = stepScan g (p s) xs
  | [], _, _, _, _ => rfl
  | x :: xs, M, p, hM, hp => by
    have hM' := Rep_mul _ M (F x) p _ hM (hF x) hp
    have hp' : ∀ i, i < 2 ^ K → g (p i) x < 2 ^ K := fun i hi => hg _ x (hp i hi)
    simp only [List.map_cons, scanAux, stepScan]
    rw [extractS_scanAux xs _ (fun i => g (p i) x) hM' hp',
      extractS_Rep K _ (fun i => g (p i) x) s hM' hs (hp' s hs)]

theorem extractS_scanl1 : ∀ (xs : List I),
    (scanl1 (matMul (2 ^ K)) (xs.map F)).map (extractS K s) = stepScan g s xs
  | [] => rfl
  | x :: xs => by
    simp only [List.map_cons, scanl1, stepScan]
    rw [extractS_scanAux K F g hF hg s hs xs _ _ (hF x) (fun i hi => hg i x hi),
      extractS_Rep K _ _ s (hF x) hs (hg s x hs)]

end

theorem iterSmall_eq_iterVia (level : Level) (K : Nat) (emptyOut : Bool) (unit : O) (g : Nat → I → Nat × O)
    (s : Nat) (xs : List I) :
    iterSmall level K emptyOut unit g s xs
      = iterVia emptyOut unit g (extractS K s) (matOfFun id)
          (logDepthSum (matMul (2 ^ K)) (xs.map fun x => matOfFun fun st => (g st x).1))
          (pick level xs.length (matMul (2 ^ K)) (xs.map fun x => matOfFun fun st => (g st x).1)) s xs := rfl

end CCV.Inline
