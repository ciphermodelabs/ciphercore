import CCV.Lemmas.TruncateArith
import Mathlib.Data.ZMod.Basic
import Mathlib.Tactic.Ring
import Mathlib.Tactic.LinearCombination
/-
  Helper lemmas for C05: the masks of `TruncateMPC2K` cancel modulo `2^s`, computed in `ZMod (2^s)`.
-/
namespace CCV.Truncate

/-- the (shifted) secret `TruncateMPC2K` works on: `x0' + x1 + x2 mod 2^s`, where step 0 added
    `2^(s-2)` to the first share of a signed input -/
def shifted (s : Nat) (signed : Bool) (x0 x1 x2 : Nat) : Nat :=
  ((if signed = true then addm (2 ^ s) x0 (2 ^ (s - 2)) else x0) + x1 + x2) % 2 ^ s

theorem zmod_subm (M a b : Nat) (hM : 0 < M) : ((subm M a b : Nat) : ZMod M) = (a : ZMod M) - b := by
  have h : b % M ≤ M := (Nat.mod_lt _ hM).le
  unfold subm
  push_cast [ZMod.natCast_mod, Nat.cast_sub h, ZMod.natCast_self]
  ring

theorem zmod_addm (M a b : Nat) : ((addm M a b : Nat) : ZMod M) = (a : ZMod M) + b := by
  unfold addm; push_cast [ZMod.natCast_mod]; ring

theorem zmod_mulm (M a b : Nat) : ((mulm M a b : Nat) : ZMod M) = (a : ZMod M) * b := by
  unfold mulm; push_cast [ZMod.natCast_mod]; ring

/-- a subtraction the code performs on signed types only (step 14 of `TruncateMPC2K`), cast without
    a case split -/
theorem zmod_ite_subm (M : Nat) (c : Bool) (a b : Nat) (hM : 0 < M) :
    (((if c = true then subm M a b else a : Nat)) : ZMod M) = (a : ZMod M) - (if c = true then (b : ZMod M) else 0) := by
  cases c
  · simp
  · simp [zmod_subm _ _ _ hM]

/-- steps 6–8 of `TruncateMPC2K`: the revealed `c = (a + b + r0) + (c' + (r − r0))` is the masked
    secret; the share-for-two mask `r0` cancels -/
theorem addm_mask_cancel (M a b c r r0 : Nat) (hM : 0 < M) :
    addm M (addm M (addm M a b) r0) (addm M c (subm M r r0)) = ((a + b + c) % M + r) % M := by
  show (_ + _) % M = _
  rw [← ZMod.natCast_eq_natCast_iff']
  simp only [zmod_addm, zmod_subm _ _ _ hM, ZMod.natCast_mod, Nat.cast_add]
  ring

/-- Steps 1–15 in terms of the shifted input `X = shifted …` (`X < 2^(s-1)`): the revealed value is
    `X / 2^k + w − [signed] 2^(s-2-k)` modulo `2^s`, with `w = 1` exactly when the low `k` bits of
    `X` and of the mask `r` produce a carry.  All of `r0, rmsb0, rtr0, y0, y2` cancel. -/
theorem reveal_trunc2k_shifted (s k : Nat) (hk1 : 1 ≤ k) (hks : k + 1 ≤ s) (signed : Bool)
    (x0 x1 x2 : Nat) (m : Masks2K) (hr : m.r < 2 ^ s)
    (hX : shifted s signed x0 x1 x2 < 2 ^ (s - 1)) :
    ((reveal s (trunc2k s k signed x0 x1 x2 m).shares : Nat) : ZMod (2 ^ s)) =
      ((shifted s signed x0 x1 x2 / 2 ^ k
         + (if 2 ^ k ≤ shifted s signed x0 x1 x2 % 2 ^ k + m.r % 2 ^ k then 1 else 0) : Nat) : ZMod (2 ^ s))
      - (if signed = true then ((2 ^ (s - 2 - k) : Nat) : ZMod (2 ^ s)) else 0) := by
  have hpos : 0 < 2 ^ s := Nat.two_pow_pos s
  simp only [trunc2k, if_neg (show k ≠ 0 by omega), Out2K.shares, reveal]
  rw [addm_mask_cancel _ _ _ _ _ _ hpos, ← shifted]
  generalize shifted s signed x0 x1 x2 = X at *
  have hH : 2 ^ k * 2 ^ (s - 1 - k) = 2 ^ (s - 1) := by
    rw [← Nat.pow_add, Nat.add_sub_cancel' (by omega)]
  have hM : 2 * 2 ^ (s - 1) = 2 ^ s := (two_pow_pred s (by omega)).symm
  have hKpos : 0 < 2 ^ k := Nat.two_pow_pos k
  have hHpos : 0 < 2 ^ (s - 1) := Nat.two_pow_pos _
  -- step 2: `r_msb` is the top bit of `r`
  have e1 : truncPlain s false (2 ^ (s - 1)) (m.r &&& 2 ^ (s - 1)) = m.r / 2 ^ (s - 1) := by
    rw [truncPlain_unsigned, and_bit_div]
    apply Nat.mod_eq_of_lt
    apply Nat.div_lt_of_lt_mul; omega
  -- step 3: `r_truncated` is bits `k .. s-2` of `r`; below `2^(s-1)` the signedness plays no role
  have e2 : truncPlain s signed (2 ^ k) (m.r &&& (2 ^ (s - 1) - 2 ^ k)) = m.r % 2 ^ (s - 1) / 2 ^ k := by
    rw [and_range_mask m.r k (s - 1) (by omega), truncPlain_small, Nat.mul_div_cancel _ hKpos]
    have h1 := Nat.div_mul_le_self (m.r % 2 ^ (s - 1)) (2 ^ k)
    have h2 := Nat.mod_lt m.r hHpos
    omega
  rw [e1, e2, truncPlain_unsigned, truncPlain_unsigned, Nat.and_two_pow_sub_one_eq_mod]
  -- `core_arith` says what steps 8–11 compute; cast into `ZMod (2^s)` it is the one non-linear fact
  -- the cancellation of the remaining masks needs
  have N := core_arith (2 ^ k) (2 ^ (s - 1 - k)) X m.r hKpos (by rw [hH]; exact hX) (by rw [hH, hM]; exact hr)
  rw [hH, hM, Nat.add_div hKpos, Nat.mod_mod_of_dvd _ (Nat.pow_dvd_pow 2 (show k ≤ s - 1 by omega))] at N
  generalize (if 2 ^ k ≤ X % 2 ^ k + m.r % 2 ^ k then 1 else 0) = w at *
  have N' := congrArg (Nat.cast : Nat → ZMod (2 ^ s)) N
  push_cast at N'
  simp only [zmod_addm, zmod_subm _ _ _ hpos, zmod_mulm, zmod_ite_subm _ _ _ _ hpos, ZMod.natCast_mod,
    Nat.cast_add, Nat.cast_ofNat, Nat.cast_pow]
  linear_combination N'

theorem zmod_ofInt (s : Nat) (z : Int) : ((ofInt s z : Nat) : ZMod (2 ^ s)) = ((z : Int) : ZMod (2 ^ s)) := by
  unfold ofInt
  have h0 : 0 ≤ z % ((2 ^ s : Nat) : Int) := Int.emod_nonneg _ (by have := Nat.two_pow_pos s; omega)
  rw [← Int.cast_natCast, Int.toNat_of_nonneg h0]
  exact (ZMod.intCast_eq_intCast_iff' _ _ _).mpr (Int.emod_emod_of_dvd _ (Int.dvd_refl _))

theorem eq_ofInt_of_zmod (s R : Nat) (z : Int)
    (h : ((R % 2 ^ s : Nat) : ZMod (2 ^ s)) = ((z : Int) : ZMod (2 ^ s))) : R % 2 ^ s = ofInt s z := by
  have h' : (((R % 2 ^ s : Nat) : Int) : ZMod (2 ^ s)) = ((z : Int) : ZMod (2 ^ s)) := by
    rw [Int.cast_natCast]; exact h
  have h2 := (ZMod.intCast_eq_intCast_iff' _ _ _).mp h'
  unfold ofInt
  rw [← h2, ← Int.natCast_mod, Nat.mod_mod, Int.toNat_natCast]

end CCV.Truncate
