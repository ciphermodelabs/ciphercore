import CCV.Lemmas.OptimizerEvalA
/-
  Laws of the evaluator instance `semE` of the optimiser-IR semantics, part B: the rewrite
  `VectorGet(ArrayToVector(a), Constant c)` → `Get(a, [c])` (1-dimensional `a`) /
  `GetSlice(a, [SingleIndex c, Ellipsis])` (otherwise) is value preserving whenever the left-hand
  side evaluates successfully, and the type summaries of the created nodes.
-/
namespace CCV.OptEval
open CCV CCV.TV CCV.TI CCV.EvalOps

/- The slice `[SingleIndex c, Ellipsis]` on the shape `d :: ds`: the ellipsis becomes `ds.length` full
   sub-arrays `:`, and a full sub-array is accepted only on a positive dimension.  So the typing rule
   yields `ds` iff `c < d` and all of `ds` are positive (`getSliceShape_single_ellipsis`), and the value
   is row `c` (`getSlice_single_ellipsis`). -/

theorem sliceLoop_full (d : Nat) : ∀ (fuel cur cnt : Nat), cur ≤ d → d - cur < fuel →
    sliceLoop d (d : Int) 1 fuel (cur : Int) cnt = .ok (cnt + (d - cur)) := by
  intro fuel
  induction fuel with
  | zero => exact fun cur cnt _ h => absurd h (Nat.not_lt_zero _)
  | succ fuel ih =>
    intro cur cnt hle hf
    unfold sliceLoop
    by_cases hcd : cur = d
    · subst hcd
      rw [if_pos (.inl ⟨Int.one_pos, Int.le_refl _⟩), Nat.sub_self, Nat.add_zero]
    · have hlt : cur < d := Nat.lt_of_le_of_ne hle hcd
      rw [if_neg (by omega), if_neg (by omega)]
      have e : (cur : Int) + 1 = ((cur + 1 : Nat) : Int) := rfl
      rw [e, ih (cur + 1) (cnt + 1) hlt (by omega), Nat.add_assoc, Nat.sub_add_eq,
        Nat.add_sub_cancel' (Nat.sub_pos_of_lt hlt)]

theorem sliceShape1d_full (d : Nat) (h : 0 < d) :
    sliceShape1d d (.sub none none none) = .ok (some d) := by
  have hn : normalizeSub d none none none = .ok (0, (d : Int), 1) := rfl
  have hl := sliceLoop_full d (d + 1) 0 0 (Nat.zero_le d) (Nat.lt_succ_self d)
  simp only [Int.natCast_zero, Nat.zero_add, Nat.sub_zero] at hl
  unfold sliceShape1d
  simp only []
  rw [hn]
  simp only []
  rw [hl]
  simp only []
  rw [if_neg (Nat.ne_of_gt h)]

theorem sliceShapeGo_full : ∀ (ds r : List Nat),
    sliceShapeGo ds (List.replicate ds.length (.sub none none none)) = .ok r ↔
      (r = ds ∧ Shape.pos ds)
  | [], r => by
    simp [sliceShapeGo, Shape.pos]
  | d :: ds, r => by
    have ih := sliceShapeGo_full ds
    simp only [List.length_cons, List.replicate_succ, sliceShapeGo]
    by_cases hd : 0 < d
    · rw [sliceShape1d_full d hd]
      simp only []
      cases hgo : sliceShapeGo ds (List.replicate ds.length (.sub none none none)) with
      | error e =>
        simp only [false_iff, reduceCtorEq]
        rintro ⟨rfl, hp⟩
        have := (ih ds).mpr ⟨rfl, (Shape.pos_cons hp).2⟩
        rw [hgo] at this; cases this
      | ok r' =>
        obtain ⟨rfl, hp⟩ := (ih r').mp hgo
        simp only [Except.ok.injEq]
        constructor
        · rintro rfl
          refine ⟨rfl, ?_⟩
          intro x hx
          rcases List.mem_cons.mp hx with rfl | hx
          · exact hd
          · exact hp x hx
        · rintro ⟨rfl, _⟩; rfl
    · have h0 : d = 0 := by omega
      subst h0
      rw [show sliceShape1d 0 (.sub none none none) = .error "Empty slice" from rfl]
      constructor
      · intro h
        cases h
      · rintro ⟨_, hp⟩
        exact absurd (hp 0 List.mem_cons_self) (Nat.lt_irrefl 0)

theorem sliceShape1d_single (d c : Nat) :
    sliceShape1d d (.single (Int.ofNat c)) =
      if c < d then .ok none else .error "Slice is out of bounds (SingleIndex)" := by
  have e1 : ¬ (Int.ofNat c < 0) := Int.not_lt.mpr (Int.natCast_nonneg c)
  unfold sliceShape1d
  simp only []
  rw [if_neg e1]
  by_cases hcd : c < d
  · rw [if_pos hcd, if_neg fun h => h.elim e1 fun h => absurd (Int.ofNat_le.mp h) (Nat.not_le.mpr hcd)]
  · have hdc : Int.ofNat c < 0 ∨ (d : Int) ≤ Int.ofNat c := .inr (Int.ofNat_le.mpr (Nat.not_lt.mp hcd))
    rw [if_neg hcd, if_pos hdc]

theorem getCleanSlice_single_ellipsis (n : Nat) (c : Int) :
    TI.getCleanSlice (n + 1) [.single c, .ellipsis] =
      .ok (.single c :: List.replicate n (.sub none none none)) := by
  have e : ¬ (((n + 1 : Nat) : Int) - ((2 : Nat) : Int) + 1 < 0) := by omega
  simp only [TI.getCleanSlice, cleanGo, List.length_cons, List.length_nil, Nat.zero_add,
    Nat.reduceAdd, if_neg e]
  -- one ellipsis among two entries on rank `n + 1` stands for `n + 1 + 1 - 2` full sub-arrays
  simp

theorem getSliceShape_single_ellipsis (s : List Nat) (c : Nat) (r : List Nat) :
    TI.getSliceShape s [.single (Int.ofNat c), .ellipsis] = .ok r ↔
      ∃ d, s = d :: r ∧ c < d ∧ Shape.pos r := by
  cases s with
  | nil =>
    -- the ellipsis would stand for -1 dimensions
    have h0 : TI.getSliceShape [] [.single (Int.ofNat c), .ellipsis] =
        .error "Ellipsis corresponds to a negative number of entries" := rfl
    rw [h0]
    constructor
    · intro h
      cases h
    · rintro ⟨d, h, _⟩
      cases h
  | cons d ds =>
    unfold TI.getSliceShape
    rw [List.length_cons, getCleanSlice_single_ellipsis]
    simp only []
    rw [sliceShapeGo, sliceShape1d_single]
    by_cases hcd : c < d
    · rw [if_pos hcd]
      simp only []
      rw [sliceShapeGo_full]
      constructor
      · rintro ⟨rfl, hp⟩
        exact ⟨d, rfl, hcd, hp⟩
      · rintro ⟨d', h1, _, hp⟩
        cases h1
        exact ⟨rfl, hp⟩
    · rw [if_neg hcd]
      constructor
      · intro h
        cases h
      · rintro ⟨d', h1, h2, _⟩
        cases h1
        exact absurd h2 hcd

theorem slicesGetCleanSlice_single_ellipsis (n : Nat) (c : Int) :
    Slices.getCleanSlice (n + 1) [.single c, .ellipsis] =
      .ok (.single c :: List.replicate n (.sub none none none)) := by
  simpa only [List.map_cons, List.map_nil, List.map_replicate, toSE] using
    getCleanSlice_agree (getCleanSlice_single_ellipsis n c)

theorem sliceIndexLoop_full : ∀ (ds idx : List Nat) (j : Nat), idx.length = ds.length →
    Slices.sliceIndexLoop ds (List.replicate ds.length (.sub none none none)) idx j =
      .ok (idx, j + ds.length)
  | [], idx, j, h => by
    have : idx = [] := List.length_eq_zero_iff.mp h
    subst this
    simp [Slices.sliceIndexLoop]
  | d :: ds, [], j, h => by simp at h
  | d :: ds, x :: idx, j, h => by
    have ih := sliceIndexLoop_full ds idx (j + 1) (by simpa using h)
    simp only [List.length_cons, List.replicate_succ, Slices.sliceIndexLoop, Slices.slice1dIndex_full, ih]
    congr 2
    omega

theorem sliceIndex_single_ellipsis (d c : Nat) (ds idx : List Nat)
    (hl : idx.length = ds.length) :
    Slices.sliceIndex (d :: ds) [.single (Int.ofNat c), .ellipsis] idx = .ok (c :: idx) := by
  have e1 : (0 : Int) ≤ Int.ofNat c := Int.natCast_nonneg c
  have e2 : ¬ (Int.ofNat c < 0) := Int.not_lt.mpr e1
  have e3 : (Int.ofNat c).toNat = c := rfl
  simp only [Slices.sliceIndex, List.length_cons, slicesGetCleanSlice_single_ellipsis,
    Slices.sliceIndexLoop, if_pos e1, if_neg e2, sliceIndexLoop_full ds idx 0 hl, Nat.zero_add, e3]
  split
  · rfl
  · rw [if_neg (by simp [hl])]

theorem map_range_eq_slice (xs : List Nat) (a n : Nat) (h : a + n ≤ xs.length) :
    (List.range n).map (fun i => xs.getD (a + i) 0) = Ops.slice xs a n := by
  apply List.ext_getElem
  · rw [List.length_map, List.length_range, Ops.slice_length xs a n h]
  · intro i h1 _
    rw [List.length_map, List.length_range] at h1
    rw [List.getElem_map, List.getElem_range, List.getD_eq_getElem?_getD, ← Ops.slice_getElem? xs a n i h1,
      List.getElem?_eq_getElem]
    rfl

theorem getSlice_single_ellipsis (d c : Nat) (ds xs : List Nat)
    (hp : Shape.pos ds) (hc : c < d) (hlen : xs.length = d * Shape.prod ds) :
    Ops.getSlice (d :: ds) xs [.single (Int.ofNat c), .ellipsis] ds =
      .ok (Ops.slice xs (c * Shape.prod ds) (Shape.prod ds)) := by
  unfold Ops.getSlice
  rw [Ops.mapM_eq_ok_map _ (fun i => xs.getD (c * Shape.prod ds + i) 0)]
  · rw [map_range_eq_slice]
    have : (c + 1) * Shape.prod ds ≤ d * Shape.prod ds := Nat.mul_le_mul_right _ hc
    rw [Nat.add_mul, Nat.one_mul] at this
    omega
  · intro i hi
    have hi' : i < Shape.prod ds := List.mem_range.mp hi
    have hv := Shape.numberToIndex_valid hp hi'
    rw [sliceIndex_single_ellipsis d c ds _ (Shape.validIdx_length hv)]
    simp only []
    rw [Shape.indexToNumber_cons, Nat.mod_eq_of_lt hc, Shape.indexToNumber_numberToIndex hp hi']

theorem a2v_inv {a : VE} {r : TV.Ty × EV} (h : liftE .arrayToVector [a] = some r) :
    ∃ d rest st xs, a = some (.array (d :: rest) st, .arr xs) ∧
      hasTypeB (.array (d :: rest) st) (.arr xs) = true ∧
      r = (.vector d (arrOrScalar rest st), .vec ((Ops.arrayToVector (d :: rest) xs).map .arr)) := by
  obtain ⟨ta, ea, rfl, hb, hi, he⟩ := liftE_one.mp h
  have hv := infer_result_valid hi rfl
  obtain ⟨s, st, hta, hr⟩ := inferArrayToVector_ok (infer_ok_raw hi)
  cases hta
  obtain ⟨xs, rfl, _⟩ := hasTypeB_array hb
  rw [evalOp_arrayToVector xs hi] at he
  obtain ⟨t, v⟩ := r
  cases he
  cases hr
  cases s with
  | nil => cases hv
  | cons d rest =>
    refine ⟨d, rest, st, xs, rfl, hb, ?_⟩
    cases rest with
    | nil => rfl
    | cons e rest => rfl

theorem a2v_row (d c : Nat) (rest xs : List Nat) (hc : c < d) (hp : 0 < Shape.prod rest)
    (hlen : xs.length = d * Shape.prod rest) :
    ((Ops.arrayToVector (d :: rest) xs).map EV.arr)[c]? =
      some (.arr (Ops.slice xs (c * Shape.prod rest) (Shape.prod rest))) := by
  have hdiv : xs.length / Shape.prod rest = d := by rw [hlen, Nat.mul_div_cancel _ hp]
  simp only [Ops.arrayToVector, Ops.chunks, List.drop_one, List.tail_cons, hdiv, List.map_map,
    List.getElem?_map, List.getElem?_range hc]
  rfl

theorem vectorGet_a2v {a i : VE} {r : TV.Ty × EV}
    (h : liftE .vectorGet [liftE .arrayToVector [a], i] = some r) :
    ∃ d rest st xs sti x, a = some (.array (d :: rest) st, .arr xs) ∧
      i = some (.scalar sti, .arr [x]) ∧ hasTypeB (.array (d :: rest) st) (.arr xs) = true ∧
      x < d ∧ (arrOrScalar rest st).isValid = true ∧
      r = (arrOrScalar rest st, .arr (Ops.slice xs (x * Shape.prod rest) (Shape.prod rest))) := by
  obtain ⟨n, cs, sti, x, hv, rfl, _, _, _, _, hxn, hget, hval⟩ := vectorGet_eq_some.mp h
  obtain ⟨d, rest, st, xs, rfl, hb, hw⟩ := a2v_inv hv
  obtain ⟨t, v⟩ := r
  simp only [Prod.mk.injEq, Ty.vector.injEq, EV.vec.injEq] at hw
  obtain ⟨⟨rfl, rfl⟩, rfl⟩ := hw
  obtain ⟨_, hxs, hlen, _⟩ := hasTypeB_array hb
  cases hxs
  rw [a2v_row n x rest xs hxn (Shape.prod_pos (pos_of_arrOrScalar_valid hval)) hlen] at hget
  cases hget
  exact ⟨n, rest, st, xs, sti, x, rfl, rfl, hb, hxn, hval, rfl⟩

theorem get_eval (d c : Nat) (st : ST) (xs : List Nat) (hc : c < d)
    (hb : hasTypeB (.array [d] st) (.arr xs) = true) :
    liftE (.get [c]) [some (.array [d] st, .arr xs)] = some (.scalar st, .arr (Ops.slice xs c 1)) := by
  have hi : infer (.get [c]) [.array [d] st] = .ok (.scalar st) :=
    infer_of_raw rfl (show inferGet [c] [.array [d] st] = _ by simp [inferGet, allLt, hc]) rfl
  refine liftE_one.mpr ⟨_, _, rfl, hb, hi, ?_⟩
  rw [evalOp_get xs hi]
  -- `Ops.get` on the shape `[d]` at the index `[c]` is the chunk of one entry at position `c % d`
  simp [dimsE, Ops.get, Shape.indexToNumber, Shape.i2nAux, Shape.prod, Nat.mod_eq_of_lt hc]

theorem getSlice_eval (d c : Nat) (rest : List Nat) (st : ST) (xs : List Nat) (hc : c < d)
    (hne : rest ≠ []) (hv : (Ty.array rest st).isValid = true)
    (hb : hasTypeB (.array (d :: rest) st) (.arr xs) = true) :
    liftE (.getSlice [.single (Int.ofNat c), .ellipsis]) [some (.array (d :: rest) st, .arr xs)] =
      some (.array rest st, .arr (Ops.slice xs (c * Shape.prod rest) (Shape.prod rest))) := by
  have hp : Shape.pos rest := (valid_array hv).2
  have hs : TI.getSliceShape (d :: rest) [.single (Int.ofNat c), .ellipsis] = .ok rest :=
    (getSliceShape_single_ellipsis _ _ _).mpr ⟨d, rfl, hc, hp⟩
  have harr : arrOrScalar rest st = .array rest st := by
    cases rest with
    | nil => exact absurd rfl hne
    | cons e rest => rfl
  have hi : infer (.getSlice [.single (Int.ofNat c), .ellipsis]) [.array (d :: rest) st] =
      .ok (.array rest st) :=
    infer_of_raw rfl
      (show inferGetSlice _ [.array (d :: rest) st] = _ by simp only [inferGetSlice, hs, harr]) hv
  refine liftE_one.mpr ⟨_, _, rfl, hb, hi, ?_⟩
  rw [evalOp_getSlice xs hi]
  simp only [dimsE, List.map_cons, List.map_nil, toSE]
  obtain ⟨_, hxs, hlen, _⟩ := hasTypeB_array hb
  cases hxs
  rw [getSlice_single_ellipsis d c rest xs hp hc hlen]
  rfl

theorem a2vGet_law (T : Tab) (a : VE) (vid c : Nat)
    (hok : okE (semE T .vectorGet [semE T .arrayToVector [a], semE T (.constant vid (some c)) []])) :
    semE T .vectorGet [semE T .arrayToVector [a], semE T (.constant vid (some c)) []] =
      match tyvE T a with
      | .arr 1 _ => semE T (.get c) [a]
      | _ => semE T (.getSlice c) [a] := by
  obtain ⟨r, hr⟩ := okE_iff.mp hok
  rw [hr]
  dsimp only [semE] at hr ⊢
  obtain ⟨d, rest, st, xs, sti, x, rfl, hi, hb, hxd, hval, rfl⟩ := vectorGet_a2v hr
  have hx : x = c := by
    split at hi
    · cases hi
      rfl
    · cases hi
  subst hx
  -- a 1-dimensional array is read with Get, any other with GetSlice `[c, ...]`: both yield row `c`
  cases rest with
  | nil =>
    rw [get_eval d x st xs hxd hb, Shape.prod, Nat.mul_one]
    rfl
  | cons e rest =>
    rw [getSlice_eval d x (e :: rest) st xs hxd (List.cons_ne_nil e rest) hval hb]
    rfl

theorem ty_get_law (T : Tab) (a : VE) (c st : Nat) (h : tyvE T a = .arr 1 st)
    (hok : okE (semE T (.get c) [a])) : tyvE T (semE T (.get c) [a]) = .arr 0 st := by
  obtain ⟨r, hr⟩ := okE_iff.mp hok
  rw [hr]
  dsimp only [semE] at hr
  obtain ⟨ta, ea, rfl, _, hi, _⟩ := liftE_one.mp hr
  obtain ⟨os, st0, hta, _, _, ht⟩ := inferGet_ok (idx := [c]) (infer_ok_raw hi)
  cases hta
  simp only [tyvE, sumTy, Optimizer.Ty.arr.injEq] at h
  rw [List.length_singleton, if_pos h.1.symm] at ht
  rw [tyvE, ht, sumTy, h.2]

theorem ty_getSlice_law (T : Tab) (a : VE) (c : Nat) (hok : okE (semE T (.getSlice c) [a])) :
    tyvE T (semE T (.getSlice c) [a]) =
      match tyvE T a with
      | .arr nd st => .arr (nd - 1) st
      | _ => .other := by
  obtain ⟨r, hr⟩ := okE_iff.mp hok
  rw [hr]
  dsimp only [semE] at hr
  obtain ⟨ta, ea, rfl, _, hi, _⟩ := liftE_one.mp hr
  obtain ⟨os, st0, ns, hta, hs, ht⟩ := inferGetSlice_ok (infer_ok_raw hi)
  cases hta
  obtain ⟨d, rfl, _, _⟩ := (getSliceShape_single_ellipsis _ _ _).mp hs
  rw [tyvE, ht, sumTy_arrOrScalar]
  rfl

end CCV.OptEval
