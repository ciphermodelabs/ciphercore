import CCV.Model.Ops
import CCV.Model.Spec
import CCV.Lemmas.Shape
import CCV.Lemmas.Blocks
-- not used here: the statements of C07, C10 and C16 downstream are elaborated with Mathlib's instances in scope
import Mathlib.Tactic.Ring
import Mathlib.Tactic.Linarith

/-!
  Structural operations of the evaluator model: `get` against the index-function specification,
  success and error case of `gather`, the two-level block decomposition of `concatenate`.
-/
namespace CCV.Ops
open CCV CCV.Shape

theorem get_spec (shape xs sub J : List Nat) (_hk : sub.length ≤ shape.length)
    (hs : validIdx sub (shape.take sub.length)) (hJ : validIdx J (shape.drop sub.length)) :
    (get shape xs sub).getD (flat J (shape.drop sub.length)) 0
      = Spec.get (Spec.ofFlat shape xs) sub J := by
  have hsh : flat (sub ++ J) shape
      = flat (sub ++ J) (shape.take sub.length ++ shape.drop sub.length) := by
    rw [List.take_append_drop]
  simp only [get, Spec.get, Spec.ofFlat]
  rw [slice_getD _ _ _ _ (flat_lt hJ), indexToNumber_eq_flat hs, hsh,
    flat_append (validIdx_length hs)]

example : get [2, 3] [10, 11, 12, 20, 21, 22] [1] = [20, 21, 22] := by decide

/-- `C10.gather_eq_spec` without its hypothesis `prod shape ≤ xs.length`.  FALSE (counterexample
    below: a too short `xs` makes the copied rows shorter than `rowSize`, so later rows move to
    the left). -/
def gather_specStatement : Prop :=
  ∀ (shape xs indices ishape : List Nat) (axis : Nat) (_haxis : axis < shape.length)
    (_hidx : ∀ x ∈ indices, x < shape.getD axis 0) (_hil : indices.length = prod ishape)
    (P Q R : List Nat) (_hP : validIdx P (shape.take axis)) (_hQ : validIdx Q ishape)
    (_hR : validIdx R (shape.drop (axis + 1))),
    ∃ r, gather shape xs indices axis = .ok r ∧
      r.getD (flat (P ++ Q ++ R) (shape.take axis ++ ishape ++ shape.drop (axis + 1))) 0
        = Spec.ofFlat shape xs (P ++ [indices.getD (flat Q ishape) 0] ++ R)

/-- counterexample to `gather_specStatement`: shape `[2,2]`, `xs = [1,2,3]` (one entry short),
    `indices = [1,0]`, axis 0: the result is `[3,1,2]`, and `R[1,0] = 2 ≠ A[0,0] = 1`. -/
example : gather [2, 2] [1, 2, 3] [1, 0] 0 = .ok [3, 1, 2] ∧
    ([3, 1, 2] : List Nat).getD (flat ([] ++ [1] ++ [0]) ([] ++ [2] ++ [2])) 0 = 2 ∧
    Spec.ofFlat [2, 2] [1, 2, 3] ([] ++ [([1, 0] : List Nat).getD (flat [1] [2]) 0] ++ [0]) = 1 :=
  ⟨rfl, by decide, by decide⟩

example : gather [3, 2] [10, 11, 20, 21, 30, 31] [2, 0, 2] 0 = .ok [30, 31, 10, 11, 30, 31] := rfl

theorem gather_ok (shape xs indices : List Nat) (axis : Nat)
    (hidx : ∀ x ∈ indices, x < shape.getD axis 0) :
    gather shape xs indices axis = .ok (((List.range (prod (shape.take axis))).flatMap fun ai =>
      indices.map fun ie => slice xs ((ai * shape.getD axis 0 + ie) * prod (shape.drop (axis + 1)))
        (prod (shape.drop (axis + 1)))).flatMap id) := by
  have hL : ((List.range (prod (shape.take axis))).flatMap fun ai => indices.map fun ie =>
      if shape.getD axis 0 ≤ ie then (Except.error "Incorrect index" : Except String (List Nat))
      else Except.ok (slice xs ((ai * shape.getD axis 0 + ie) * prod (shape.drop (axis + 1)))
        (prod (shape.drop (axis + 1)))))
      = ((List.range (prod (shape.take axis))).flatMap fun ai => indices.map fun ie =>
          slice xs ((ai * shape.getD axis 0 + ie) * prod (shape.drop (axis + 1)))
            (prod (shape.drop (axis + 1)))).map Except.ok := by
    rw [List.map_flatMap]
    congr 1; funext ai
    rw [List.map_map]
    apply List.map_congr_left
    intro ie hie
    exact if_neg (Nat.not_le.mpr (hidx ie hie))
  simp only [gather]
  rw [hL, mapM_id_ok]
  rfl

theorem gather_err (shape xs indices : List Nat) (axis : Nat) (hpos : 0 < prod (shape.take axis))
    (hbad : ∃ x ∈ indices, shape.getD axis 0 ≤ x) :
    ∃ e, gather shape xs indices axis = .error e := by
  obtain ⟨x, hx, hle⟩ := hbad
  have hmem : (Except.error "Incorrect index" : Except String (List Nat)) ∈
      ((List.range (prod (shape.take axis))).flatMap fun ai => indices.map fun ie =>
        if shape.getD axis 0 ≤ ie then (Except.error "Incorrect index" : Except String (List Nat))
        else Except.ok (slice xs ((ai * shape.getD axis 0 + ie) * prod (shape.drop (axis + 1)))
          (prod (shape.drop (axis + 1))))) := by
    simp only [List.mem_flatMap, List.mem_range, List.mem_map]
    exact ⟨0, hpos, x, hx, if_pos hle⟩
  obtain ⟨e', he'⟩ := mapM_id_error _ _ hmem
  refine ⟨e', ?_⟩
  simp only [gather]
  rw [he']; rfl

example : gather [3, 2] [10, 11, 20, 21, 30, 31] [2, 3] 0 = .error "Incorrect index" := rfl

/-- the two-level block decomposition of `concatenate`, positions written as in `flat_axis`:
    outer block `a`, then the inputs one after the other, input `t` starting at row
    `Σ_{u<t} shape_u[axis]` -/
theorem concatenate_core (axis : Nat) (inputs : List (List Nat × List Nat)) (sr : List Nat)
    (N IL S : Nat) (hN : prod (sr.take axis) = N) (hIL : prod (sr.drop (axis + 1)) = IL)
    (hin : ∀ p ∈ inputs, p.2.length = N * p.1.getD axis 0 * IL)
    (hS : S = (inputs.map fun p => p.1.getD axis 0).sum)
    (t : Nat) (ht : t < inputs.length) (a x r : Nat)
    (ha : a < N) (hx : x < inputs[t].1.getD axis 0) (hr : r < IL) :
    (concatenate axis inputs sr)[(a * S
        + (x + ((inputs.take t).map fun p => p.1.getD axis 0).sum)) * IL + r]?
      = inputs[t].2[(a * inputs[t].1.getD axis 0 + x) * IL + r]? := by
  have el : (a * S + (x + ((inputs.take t).map fun p => p.1.getD axis 0).sum)) * IL + r
      = a * (S * IL) + (((inputs.take t).map fun p => p.1.getD axis 0).sum * IL + (x * IL + r)) := by
    rw [Nat.add_comm x, Nat.add_mul, Nat.add_mul, Nat.mul_assoc, Nat.add_assoc, Nat.add_assoc]
  have er : (a * inputs[t].1.getD axis 0 + x) * IL + r
      = a * inputs[t].1.getD axis 0 * IL + (x * IL + r) := by
    rw [Nat.add_mul, Nat.add_assoc]
  rw [el, er]
  have hblk : ∀ ai, ai < N → ∀ p ∈ inputs,
      (slice p.2 (ai * p.1.getD axis 0 * IL) (p.1.getD axis 0 * IL)).length
        = p.1.getD axis 0 * IL := by
    intro ai hai p hp
    apply slice_length
    rw [hin p hp, Nat.mul_assoc, Nat.mul_assoc]
    exact block_le _ hai
  have hoff := sum_take_le inputs (fun p => p.1.getD axis 0) t ht
  rw [← hS] at hoff
  have hi2 : x * IL + r < inputs[t].1.getD axis 0 * IL := block_lt hx hr
  have hi1 : ((inputs.take t).map fun p => p.1.getD axis 0).sum * IL + (x * IL + r) < S * IL := by
    rw [← Nat.add_assoc, ← Nat.add_mul]
    exact block_lt (Nat.lt_of_lt_of_le (Nat.add_lt_add_left hx _) hoff) hr
  simp only [concatenate, hN, hIL]
  rw [flatMap_getElem?_const (List.range N) _ (S * IL) ?_ a _ (by simpa using ha) hi1]
  · simp only [List.getElem_range]
    have hsum : ((inputs.take t).map fun p => p.1.getD axis 0).sum * IL
        = ((inputs.take t).map fun p : List Nat × List Nat =>
            (slice p.2 (a * p.1.getD axis 0 * IL) (p.1.getD axis 0 * IL)).length).sum := by
      rw [← sum_map_mul]
      congr 1
      apply List.map_congr_left
      intro p hp
      exact (hblk a ha p (List.mem_of_mem_take hp)).symm
    rw [hsum]
    rw [flatMap_getElem?_var inputs
      (fun p : List Nat × List Nat => slice p.2 (a * p.1.getD axis 0 * IL) (p.1.getD axis 0 * IL))
      t _ ht (by rw [hblk a ha _ (List.getElem_mem ht)]; exact hi2)]
    exact slice_getElem? _ _ _ _ hi2
  · intro ai hai
    rw [List.length_flatMap]
    have hai' : ai < N := by simpa using hai
    have : (inputs.map fun p : List Nat × List Nat =>
        (slice p.2 (ai * p.1.getD axis 0 * IL) (p.1.getD axis 0 * IL)).length)
        = inputs.map fun p => p.1.getD axis 0 * IL :=
      List.map_congr_left fun p hp => hblk ai hai' p hp
    rw [this, sum_map_mul, hS]

example : concatenate 1 [([2, 1], [1, 2]), ([2, 2], [3, 4, 5, 6])] [2, 3] = [1, 3, 4, 2, 5, 6] := by
  decide

end CCV.Ops
