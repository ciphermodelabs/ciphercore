import CCV.Lemmas.InlineBatchDefs
import CCV.Lemmas.Inline
import CCV.Lemmas.Shape
import CCV.Lemmas.OpsMat
import CCV.Lemmas.OpsReduce
/-
  C07, batched small-state inliner: BIT arithmetic and the matrix-product half.
  `rowMat β` reads the `D × D` block of row `β` of a batched mapping array as a GF(2) matrix; it is
  a homomorphism from the batched BIT `matmul` (`combine`) to `matMul D`, unconditionally (entries
  are read modulo 2, as the evaluator does), so every prefix algorithm commutes with it
  (Lemmas/InlineMap.lean).
-/
namespace CCV.InlineBatch
open CCV CCV.Shape CCV.Ops CCV.Inline

theorem getD_eq_get {α : Type} (l : List α) (d : α) (i : Nat) (h : i < l.length) : l.getD i d = l[i] := by
  rw [List.getD_eq_getElem?_getD, List.getElem?_eq_getElem h, Option.getD_some]

theorem getD_of_le {l : List Nat} {p : Nat} (h : l.length ≤ p) : l.getD p 0 = 0 := by
  rw [List.getD_eq_getElem?_getD, List.getElem?_eq_none h, Option.getD_none]

/-! ### BIT scalars: stored entries are read modulo 2, sums are `xor`, products are `and` -/

theorem bit_toInt_beq (r : Nat) : ST.bit.toInt r = (((r % 2 == 1).toNat : Nat) : Int) := by
  rw [bit_toInt]
  rcases Nat.mod_two_eq_zero_or_one r with h | h <;> rw [h] <;> rfl

theorem toNat_mod_two_beq (b : Bool) : (b.toNat % 2 == 1) = b := by cases b <;> rfl

theorem toNat_beq_one (b : Bool) : (b.toNat == 1) = b := by cases b <;> rfl

theorem toNat_beq_of_lt : ∀ (v : Nat), v < 2 → (v == 1).toNat = v
  | 0, _ => rfl
  | 1, _ => rfl
  | _ + 2, h => absurd h (Nat.not_lt_of_le (Nat.le_add_left 2 _))

theorem toNat_xor (x y : Bool) : (xor x y).toNat = (x.toNat + y.toNat) % 2 := by cases x <;> cases y <;> rfl

theorem toNat_and (x y : Bool) : (x && y).toNat = x.toNat * y.toNat := by cases x <;> cases y <;> rfl

theorem bit_add (a b : Nat) :
    ST.bit.ofInt (Arith.int .add (ST.bit.toInt a) (ST.bit.toInt b)) = (xor (a % 2 == 1) (b % 2 == 1)).toNat := by
  rw [bit_toInt_beq, bit_toInt_beq]
  cases (a % 2 == 1) <;> cases (b % 2 == 1) <;> rfl

theorem bit_mul (a b : Nat) :
    ST.bit.ofInt (Arith.int .mul (ST.bit.toInt a) (ST.bit.toInt b)) = ((a % 2 == 1) && (b % 2 == 1)).toNat := by
  rw [bit_toInt_beq, bit_toInt_beq]
  cases (a % 2 == 1) <;> cases (b % 2 == 1) <;> rfl

theorem bit_dot (a b : Nat → Nat) (K : Nat) :
    ST.bit.ofInt (Spec.sumTo K fun k => ST.bit.toInt (a k) * ST.bit.toInt (b k))
      = (xsum K fun k => (a k % 2 == 1) && (b k % 2 == 1)).toNat := by
  have key : (Spec.sumTo K fun k => ST.bit.toInt (a k) * ST.bit.toInt (b k)) % 2
      = (((xsum K fun k => (a k % 2 == 1) && (b k % 2 == 1)).toNat : Nat) : Int) := by
    induction K with
    | zero => rfl
    | succ K ih =>
      rw [sumTo_succ, xsum, bit_toInt_beq, bit_toInt_beq, toNat_xor, toNat_and, ← Int.natCast_mul]
      omega
  show (_ % (2 : Int)).toNat = _
  rw [key]
  rfl

theorem okD_arith_length (op : Arith) (sh a b : List Nat) : (okD (arith op .bit sh a sh b sh)).length = prod sh := by
  obtain ⟨r, h1, h2, _⟩ := arith_spec op .bit sh a sh b sh (bcOK_refl sh) (bcOK_refl sh)
  rw [h1]
  exact h2

theorem okD_arith_entry (op : Arith) (sh a b : List Nat) (hpos : pos sh) (q : Nat) (hq : q < prod sh) :
    (okD (arith op .bit sh a sh b sh)).getD q 0
      = ST.bit.ofInt (op.int (ST.bit.toInt (a.getD q 0)) (ST.bit.toInt (b.getD q 0))) := by
  obtain ⟨r, h1, _, h3⟩ := arith_spec op .bit sh a sh b sh (bcOK_refl sh) (bcOK_refl sh)
  have hv := numberToIndex_valid hpos hq
  have hf := flat_numberToIndex hpos hq
  have := h3 _ hv
  rw [hf] at this
  rw [h1]
  show r.getD q 0 = _
  rw [this]
  simp only [Spec.arith, Spec.ofFlat, bcIdx_self hv, hf]

theorem okD_arith_bits (op : Arith) (sh a b : List Nat) (hpos : pos sh) (p : Nat) :
    (okD (arith op .bit sh a sh b sh)).getD p 0 < 2 := by
  by_cases hp : p < prod sh
  · rw [okD_arith_entry op sh a b hpos p hp]
    show (_ % (2 : Int)).toNat < 2
    omega
  · rw [getD_of_le (by rw [okD_arith_length]; omega)]
    exact Nat.zero_lt_two

theorem bitAdd_entry (sh a b : List Nat) (hpos : pos sh) (q : Nat) (hq : q < prod sh) :
    (bitAdd sh a b).getD q 0 = (xor (a.getD q 0 % 2 == 1) (b.getD q 0 % 2 == 1)).toNat := by
  rw [bitAdd, okD_arith_entry .add sh a b hpos q hq, bit_add]

theorem bitMul_entry (sh a b : List Nat) (hpos : pos sh) (q : Nat) (hq : q < prod sh) :
    (bitMul sh a b).getD q 0 = ((a.getD q 0 % 2 == 1) && (b.getD q 0 % 2 == 1)).toNat := by
  rw [bitMul, okD_arith_entry .mul sh a b hpos q hq, bit_mul]

def rowMat (B : List Nat) (D : Nat) (β : List Nat) (A : List Nat) : Mat :=
  fun i j => decide (i < D) && decide (j < D) && (A.getD (flat (β ++ [i, j]) (B ++ [D, D])) 0 % 2 == 1)

theorem matmul_bit (B : List Nat) (N K M : Nat) (hK : 0 < K) (a b β : List Nat) (hβ : validIdx β B) (i j : Nat)
    (hi : i < N) (hj : j < M) :
    (matmul .bit (B ++ [N, K]) a (B ++ [K, M]) b (B ++ [N, M])).getD (flat (β ++ [i, j]) (B ++ [N, M])) 0
      = (xsum K fun k => (a.getD (flat (β ++ [i, k]) (B ++ [N, K])) 0 % 2 == 1)
          && (b.getD (flat (β ++ [k, j]) (B ++ [K, M])) 0 % 2 == 1)).toNat := by
  rw [matmul_spec .bit B B B a b N K M (bcOK_refl B) (bcOK_refl B) hK β i j hβ hi hj, bcIdx_self hβ]
  exact bit_dot _ _ K

/-- `MappingCombiner::combine` (batched BIT matmul) acts on every row as the GF(2) matrix product -/
theorem combine_rowMat (B : List Nat) (K : Nat) (β : List Nat) (hβ : validIdx β B) (a b : List Nat) :
    rowMat B (2 ^ K) β (combine B K a b) = matMul (2 ^ K) (rowMat B (2 ^ K) β a) (rowMat B (2 ^ K) β b) := by
  funext i j
  simp only [rowMat, matMul]
  by_cases hi : i < 2 ^ K
  · by_cases hj : j < 2 ^ K
    · rw [combine, matmul_bit B _ _ _ (Nat.pow_pos (by omega)) a b β hβ i j hi hj, toNat_mod_two_beq]
      simp only [hi, hj, decide_true, Bool.true_and]
      apply xsum_congr
      intro k hk
      simp only [hk, decide_true, Bool.true_and]
    · simp only [hj, decide_false, Bool.and_false, Bool.false_and, xsum_false]
  · simp only [hi, decide_false, Bool.false_and, xsum_false]

theorem flat_row1 (B β : List Nat) (hβ : validIdx β B) (K k : Nat) :
    flat (β ++ [0, k]) (B ++ [1, K]) = flat (β ++ [k]) (B ++ [K]) := by
  rw [flat_append (validIdx_length hβ), flat_append (validIdx_length hβ)]
  simp only [flat, prod, Nat.mul_one, Nat.zero_mul, Nat.zero_add, Nat.one_mul, Nat.add_zero]

theorem matmul_length (st : ST) (b0 b1 xs ys sr : List Nat) (N K M K' : Nat) :
    (matmul st (b0 ++ [N, K]) xs (b1 ++ [K', M]) ys sr).length = prod sr := by
  unfold matmul
  have h : ¬ ((b0 ++ [N, K]).length = 1 ∧ (b1 ++ [K', M]).length = 1) := by
    simp only [List.length_append, List.length_cons, List.length_nil]
    omega
  simp only [h, if_false, List.length_map, List.length_range]

/-- row `β`, bit `k` of `extract_state_from_mapping`: the one-hot row vector `v` of row `β` times the
    row's block of the mapping, decoded with the mask array -/
theorem extractState_entry (B : List Nat) (K : Nat) (β : List Nat) (hβ : validIdx β B) (k : Nat) (hk : k < K)
    (oh0 masks mapping : List Nat) (v : Nat → Bool)
    (hv : ∀ j, j < 2 ^ K → (oh0.getD (flat (β ++ [0, j]) (B ++ [1, 2 ^ K])) 0 % 2 == 1) = v j)
    (hm : ∀ m, m < 2 ^ K → masks.getD (flat (β ++ [m, k]) (B ++ [2 ^ K, K])) 0 = (m.testBit k).toNat) :
    (extractState B K oh0 masks mapping).getD (flat (β ++ [k]) (B ++ [K])) 0
      = (decodeBit (2 ^ K) (vecMul (2 ^ K) v (rowMat B (2 ^ K) β mapping)) k).toNat := by
  have hD : 0 < 2 ^ K := Nat.pow_pos (by omega)
  rw [extractState, ← flat_row1 B β hβ K k, matmul_bit B 1 _ K hD _ masks β hβ 0 k (by omega) hk]
  congr 1
  apply xsum_congr
  intro m hmD
  rw [hm m hmD, toNat_mod_two_beq, matmul_bit B 1 _ _ hD oh0 mapping β hβ 0 m (by omega) hmD,
    toNat_mod_two_beq]
  congr 1
  apply xsum_congr
  intro i hi
  simp only [rowMat, hv i hi, hi, hmD, decide_true, Bool.true_and]

theorem extractState_length (B : List Nat) (K : Nat) (oh0 masks mapping : List Nat) :
    (extractState B K oh0 masks mapping).length = prod (B ++ [K]) := by
  rw [extractState, matmul_length, prod_append, prod_append]
  simp only [prod, Nat.mul_one, Nat.one_mul]

end CCV.InlineBatch
