import Mathlib.Algebra.Group.Basic
import CCV.Lemmas.PivotCore
/-
  The mask ("pivot") discipline and its soundness, for every additive commutative group.

  A party receives messages `m₁ … mₙ` (listed here LAST FIRST).  Each message is a function of the
  secrets `x : X` and of the tape `ρ : ℕ → R` of mask values the party does not know.
  The discipline: every message has a *pivot* mask that enters it additively with coefficient ±1
  (`Shift`), and no EARLIER message depends on that pivot (`IndepOf`).  Older masks may enter a
  message in any way, linear or not.
  Soundness (`exists_sim`): for any two secret vectors there is a bijection of tapes that aligns all
  messages and moves only pivot coordinates.  The argument is `PivotCore.exists_sim`; what is shown here
  is that a `Shift` message can be solved for its pivot (`Shift.solves`).
-/
set_option linter.unusedSectionVars false
namespace CCV.Pivot
variable {R X : Type} [AddCommGroup R]

def upd (ρ : Nat → R) (v : Nat) (a : R) : Nat → R := fun w => if w = v then a else ρ w

@[simp] theorem upd_same (ρ : Nat → R) (v : Nat) (a : R) : upd ρ v a v = a := PivotCore.upd_same ρ v a

theorem upd_other (ρ : Nat → R) {v w : Nat} (a : R) (h : w ≠ v) : upd ρ v a w = ρ w :=
  PivotCore.upd_other ρ a h

theorem upd_comm (ρ : Nat → R) {u v : Nat} (a b : R) (h : u ≠ v) :
    upd (upd ρ u a) v b = upd (upd ρ v b) u a := PivotCore.upd_comm ρ a b h

@[simp] theorem upd_upd (ρ : Nat → R) (v : Nat) (a b : R) : upd (upd ρ v a) v b = upd ρ v b :=
  PivotCore.upd_upd ρ v a b

@[simp] theorem upd_self (ρ : Nat → R) (v : Nat) : upd ρ v (ρ v) = ρ := PivotCore.upd_self ρ v

structure Msg (X R : Type) where
  f : X → (Nat → R) → R
  piv : Nat
  neg : Bool

def sg (b : Bool) (c : R) : R := if b then -c else c

@[simp] theorem sg_sg (b : Bool) (c : R) : sg b (sg b c) = c := by
  cases b
  · rfl
  · exact neg_neg c
theorem sg_add (b : Bool) (c d : R) : sg b (c + d) = sg b c + sg b d := by
  cases b
  · rfl
  · exact neg_add c d
theorem sg_sub (b : Bool) (c d : R) : sg b (c - d) = sg b c - sg b d := by
  cases b
  · rfl
  · exact neg_sub' c d
@[simp] theorem sg_zero (b : Bool) : sg b (0 : R) = 0 := by
  cases b
  · rfl
  · exact neg_zero

def IndepOf (m : Msg X R) (u : Nat) : Prop := ∀ x ρ a, m.f x (upd ρ u a) = m.f x ρ

def Shift (m : Msg X R) : Prop :=
  ∀ x ρ a, m.f x (upd ρ m.piv a) = m.f x ρ + sg m.neg (a - ρ m.piv)

inductive Disc : List (Msg X R) → Prop
  | nil : Disc []
  | cons (m : Msg X R) (rest : List (Msg X R)) :
      Shift m → (∀ m' ∈ rest, IndepOf m' m.piv ∧ m'.piv ≠ m.piv) → Disc rest → Disc (m :: rest)

structure Sim (msgs : List (Msg X R)) (x x' : X) (σ τ : (Nat → R) → (Nat → R)) : Prop where
  left : ∀ ρ, τ (σ ρ) = ρ
  right : ∀ ρ, σ (τ ρ) = ρ
  align : ∀ ρ, ∀ m ∈ msgs, m.f x ρ = m.f x' (σ ρ)
  fixσ : ∀ ρ v, (∀ m ∈ msgs, v ≠ m.piv) → σ ρ v = ρ v
  fixτ : ∀ ρ v, (∀ m ∈ msgs, v ≠ m.piv) → τ ρ v = ρ v
  commσ : ∀ u, (∀ m ∈ msgs, u ≠ m.piv ∧ IndepOf m u) → ∀ ρ a, σ (upd ρ u a) = upd (σ ρ) u a
  commτ : ∀ u, (∀ m ∈ msgs, u ≠ m.piv ∧ IndepOf m u) → ∀ ρ a, τ (upd ρ u a) = upd (τ ρ) u a

theorem shift_zero (m : Msg X R) (h : Shift m) (x : X) (ρ : Nat → R) :
    m.f x ρ = m.f x (upd ρ m.piv 0) + sg m.neg (ρ m.piv) := by
  have := h x (upd ρ m.piv 0) (ρ m.piv)
  rw [upd_upd, upd_self, upd_same, sub_zero] at this
  exact this

theorem Shift.solves {m : Msg X R} (h : Shift m) :
    PivotCore.Solves Msg.f Msg.piv m (fun x ρ c => sg m.neg (c - m.f x (upd ρ m.piv 0))) where
  blind x ρ a c := by
    show sg m.neg (c - m.f x (upd (upd ρ m.piv a) m.piv 0)) = _
    rw [upd_upd]
  hit x ρ c := by
    have := shift_zero m h x (upd ρ m.piv (sg m.neg (c - m.f x (upd ρ m.piv 0))))
    rw [upd_upd, upd_same, sg_sg, add_sub_cancel] at this
    exact this
  back x ρ := by
    show sg m.neg (m.f x ρ - m.f x (upd ρ m.piv 0)) = ρ m.piv
    rw [shift_zero m h x ρ, add_sub_cancel_left, sg_sg]

theorem Disc.pivots {msgs : List (Msg X R)} (h : Disc msgs) :
    (∀ m ∈ msgs, Shift m) ∧
      msgs.Pairwise (fun m m' => m.piv ≠ m'.piv ∧ PivotCore.IndepOf Msg.f m' m.piv) := by
  induction h with
  | nil => exact ⟨fun _ hm => (nomatch hm), .nil⟩
  | cons m rest hs hind _ ih =>
    refine ⟨fun m' hm' => ?_, .cons (fun m' hm' => ⟨fun e => (hind m' hm').2 e.symm, (hind m' hm').1⟩) ih.2⟩
    rcases List.mem_cons.1 hm' with rfl | hm'
    · exact hs
    · exact ih.1 m' hm'

theorem exists_sim : ∀ (msgs : List (Msg X R)), Disc msgs → ∀ x x' : X,
    ∃ σ τ : (Nat → R) → (Nat → R), Sim msgs x x' σ τ := by
  intro msgs h x x'
  obtain ⟨σ, τ, h1, h2⟩ := PivotCore.exists_sim Msg.f Msg.piv (fun _ _ => True) (fun _ => True) msgs
    (fun m hm => ⟨_, (h.pivots.1 m hm).solves, fun _ _ _ _ _ _ _ _ => trivial⟩) h.pivots.2 x x' trivial trivial
  exact ⟨σ, τ, ⟨h1.inv, h2.inv, h1.align, h1.fix, h2.fix, h1.comm, h2.comm⟩⟩

end CCV.Pivot
