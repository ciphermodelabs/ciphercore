import CCV.Model.Know
namespace CCV.Know
variable {A : Type}

/-- party `p`'s value `vp` agrees with the global value `vg` on every component it holds -/
def Agree (p : Nat) : HT → Val A → Val A → Prop
  | .leaf m, vp, vg => PS.mem p m = true → vp = vg
  | .nil, vp, vg => vp = vg
  | .cons h t, .cons a b, .cons a' b' => Agree p h a a' ∧ Agree p t b b'
  | .cons _ _, _, _ => False

theorem PS.mem_inter (p : Nat) (a b : PS) :
    PS.mem p (PS.inter a b) = (PS.mem p a && PS.mem p b) :=
  match p with
  | 0 | 1 | 2 | _ + 3 => rfl

theorem PS.mem_single (p o : Nat) (hp : p < 3) : PS.mem p (PS.single o) = true → p = o :=
  match p, hp with
  | 0, _ | 1, _ | 2, _ => fun h => (eq_of_beq h).symm

theorem PS.mem_none (p : Nat) : PS.mem p PS.none = false :=
  match p with
  | 0 | 1 | 2 | _ + 3 => rfl

theorem PS.mem_lt (p : Nat) (m : PS) : PS.mem p m = true → p < 3 :=
  match p with
  | 0 | 1 | 2 => fun _ => by decide
  | _ + 3 => fun h => absurd h Bool.false_ne_true

theorem PS.mem_insert (p r : Nat) (m : PS) :
    PS.mem p (PS.insert r m) = true → PS.mem p m = true ∨ p = r :=
  match p with
  | 0 | 1 | 2 => fun h => (Bool.or_eq_true_iff.1 h).imp id (fun e => (eq_of_beq e).symm)
  | _ + 3 => fun h => absurd h Bool.false_ne_true

theorem PS.mem_erase (p r : Nat) (m : PS) :
    PS.mem p (PS.erase r m) = true → PS.mem p m = true ∧ p ≠ r :=
  match p with
  | 0 | 1 | 2 => fun h =>
    ⟨(Bool.and_eq_true_iff.1 h).1, fun e => bne_iff_ne.1 (Bool.and_eq_true_iff.1 h).2 e.symm⟩
  | _ + 3 => fun h => absurd h Bool.false_ne_true

theorem PS.mem_subset (p : Nat) (a b : PS) (h : PS.subset a b = true) :
    PS.mem p a = true → PS.mem p b = true := by
  obtain ⟨⟨h0, h1⟩, h2⟩ : ((!a.p0 || b.p0) = true ∧ (!a.p1 || b.p1) = true) ∧ (!a.p2 || b.p2) = true := by
    simpa only [PS.subset, Bool.and_eq_true] using h
  have imp : ∀ x y : Bool, (!x || y) = true → x = true → y = true := by decide
  match p with
  | 0 => exact imp _ _ h0
  | 1 => exact imp _ _ h1
  | 2 => exact imp _ _ h2
  | _ + 3 => exact fun ha => absurd ha Bool.false_ne_true

theorem agree_cons (p : Nat) (h t : HT) : ∀ (vp vg : Val A), Agree p (.cons h t) vp vg →
    ∃ a b a' b', vp = .cons a b ∧ vg = .cons a' b' ∧ Agree p h a a' ∧ Agree p t b b'
  | .cons a b, .cons a' b', ⟨h1, h2⟩ => ⟨a, b, a', b', rfl, rfl, h1, h2⟩
  | .atom _, _, hf => by simp [Agree] at hf
  | .nil, _, hf => by simp [Agree] at hf
  | .cons _ _, .atom _, hf => by simp [Agree] at hf
  | .cons _ _, .nil, hf => by simp [Agree] at hf

theorem agree_meet (p : Nat) : ∀ (t : HT) (vp vg : Val A),
    Agree p t vp vg → PS.mem p (meet t) = true → vp = vg
  | .leaf _, _, _, h, hm => h hm
  | .nil, _, _, h, _ => h
  | .cons h t, vp, vg, hc, hm => by
    obtain ⟨a, b, a', b', rfl, rfl, h1, h2⟩ := agree_cons p h t vp vg hc
    replace hm : PS.mem p (PS.inter (meet h) (meet t)) = true := hm
    rw [PS.mem_inter, Bool.and_eq_true] at hm
    rw [agree_meet p h a a' h1 hm.1, agree_meet p t b b' h2 hm.2]

theorem agree_refl (p : Nat) : ∀ (t : HT) (v : Val A), Agree p t v v → True := fun _ _ _ => trivial

theorem agree_leaf_of_eq (p : Nat) (m : PS) (v : Val A) : Agree p (.leaf m) v v := fun _ => rfl

theorem agree_nth (p : Nat) : ∀ (j : Nat) (t : HT) (vp vg : Val A),
    Agree p t vp vg → Agree p (nthHT j t) (nthV j vp) (nthV j vg)
  | j, .leaf m, vp, vg, h => by
    have e : nthHT j (.leaf m) = .leaf m := by cases j <;> rfl
    rw [e]; intro hm; rw [h hm]
  | j, .nil, vp, vg, h => by
    have e : nthHT j .nil = .nil := by cases j <;> rfl
    rw [e, show vp = vg from h]; rfl
  | j, .cons h t, vp, vg, hc => by
    obtain ⟨a, b, a', b', rfl, rfl, h1, h2⟩ := agree_cons p h t vp vg hc
    cases j with
    | zero => exact h1
    | succ j => exact agree_nth p j t b b' h2

theorem agree_mkTup {δ : Type} (p : Nat) (ft : δ → HT) (fp fg : δ → Val A) : ∀ (ds : List δ),
    (∀ d ∈ ds, Agree p (ft d) (fp d) (fg d)) →
    Agree p (mkHT (ds.map ft)) (mkTup (ds.map fp)) (mkTup (ds.map fg))
  | [], _ => rfl
  | d :: ds, h =>
    ⟨h d List.mem_cons_self, agree_mkTup p ft fp fg ds (fun d' hd' => h d' (List.mem_cons_of_mem _ hd'))⟩

theorem mem_foldl_inter (p : Nat) : ∀ (ts : List HT) (acc : PS),
    PS.mem p (ts.foldl (fun acc t => PS.inter acc (meet t)) acc) = true →
    PS.mem p acc = true ∧ ∀ t ∈ ts, PS.mem p (meet t) = true
  | [], acc, h => ⟨h, fun _ ht => nomatch ht⟩
  | t :: ts, acc, h => by
    have ih := mem_foldl_inter p ts (PS.inter acc (meet t)) h
    rw [PS.mem_inter, Bool.and_eq_true] at ih
    refine ⟨ih.1.1, fun t' ht' => ?_⟩
    rcases List.mem_cons.1 ht' with rfl | h'
    · exact ih.1.2
    · exact ih.2 t' h'

theorem agree_send_other (p s r : Nat) (hpr : p ≠ r) : ∀ (t : HT) (vp vg : Val A),
    Agree p t vp vg → Agree p (sendHT s r t) vp vg
  | .leaf m, vp, vg, h => by
    intro hm
    apply h
    split at hm
    · exact (PS.mem_insert _ _ _ hm).resolve_right hpr
    · exact (PS.mem_erase _ _ _ hm).1
  | .nil, _, _, h => h
  | .cons h t, vp, vg, hc => by
    obtain ⟨a, b, a', b', rfl, rfl, h1, h2⟩ := agree_cons p h t vp vg hc
    exact ⟨agree_send_other p s r hpr h a a' h1, agree_send_other p s r hpr t b b' h2⟩

theorem agree_send_recv (s r : Nat) : ∀ (t : HT) (vs vg : Val A),
    Agree s t vs vg → Agree r (sendHT s r t) vs vg
  | .leaf m, vs, vg, h => by
    intro hm
    split at hm
    · rename_i hs; exact h hs
    · exact absurd rfl (PS.mem_erase _ _ _ hm).2
  | .nil, _, _, h => h
  | .cons h t, vs, vg, hc => by
    obtain ⟨a, b, a', b', rfl, rfl, h1, h2⟩ := agree_cons s h t vs vg hc
    exact ⟨agree_send_recv s r h a a' h1, agree_send_recv s r t b b' h2⟩

theorem agree_sends : ∀ (sends : List (Nat × Nat)) (t : HT) (v : Nat → Val A) (vg : Val A),
    (∀ p, Agree p t (v p) vg) →
    ∀ p, Agree p (applySendsHT sends t) (applySends sends v p) vg
  | [], _, _, _, h => h
  | (s, r) :: rest, t, v, vg, h => by
    apply agree_sends rest
    intro p
    by_cases hp : p = r
    · subst hp; rw [if_pos rfl]; exact agree_send_recv s p t (v s) vg (h s)
    · rw [if_neg hp]; exact agree_send_other p s r hp t (v p) vg (h p)

end CCV.Know
