import CCV.Lemmas.OptimizerEvalLift
import CCV.Lemmas.EvalOps6
/-
  Laws of the evaluator instance `semE` of the optimiser-IR semantics, part A: the algebraic laws of
  the meta-operation pass (TupleGet∘CreateTuple, NamedTupleGet∘CreateNamedTuple,
  VectorGet∘CreateVector, VectorGet∘Zip) and the type-summary facts it uses, each under the side
  condition "the left-hand side evaluates successfully".  A law that does not involve the table is
  stated for `liftE`: `semE T op` unfolds to `liftE` of the translated operation.
-/
namespace CCV.OptEval
open CCV CCV.TV CCV.TI CCV.EvalOps

theorem pair_of_getElem? {us : List (TV.Ty × EV)} {j : Nat} {r : TV.Ty × EV} (hj : j < us.length)
    (h1 : (us.map (·.1))[j]? = some r.1) (h2 : (us.map (·.2))[j]? = some r.2) :
    some r = (us.map some)[j]'(by simpa using hj) := by
  simp only [List.getElem?_map, List.getElem?_eq_getElem hj, Option.map_some, Option.some.injEq] at h1 h2
  simp only [List.getElem_map, Option.some.injEq]
  exact (Prod.ext h1 h2).symm

theorem createTuple_eq_some {vs : List VE} {w : TV.Ty × EV} :
    liftE .createTuple vs = some w ↔
      ∃ us : List (TV.Ty × EV), vs = us.map some ∧ us.all (fun w => hasTypeB w.1 w.2) = true ∧
        allValid (us.map (·.1)) = true ∧ w = (.tuple (us.map (·.1)), .vec (us.map (·.2))) := by
  rw [liftE_eq_some]
  constructor
  · rintro ⟨us, rfl, hall, hi, he⟩
    have hv := infer_result_valid hi rfl
    have hr : Except.ok (.tuple (us.map (·.1))) = .ok w.1 := infer_ok_raw hi
    rw [evalOp_createTuple _ hi] at he
    obtain ⟨t, v⟩ := w
    cases hr
    cases he
    exact ⟨us, rfl, hall, hv, rfl⟩
  · rintro ⟨us, rfl, hall, hv, rfl⟩
    have hi : infer .createTuple (us.map (·.1)) = .ok (.tuple (us.map (·.1))) :=
      infer_of_raw rfl rfl hv
    exact ⟨us, rfl, hall, hi, evalOp_createTuple _ hi⟩

theorem createNamedTuple_inv {names : List String} {vs : List VE} {w : TV.Ty × EV}
    (h : liftE (.createNamedTuple names) vs = some w) :
    ∃ us : List (TV.Ty × EV), vs = us.map some ∧
      w = (.named (names.zip (us.map (·.1))), .vec (us.map (·.2))) := by
  obtain ⟨us, rfl, _, hi, he⟩ := liftE_eq_some.mp h
  obtain ⟨_, hr⟩ := of_ite_error (infer_ok_raw hi)
  obtain ⟨_, hr⟩ := of_ite_error hr
  rw [evalOp_createNamedTuple _ hi] at he
  obtain ⟨t, v⟩ := w
  cases hr
  cases he
  exact ⟨us, rfl, rfl⟩

theorem createVector_inv {et : TV.Ty} {vs : List VE} {w : TV.Ty × EV}
    (h : liftE (.createVector et) vs = some w) :
    ∃ us : List (TV.Ty × EV), vs = us.map some ∧ (∀ u ∈ us, u.1 = et) ∧
      w = (.vector us.length et, .vec (us.map (·.2))) := by
  obtain ⟨us, rfl, _, hi, he⟩ := liftE_eq_some.mp h
  have hr : (if _ then _ else _) = _ := infer_ok_raw hi
  split at hr
  · rename_i hbeq
    rw [evalOp_createVector _ hi] at he
    obtain ⟨t, v⟩ := w
    cases hr
    cases he
    refine ⟨us, rfl, fun u hu => ?_, by rw [List.length_map]⟩
    exact Ty.eq_of_beq _ _ (List.all_eq_true.mp hbeq u.1 (List.mem_map_of_mem hu))
  · cases hr

theorem tupleGet_inv {j : Nat} {ts : List TV.Ty} {cs : List EV} {r : TV.Ty × EV}
    (h : liftE (.tupleGet j) [some (.tuple ts, .vec cs)] = some r) :
    ts[j]? = some r.1 ∧ cs[j]? = some r.2 := by
  obtain ⟨t, e, hw, _, hi, he⟩ := liftE_one.mp h
  cases hw
  refine ⟨?_, (evalOp_tupleGet hi).mp he⟩
  have hr : inferTupleGet j [.tuple ts] = .ok r.1 := infer_ok_raw hi
  simp only [inferTupleGet] at hr
  split at hr
  · rename_i hg
    cases hr
    exact hg
  · cases hr

theorem namedTupleGet_inv {nm : String} {fs : List (String × TV.Ty)} {cs : List EV} {r : TV.Ty × EV}
    (h : liftE (.namedTupleGet nm) [some (.named fs, .vec cs)] = some r) :
    lookupField nm fs = some r.1 ∧ ∃ k, fieldIdx nm fs = some k ∧ cs[k]? = some r.2 := by
  obtain ⟨t, e, hw, _, hi, he⟩ := liftE_one.mp h
  cases hw
  refine ⟨?_, (evalOp_namedTupleGet hi).mp he⟩
  have hr : inferNamedTupleGet nm [.named fs] = .ok r.1 := infer_ok_raw hi
  simp only [inferNamedTupleGet] at hr
  split at hr
  · rename_i hg
    cases hr
    exact hg
  · cases hr

theorem vectorGet_eq_some {v i : VE} {r : TV.Ty × EV} :
    liftE .vectorGet [v, i] = some r ↔
      ∃ n cs st x, v = some (.vector n r.1, .vec cs) ∧ i = some (.scalar st, .arr [x]) ∧
        (st = .u64 ∨ st = .u32) ∧ hasTypeB (.scalar st) (.arr [x]) = true ∧
        cs.length = n ∧ hasTypeBAll r.1 cs = true ∧ x < n ∧ cs[x]? = some r.2 ∧ r.1.isValid = true := by
  rw [liftE_two]
  constructor
  · rintro ⟨t1, e1, t2, e2, rfl, rfl, h1, h2, hi, he⟩
    have hv := infer_result_valid hi rfl
    obtain ⟨hidx, hr⟩ := of_ite_error (infer_ok_raw hi)
    obtain ⟨st, rfl, hst⟩ : ∃ st, t2 = .scalar st ∧ (st = .u64 ∨ st = .u32) := by
      by_cases h64 : Ty.beq t2 (.scalar .u64) = true
      · exact ⟨_, Ty.eq_of_beq _ _ h64, .inl rfl⟩
      · by_cases h32 : Ty.beq t2 (.scalar .u32) = true
        · exact ⟨_, Ty.eq_of_beq _ _ h32, .inr rfl⟩
        · exact absurd ⟨Bool.eq_false_iff.mpr h64, Bool.eq_false_iff.mpr h32⟩ hidx
    split at hr
    · cases hr
      obtain ⟨cs, rfl, hl, hcs⟩ := hasTypeB_vector h1
      obtain ⟨xs, rfl, hxs, _⟩ := hasTypeB_scalar h2
      obtain ⟨x, rfl⟩ := List.length_eq_one_iff.mp hxs
      obtain ⟨hxn, hc⟩ := (evalOp_vectorGet hi).mp he
      exact ⟨_, cs, st, x, rfl, rfl, hst, h2, hl, hcs, hxn, hc, hv⟩
    · cases hr
  · rintro ⟨n, cs, st, x, rfl, rfl, hst, hx, hl, hcs, hxn, hc, hv⟩
    have hi : infer .vectorGet [.vector n r.1, .scalar st] = .ok r.1 := by
      rcases hst with rfl | rfl
      · exact infer_of_raw rfl rfl hv
      · exact infer_of_raw rfl rfl hv
    refine ⟨_, _, _, _, rfl, rfl, ?_, hx, hi, (evalOp_vectorGet hi).mpr ⟨hxn, hc⟩⟩
    show (cs.length == n && hasTypeBAll r.1 cs) = true
    rw [hl, hcs, beq_self_eq_true]
    rfl

theorem tupleGet_law (vs : List VE) (j : Nat) (h : j < vs.length)
    (hok : okE (liftE (.tupleGet j) [liftE .createTuple vs])) :
    liftE (.tupleGet j) [liftE .createTuple vs] = vs[j] := by
  obtain ⟨r, hr⟩ := okE_iff.mp hok
  obtain ⟨t, e, hw, _⟩ := liftE_one.mp hr
  obtain ⟨us, rfl, _, _, hte⟩ := createTuple_eq_some.mp hw
  cases hte
  rw [hw] at hr ⊢
  obtain ⟨h1, h2⟩ := tupleGet_inv hr
  rw [hr]
  exact pair_of_getElem? (by simpa using h) h1 h2

theorem lookup_zip (f : Nat → String) (hf : Function.Injective f) :
    ∀ (names : List Nat) (tys : List TV.Ty) (j : Nat) (hj : j < names.length), names.Nodup →
      names.length = tys.length →
      lookupField (f names[j]) ((names.map f).zip tys) = tys[j]? ∧
      fieldIdx (f names[j]) ((names.map f).zip tys) = some j
  | n :: ns, t :: ts, 0, _, _, _ => ⟨if_pos rfl, if_pos rfl⟩
  | n :: ns, t :: ts, j + 1, hj, hnd, hl => by
    have hj' : j < ns.length := Nat.lt_of_succ_lt_succ hj
    have hnd' := List.nodup_cons.mp hnd
    have hne : ¬ f n = f ns[j] := fun he => hnd'.1 (hf he ▸ List.getElem_mem hj')
    obtain ⟨i1, i2⟩ := lookup_zip f hf ns ts j hj' hnd'.2 (Nat.succ.inj hl)
    constructor
    · exact (if_neg hne).trans i1
    · rw [List.getElem_cons_succ, List.map_cons, List.zip_cons_cons, fieldIdx, if_neg hne, i2]

theorem namedGet_law (f : Nat → String) (hf : Function.Injective f) (names : List Nat) (vs : List VE)
    (j : Nat) (h : j < vs.length) (hl : names.length = vs.length) (hnd : names.Nodup)
    (hok : okE (liftE (.namedTupleGet (f names[j]!)) [liftE (.createNamedTuple (names.map f)) vs])) :
    liftE (.namedTupleGet (f names[j]!)) [liftE (.createNamedTuple (names.map f)) vs] = vs[j] := by
  have hjn : j < names.length := by omega
  rw [getElem!_pos names j hjn] at hok ⊢
  obtain ⟨r, hr⟩ := okE_iff.mp hok
  obtain ⟨t, e, hw, _⟩ := liftE_one.mp hr
  obtain ⟨us, rfl, hte⟩ := createNamedTuple_inv hw
  cases hte
  rw [hw] at hr ⊢
  obtain ⟨h1, k, hk, h2⟩ := namedTupleGet_inv hr
  obtain ⟨i1, i2⟩ := lookup_zip f hf names (us.map (·.1)) j hjn hnd (by simpa using hl)
  rw [i1] at h1
  cases hk.symm.trans i2
  rw [hr]
  exact pair_of_getElem? (by simpa using h) h1 h2

theorem vectorGet_law (T : Tab) (t : Nat) (vs : List VE) (vid c : Nat) (h : c < vs.length)
    (hok : okE (semE T .vectorGet [semE T (.createVector t) vs, semE T (.constant vid (some c)) []])) :
    semE T .vectorGet [semE T (.createVector t) vs, semE T (.constant vid (some c)) []] = vs[c] := by
  dsimp only [semE] at hok ⊢
  obtain ⟨r, hr⟩ := okE_iff.mp hok
  rw [hr]
  obtain ⟨n, cs, st, x, hv, hi, _, _, _, _, _, hget, _⟩ := vectorGet_eq_some.mp hr
  obtain ⟨us, rfl, het, hw⟩ := createVector_inv hv
  simp only [Prod.mk.injEq, Ty.vector.injEq, EV.vec.injEq] at hw
  obtain ⟨⟨hn, het'⟩, hcs⟩ := hw
  subst hcs
  have hc : c < us.length := by simpa using h
  by_cases hc64 : c < 2 ^ 64
  · rw [if_pos hc64] at hi
    simp only [Option.some.injEq, Prod.mk.injEq, EV.arr.injEq, List.cons.injEq, and_true] at hi
    obtain ⟨_, hi⟩ := hi
    subst hi
    refine pair_of_getElem? hc ?_ hget
    rw [List.getElem?_map, List.getElem?_eq_getElem hc, Option.map_some, het _ (List.getElem_mem hc), het']
  · rw [if_neg hc64] at hi; cases hi

theorem ty_vectorGet_law (T : Tab) (v i : VE) (e : Optimizer.Ty) (h : tyvE T v = .vec e)
    (hok : okE (semE T .vectorGet [v, i])) : tyvE T (semE T .vectorGet [v, i]) = e := by
  dsimp only [semE] at hok ⊢
  obtain ⟨r, hr⟩ := okE_iff.mp hok
  obtain ⟨n, cs, st, x, rfl, _⟩ := vectorGet_eq_some.mp hr
  rw [hr]
  simp only [tyvE, sumTy, Optimizer.Ty.vec.injEq] at h
  obtain ⟨t, v⟩ := r
  exact h

theorem ty_createTuple_law (T : Tab) (vs : List VE) : tyvE T (semE T .createTuple vs) = .other := by
  dsimp only [semE]
  cases hw : liftE .createTuple vs with
  | none => rfl
  | some w =>
    obtain ⟨us, _, _, _, rfl⟩ := createTuple_eq_some.mp hw
    rfl

theorem ok_createTuple_law (T : Tab) (vs : List VE) (h : okE (semE T .createTuple vs)) :
    ∀ v ∈ vs, okE v :=
  liftE_ok_args h

theorem zip_inv {vs : List VE} {w : TV.Ty × EV} (h : liftE .zip vs = some w) :
    ∃ (us : List (TV.Ty × EV)) (n : Nat) (ets : List TV.Ty) (cols : List (List EV)),
      vs = us.map some ∧ us.all (fun w => hasTypeB w.1 w.2) = true ∧
      us.map (·.1) = ets.map (fun et => TV.Ty.vector n et) ∧ colsOf (us.map (·.2)) = some cols ∧
      us ≠ [] ∧ w = (.vector n (.tuple ets), .vec (zipRows cols)) := by
  obtain ⟨us, rfl, hall, hi, he⟩ := liftE_eq_some.mp h
  obtain ⟨cols, hc, he⟩ := (evalOp_zip hi).mp he
  obtain ⟨hlen, hr⟩ := of_ite_error (infer_ok_raw hi)
  split at hr; · cases hr
  rename_i n ets hz
  obtain ⟨t, v⟩ := w
  cases hr
  cases he
  refine ⟨us, n, ets, cols, rfl, hall, (zipGo_facts _ none n ets hz).1, hc, ?_, rfl⟩
  rintro rfl
  exact hlen (Nat.zero_lt_succ 1)

theorem zipRows_getElem? (n x : Nat) (hx : x < n) : ∀ (cols : List (List EV)), cols ≠ [] →
    (∀ c ∈ cols, c.length = n) →
    (zipRows cols)[x]? = some (.vec (cols.map fun col => col.getD x (.arr [])))
  | [], h, _ => absurd rfl h
  | c :: cs, _, hl => by
    have hmin := minLen_const n cs (fun c' hc' => hl c' (List.mem_cons_of_mem c hc'))
    simp only [zipRows, hl c List.mem_cons_self, hmin]
    rw [List.getElem?_map, List.getElem?_range hx]
    rfl

theorem zip_cols (n x : Nat) (st : ST) (hst : st = .u64 ∨ st = .u32)
    (hx : hasTypeB (.scalar st) (.arr [x]) = true) (hxn : x < n) :
    ∀ (us : List (TV.Ty × EV)) (ets : List TV.Ty) (cols : List (List EV)),
      us.map (·.1) = ets.map (fun et => TV.Ty.vector n et) → colsOf (us.map (·.2)) = some cols →
      us.all (fun w => hasTypeB w.1 w.2) = true → allValid ets = true →
      ∃ ws : List (TV.Ty × EV),
        us.map (fun u => liftE .vectorGet [some u, some (.scalar st, .arr [x])]) = ws.map some ∧
        ws.map (·.1) = ets ∧ ws.map (·.2) = cols.map (fun col => col.getD x (.arr [])) ∧
        ws.all (fun w => hasTypeB w.1 w.2) = true ∧ (∀ c ∈ cols, c.length = n) ∧
        cols.length = us.length
  | [], [], cols, _, h2, _, _ => by
    cases h2
    exact ⟨[], rfl, rfl, rfl, rfl, fun _ h => absurd h List.not_mem_nil, rfl⟩
  | (t, e) :: us, et :: ets, cols, h1, h2, h3, h4 => by
    obtain ⟨ht, hts⟩ := List.cons.inj h1
    cases ht
    rw [List.all_cons, Bool.and_eq_true] at h3
    have h4 := (Bool.and_eq_true _ _).mp h4
    obtain ⟨c, rfl, hl, hc⟩ := hasTypeB_vector h3.1
    rw [List.map_cons, colsOf] at h2
    split at h2
    · rename_i cols' hcols
      cases h2
      obtain ⟨ws, e1, e2, e3, e4, e5, e6⟩ := zip_cols n x st hst hx hxn us ets cols' hts hcols h3.2 h4.2
      have hxc : x < c.length := hl ▸ hxn
      have hget : c[x]? = some c[x] := List.getElem?_eq_getElem hxc
      refine ⟨(et, c[x]) :: ws, ?_, ?_, ?_, ?_, ?_, ?_⟩
      · have hv : liftE .vectorGet [some (.vector n et, .vec c), some (.scalar st, .arr [x])] =
            some (et, c[x]) :=
          vectorGet_eq_some.mpr ⟨n, c, st, x, rfl, rfl, hst, hx, hl, hc, hxn, hget, h4.1⟩
        rw [List.map_cons, e1, List.map_cons, hv]
      · rw [List.map_cons, e2]
      · rw [List.map_cons, e3, List.map_cons, List.getD_eq_getElem?_getD, hget]
        rfl
      · rw [List.all_cons, e4, Bool.and_true]
        exact hasTypeBAll_getElem et c x hxc hc
      · intro c' hc'
        rcases List.mem_cons.mp hc' with rfl | hc'
        · exact hl
        · exact e5 c' hc'
      · rw [List.length_cons, List.length_cons, e6]
    · cases h2

theorem zipGet_law (vs : List VE) (i : VE) (hok : okE (liftE .vectorGet [liftE .zip vs, i])) :
    liftE .vectorGet [liftE .zip vs, i] =
      liftE .createTuple (vs.map fun v => liftE .vectorGet [v, i]) := by
  obtain ⟨r, hr⟩ := okE_iff.mp hok
  rw [hr]
  obtain ⟨n, cs, st, x, hv, rfl, hst, hx, _, _, hxn, hget, hval⟩ := vectorGet_eq_some.mp hr
  obtain ⟨us, n', ets, cols, rfl, hall, htys, hcols, hne, hw⟩ := zip_inv hv
  obtain ⟨t, v⟩ := r
  cases hw
  have hval : allValid ets = true := hval
  obtain ⟨ws, e1, e2, e3, e4, e5, e6⟩ := zip_cols n x st hst hx hxn us ets cols htys hcols hall hval
  have hcne : cols ≠ [] := fun h => hne (List.length_eq_zero_iff.mp (by rw [← e6, h]; rfl))
  rw [zipRows_getElem? n x hxn cols hcne e5] at hget
  cases hget
  rw [List.map_map]
  -- each component of the row is a VectorGet that succeeds (`zip_cols`), so the tuple does
  exact (createTuple_eq_some.mpr ⟨ws, e1, e4, e2 ▸ hval, by rw [e2, e3]⟩).symm

end CCV.OptEval
