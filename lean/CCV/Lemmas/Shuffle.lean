import CCV.Model.Shuffle
import CCV.Lemmas.PivotMul
import CCV.Lemmas.Run
/- Semantics of the sort-protocol skeleton in an arbitrary group (permutations under composition) and
   soundness of `freshOk`: an accepted certificate is a disciplined message system (`PivotMul.Disc`). -/
set_option linter.unusedSectionVars false
namespace CCV.Shuffle
open CCV.PivotMul CCV.Run
variable {G : Type} [Group G]

/-- value of a node: `x` = the inputs of the protocol graph, `ρ` = the fresh shared permutations; `sem` =
    the semantics of all other operations (arbitrary) -/
def evalNode (sem : Nat → List G → G) (x ρ : Nat → G) (env : List G) (n : Node) : G :=
  let args := n.deps.map (fun d => env.getD d 1)
  match n.k with
  | .hid i => x i
  | .mask v => ρ v
  | .mul => args.getD 0 1 * args.getD 1 1
  | .op tag => sem tag args

def evalRun (sem : Nat → List G → G) (x ρ : Nat → G) : List Node → List G → List G
  | [], env => env
  | n :: g, env => evalRun sem x ρ g (env ++ [evalNode sem x ρ env n])

/-- what a class promises about the value under `upd ρ v a` (r') versus under `ρ` (r); `pos`: the value
    is `b · ρ v` with `b` independent of the mask, so the right factor `ρ v` is replaced by `a` -/
def Rel (ρ : Nat → G) (v : Nat) (a : G) : Cls → G → G → Prop
  | .indep, r, r' => r' = r
  | .pos, r, r' => r' = r * (ρ v)⁻¹ * a
  | .bad, _, _ => True

theorem rel_clsMul (ρ : Nat → G) (v : Nat) (a : G) (c1 c2 : Cls) (r1 r1' r2 r2' : G)
    (h1 : Rel ρ v a c1 r1 r1') (h2 : Rel ρ v a c2 r2 r2') :
    Rel ρ v a (clsMul c1 c2) (r1 * r2) (r1' * r2') := by
  cases c1 <;> cases c2
  case indep.indep => exact congrArg₂ (· * ·) h1 h2
  case indep.pos =>
    show r1' * r2' = r1 * r2 * (ρ v)⁻¹ * a
    rw [show r1' = r1 from h1, show r2' = r2 * (ρ v)⁻¹ * a from h2, mul_assoc r1, mul_assoc r1]
  all_goals trivial

theorem wellScoped_cons (n : Node) (g : List Node) (k : Nat) (h : wellScoped (n :: g) k = true) :
    (∀ d ∈ n.deps, d < k) ∧ wellScoped g (k + 1) = true := by
  have h' : (n.deps.all (· < k) && wellScoped g (k + 1)) = true := h
  simp only [Bool.and_eq_true, List.all_eq_true, decide_eq_true_eq] at h'
  exact h'

theorem wellScoped_lt {g : List Node} (hw : wellScoped g 0 = true) (k : Nat) (hk : k < g.length) :
    ∀ d ∈ g[k].deps, d < k :=
  scoped_lt_zero (deps := Node.deps) wellScoped_cons hw k hk

theorem clsRun_isRun (v : Nat) : IsRun (clsRun v) (clsNode v) := ⟨fun _ => rfl, fun _ _ _ => rfl⟩

theorem evalRun_isRun (sem : Nat → List G → G) (x ρ : Nat → G) :
    IsRun (evalRun sem x ρ) (evalNode sem x ρ) := ⟨fun _ => rfl, fun _ _ _ => rfl⟩

section
variable (sem : Nat → List G → G) (x ρ : Nat → G) (v : Nat) (a : G)

theorem step_rel (cl : List Cls) (env env' : List G) (n : Node)
    (hdep : ∀ d ∈ n.deps, Rel ρ v a (cl.getD d .bad) (env.getD d 1) (env'.getD d 1)) :
    Rel ρ v a (clsNode v cl n) (evalNode sem x ρ env n) (evalNode sem x (upd ρ v a) env' n) := by
  obtain ⟨k, deps⟩ := n
  cases k with
  | hid i => exact rfl
  | mask w =>
    show Rel ρ v a (if w = v then .pos else .indep) (ρ w) (upd ρ v a w)
    by_cases e : w = v
    · subst e; rw [if_pos rfl, upd_same]; exact (mul_inv_cancel_left (ρ w) a).symm.trans (mul_assoc _ _ _).symm
    · rw [if_neg e]; exact upd_other ρ a e
  | mul =>
    -- operand `j`, as `clsNode` and `evalNode` read it
    have arg : ∀ j, j < deps.length → Rel ρ v a (cl.getD (deps.getD j 0) .bad)
        ((deps.map (fun d => env.getD d 1)).getD j 1) ((deps.map (fun d => env'.getD d 1)).getD j 1) := by
      intro j hj
      rw [getD_map_lt _ deps hj, getD_map_lt _ deps hj]
      exact hdep _ (getD_mem_lt deps hj)
    show Rel ρ v a (if deps.length = 2 then _ else .bad) _ _
    by_cases h2 : deps.length = 2
    · rw [if_pos h2]
      exact rel_clsMul ρ v a _ _ _ _ _ _ (arg 0 (h2.symm ▸ Nat.zero_lt_two)) (arg 1 (h2.symm ▸ Nat.one_lt_two))
    · rw [if_neg h2]; trivial
  | op tag =>
    show Rel ρ v a (if deps.all (fun j => cl.getD j .bad == .indep) = true then .indep else .bad) _ _
    by_cases hall : deps.all (fun j => cl.getD j .bad == .indep) = true
    · rw [if_pos hall]
      exact congrArg (sem tag) (map_congr_of_all (fun _ _ h => h) hdep hall)
    · rw [if_neg hall]; trivial

theorem clsRun_sound (g : List Node) (hw : wellScoped g 0 = true) (m : Nat) (hm : m < g.length) :
    Rel ρ v a ((clsRun v g []).getD m .bad) ((evalRun sem x ρ g []).getD m 1)
      ((evalRun sem x (upd ρ v a) g []).getD m 1) :=
  ind₃ (clsRun_isRun v) (evalRun_isRun sem x ρ) (evalRun_isRun sem x (upd ρ v a)) .bad 1 1
    Node.deps g (wellScoped_lt hw) (fun _ c r r' => Rel ρ v a c r r')
    (fun k _ hdep => step_rel sem x ρ v a _ _ _ g[k] hdep) m hm

end

def toMsg (sem : Nat → List G → G) (g : List Node) (ov : Nat × Nat) : Msg (Nat → G) G :=
  ⟨fun x ρ => (evalRun sem x ρ g []).getD ov.1 1, ov.2⟩

theorem freshOkAux_disc (sem : Nat → List G → G) (g : List Node) (hw : wellScoped g 0 = true) :
    ∀ (cert : Cert), (∀ ov ∈ cert, ov.1 < g.length) →
    freshOkAux g cert = true → Disc (cert.map (toMsg sem g))
  | [], _, _ => Disc.nil
  | (o, v) :: rest, hr, h => by
    have h' : ((clsRun v g []).getD o .bad == .pos &&
        rest.all (fun (o', v') => (clsRun v g []).getD o' .bad == .indep && v' != v) &&
        freshOkAux g rest) = true := h
    simp only [Bool.and_eq_true, List.all_eq_true, beq_iff_eq] at h'
    obtain ⟨⟨hcls, hrest⟩, haux⟩ := h'
    refine Disc.cons _ _ ?_ ?_ (freshOkAux_disc sem g hw rest
      (fun ov h => hr ov (List.mem_cons_of_mem _ h)) haux)
    · -- RShift: set the mask to 1 and multiply it back
      intro x ρ
      have := clsRun_sound sem x ρ v 1 g hw o (hr (o, v) List.mem_cons_self)
      rw [hcls] at this
      show (evalRun sem x ρ g []).getD o 1 = (evalRun sem x (upd ρ v 1) g []).getD o 1 * ρ v
      rw [show _ = _ * (ρ v)⁻¹ * 1 from this, mul_one, inv_mul_cancel_right]
    · intro m' hm'
      obtain ⟨ov', hov', rfl⟩ := List.mem_map.mp hm'
      have hh := hrest ov' hov'
      refine ⟨fun x ρ a => ?_, bne_iff_ne.1 hh.2⟩
      have := clsRun_sound sem x ρ v a g hw ov'.1 (hr ov' (List.mem_cons_of_mem _ hov'))
      rw [hh.1] at this
      exact this

theorem freshOk_disc (sem : Nat → List G → G) (g : List Node) (cert : Cert)
    (h : freshOk g cert = true) : Disc (cert.map (toMsg sem g)) := by
  simp only [freshOk, Bool.and_eq_true, List.all_eq_true, decide_eq_true_eq] at h
  exact freshOkAux_disc sem g h.1.1.1 cert (fun ov hov => h.1.1.2 ov hov) h.2

end CCV.Shuffle
