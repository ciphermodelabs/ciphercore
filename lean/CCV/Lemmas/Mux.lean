import CCV.Model.Mux
import CCV.Lemmas.BitsTree
/- multiplexer.rs on bits: `Mux` selects. -/
namespace CCV.Mux

theorem muxBit_eq (flag c1 c0 : Bool) : muxBit flag c1 c0 = if flag then c1 else c0 := by
  cases flag <;> cases c1 <;> cases c0 <;> rfl

theorem muxBits_eq (flag : Bool) (c1 c0 : List Bool) (h : c1.length = c0.length) :
    muxBits flag c1 c0 = if flag then c1 else c0 := by
  cases flag
  · exact Tree.zipWith_right _ (muxBit_eq false) c1 c0 (Nat.le_of_eq h.symm)
  · exact Tree.zipWith_left _ (muxBit_eq true) c1 c0 (Nat.le_of_eq h)

theorem muxBits_length {n : Nat} (f : Bool) {c1 c0 : List Bool} (h1 : c1.length = n) (h0 : c0.length = n) :
    (muxBits f c1 c0).length = n := by
  rw [muxBits, List.length_zipWith, h1, h0, Nat.min_self]

end CCV.Mux
