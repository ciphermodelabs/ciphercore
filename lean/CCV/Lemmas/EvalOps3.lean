import CCV.Lemmas.EvalOps2
/-
  Value-level half of C09: what an accepted typing rule says in the
  vocabulary of the evaluator model (`isFlat`, `stE`, `dimsE`, `bcOK`): `broadcast_pair`, and through
  `Bcast` (the types of an elementwise operation with broadcasting) MixedMultiply and the scalar cases of
  Dot; Dot and Matmul on arrays; Gemm; A2B.  (Stack, Concatenate, B2A: EvalOps4.lean; Zip: EvalOps6.lean.)
  `matmulInfer_ok` / `gemmInfer_ok` keep only what the value theorems need; the full result shape for rank ≥ 2
  is `C09.matmul_shape_sound` / `C09.gemm_shape_sound`.
-/
namespace CCV.EvalOps
open CCV CCV.TV CCV.Shape
open CCV.TI hiding prod broadcastShapes transposeShape

theorem isFlat_arrOrScalar (rs : List Nat) (st : ST) : isFlat (arrOrScalar rs st) = true := by
  unfold arrOrScalar; split <;> rfl

theorem stE_arrOrScalar (rs : List Nat) (st : ST) : stE (arrOrScalar rs st) = st := by
  unfold arrOrScalar; split <;> rfl

theorem prod_dimsE_arrOrScalar (rs : List Nat) (st : ST) : prod (dimsE (arrOrScalar rs st)) = prod rs := by
  unfold arrOrScalar
  cases rs with
  | nil => rfl
  | cons d ds => rfl

theorem hasType_arrOrScalar_mk {rs : List Nat} {st : ST} {r : List Nat} (h : flatOk st (prod rs) r) :
    hasType (arrOrScalar rs st) (.arr r) := by
  rw [hasType_flat (isFlat_arrOrScalar rs st), stE_arrOrScalar, prod_dimsE_arrOrScalar]
  exact h

theorem valid_array {s : List Nat} {st : ST} (h : (Ty.array s st).isValid = true) : s ≠ [] ∧ pos s := by
  simp only [Ty.isValid] at h
  exact validShape_pos h

theorem broadcastPair_ok {t1 t2 t : Ty} (h : broadcastPair t1 t2 = .ok t) :
    isFlat t1 = true ∧ isFlat t2 = true ∧ isFlat t = true ∧ stE t1 = stE t ∧ stE t2 = stE t ∧
    (t1.isValid = true → t2.isValid = true → bcOK (dimsE t1) (dimsE t) ∧ bcOK (dimsE t2) (dimsE t)) := by
  unfold broadcastPair at h
  split at h
  · rcases ite_cases h with ⟨rfl, h'⟩ | ⟨_, h'⟩
    · cases h'
      exact ⟨rfl, rfl, rfl, rfl, rfl, fun _ _ => ⟨bcOK_refl _, bcOK_refl _⟩⟩
    · cases h'
  · rcases ite_cases h with ⟨rfl, h'⟩ | ⟨_, h'⟩
    · cases h'
      exact ⟨rfl, rfl, rfl, rfl, rfl, fun _ h2 => ⟨bcOK_one (valid_array h2).1, bcOK_refl _⟩⟩
    · cases h'
  · rcases ite_cases h with ⟨rfl, h'⟩ | ⟨_, h'⟩
    · cases h'
      exact ⟨rfl, rfl, rfl, rfl, rfl, fun h1 _ => ⟨bcOK_refl _, bcOK_one (valid_array h1).1⟩⟩
    · cases h'
  · rcases ite_cases h with ⟨rfl, h'⟩ | ⟨_, h'⟩
    · split at h'
      · rename_i r hr
        cases h'
        exact ⟨rfl, rfl, rfl, rfl, rfl, fun h1 h2 =>
          ⟨bcOK_left (valid_array h1).2 (valid_array h2).2 hr, bcOK_right (valid_array h1).2 (valid_array h2).2 hr⟩⟩
      · cases h'
    · cases h'
  · cases h

theorem broadcastArrays_two {a b t : Ty} (h : broadcastArrays [a, b] = .ok t) : broadcastPair a b = .ok t := by
  simp only [broadcastArrays] at h
  split at h
  · cases hr : broadcastPair a b with
    | error e => simp [bcastFold, hr] at h
    | ok r =>
      simp only [bcastFold, hr] at h
      rw [h]
  · cases h

theorem exists_append_two (s : List Nat) (h : 2 ≤ s.length) : ∃ b x y, s = b ++ [x, y] := by
  have e := (List.take_append_drop (s.length - 2) s).symm
  have hl : (s.drop (s.length - 2)).length = 2 := by simp; omega
  match hd : s.drop (s.length - 2), hl with
  | [x, y], _ => exact ⟨s.take (s.length - 2), x, y, by rw [hd] at e; exact e⟩

theorem isFlat_of_stOf {t : Ty} {st : ST} (h : stOf t = some st) : isFlat t = true ∧ stE t = st := by
  cases t <;> cases h <;> exact ⟨rfl, rfl⟩

theorem dimsE_ne_nil {t : Ty} (hf : isFlat t = true) (hv : t.isValid = true) : dimsE t ≠ [] := by
  rcases isFlat_cases hf with ⟨st, rfl⟩ | ⟨s, st, rfl⟩
  · exact List.cons_ne_nil _ _
  · exact (valid_array hv).1

structure Bcast (a b t : Ty) : Prop where
  fa : isFlat a = true
  fb : isFlat b = true
  ft : isFlat t = true
  st : stE a = stE t
  ba : bcOK (dimsE a) (dimsE t)
  bb : bcOK (dimsE b) (dimsE t)

theorem Bcast.sound {a b t : Ty} (h : Bcast a b t) {v1 v2 : EV} (h1 : hasType a v1) (h2 : hasType b v2)
    {g : ST → List Nat → List Nat → List Nat → List Nat → List Nat → Except String (List Nat)}
    (hg : ∀ st s1 xs s2 ys sr, bcOK s1 sr → bcOK s2 sr → ∃ r, g st s1 xs s2 ys sr = .ok r ∧ flatOk st (prod sr) r) :
    ∃ xs ys r, v1 = .arr xs ∧ v2 = .arr ys ∧ g (stE a) (dimsE a) xs (dimsE b) ys (dimsE t) = .ok r ∧
      hasType t (.arr r) := by
  obtain ⟨xs, rfl, _⟩ := hasType_flat_arr h.fa h1
  obtain ⟨ys, rfl, _⟩ := hasType_flat_arr h.fb h2
  obtain ⟨r, hr, hok⟩ := hg (stE a) (dimsE a) xs (dimsE b) ys (dimsE t) h.ba h.bb
  exact ⟨xs, ys, r, rfl, rfl, hr, (hasType_flat h.ft r).mpr (h.st ▸ hok)⟩

theorem broadcastPair_bcast {a b t : Ty} (ha : a.isValid = true) (hb : b.isValid = true)
    (h : broadcastPair a b = .ok t) : Bcast a b t := by
  obtain ⟨f1, f2, ft, e1, _, hbc⟩ := broadcastPair_ok h
  exact ⟨f1, f2, ft, e1, (hbc ha hb).1, (hbc ha hb).2⟩

theorem mixedMultiplyInfer_bcast {a b t : Ty} (ha : a.isValid = true) (hb : b.isValid = true)
    (h : mixedMultiplyInfer a b = .ok t) : Bcast a b t := by
  unfold mixedMultiplyInfer at h
  split at h
  · rename_i st0 st1 h0 h1
    obtain ⟨fa, _⟩ := isFlat_of_stOf h0
    obtain ⟨fb, _⟩ := isFlat_of_stOf h1
    replace h := (of_ite_error (of_ite_error h).2).2
    split at h
    · cases h
      exact ⟨fa, fb, fa, rfl, bcOK_refl _, bcOK_one (dimsE_ne_nil fa ha)⟩
    · cases h
      cases h0
      exact ⟨rfl, rfl, rfl, rfl, bcOK_one (valid_array hb).1, bcOK_refl _⟩
    · cases h0
      split at h
      · rename_i r hr
        cases h
        exact ⟨rfl, rfl, rfl, rfl, bcOK_left (valid_array ha).2 (valid_array hb).2 hr,
          bcOK_right (valid_array ha).2 (valid_array hb).2 hr⟩
      · cases h
    · cases h
  · cases h

theorem matmulInfer_ok {a b t : Ty} (h : matmulInfer a b = .ok t) :
    ∃ s0 s1 st, a = .array s0 st ∧ b = .array s1 st ∧ isFlat t = true ∧ stE t = st ∧
      (s0.length = 1 ∧ s1.length = 1 → prod (dimsE t) = 1) := by
  unfold matmulInfer at h
  split at h
  · rename_i sh0 st0 sh1 st1
    replace h := of_ite_error h
    cases Decidable.of_not_not h.1
    replace h := (of_ite_error h.2).2
    split at h
    · cases h
    · rename_i batch hb
      cases h
      refine ⟨_, _, _, rfl, rfl, isFlat_arrOrScalar _ _, stE_arrOrScalar _ _, fun h11 => ?_⟩
      obtain ⟨k0, rfl⟩ := List.length_eq_one_iff.mp h11.1
      obtain ⟨k1, rfl⟩ := List.length_eq_one_iff.mp h11.2
      cases (broadcastShapes_idem []).symm.trans (hb : TI.broadcastShapes [] [] = .ok batch)
      rfl
  · cases h

theorem dotInfer_ok {a b t : Ty} (ha : a.isValid = true) (hb : b.isValid = true) (h : dotInfer a b = .ok t) :
    (∃ s0 s1 st, a = .array s0 st ∧ b = .array s1 st ∧ isFlat t = true ∧ stE t = st ∧
        (s0.length = 1 ∧ s1.length = 1 → prod (dimsE t) = 1)) ∨
    (¬ (isArr a = true ∧ isArr b = true) ∧ Bcast a b t) := by
  unfold dotInfer at h
  split at h
  · rename_i st0 st1 h0 h1
    replace h := of_ite_error h
    cases Decidable.of_not_not h.1
    replace h := h.2
    obtain ⟨fa, ea⟩ := isFlat_of_stOf h0
    obtain ⟨fb, eb⟩ := isFlat_of_stOf h1
    split at h
    · cases h0
      cases h1
      refine Or.inl ⟨_, _, _, rfl, rfl, ?_⟩
      rcases ite_cases h with ⟨_, h⟩ | ⟨h11, h⟩
      · cases (of_ite_error h).2
        exact ⟨rfl, rfl, fun _ => rfl⟩
      · rcases ite_cases h with ⟨_, h⟩ | ⟨_, h⟩
        · cases (of_ite_error h).2
          exact ⟨rfl, rfl, fun hc => absurd hc h11⟩
        · cases (of_ite_error h).2
          exact ⟨rfl, rfl, fun hc => absurd hc h11⟩
    · rename_i hnb
      cases h
      rcases isFlat_cases fb with ⟨sb, rfl⟩ | ⟨s, sb, rfl⟩
      · exact Or.inr ⟨(fun hc => nomatch hc.2), fa, fb, fa, rfl, bcOK_refl _, bcOK_one (valid_array ha).1⟩
      · exact (hnb _ _ rfl).elim
    · rename_i hna _
      cases h
      rcases isFlat_cases fa with ⟨sa, rfl⟩ | ⟨s, sa, rfl⟩
      · exact Or.inr ⟨(fun hc => nomatch hc.1), fa, fb, fb, ea.trans eb.symm, bcOK_one (dimsE_ne_nil fb hb), bcOK_refl _⟩
      · exact (hna _ _ rfl).elim
  · cases h

theorem a2bInfer_ok {a t : Ty} (h : a2bInfer a = .ok t) :
    isFlat a = true ∧ stE a ≠ .bit ∧ ∃ s, t = .array s .bit ∧ prod s = prod (dimsE a) * (stE a).bits := by
  unfold a2bInfer at h
  split at h
  · split at h
    · cases h
    · rename_i hst
      cases h
      exact ⟨rfl, hst, _, rfl, by simp [dimsE, prod, stE, stOf]⟩
  · split at h
    · cases h
    · rename_i hst
      cases h
      exact ⟨rfl, hst, _, rfl, by rw [prod_append]; simp [dimsE, prod, stE, stOf]⟩
  · cases h

theorem gemmInfer_ok {a b t : Ty} {ta tb : Bool} (h : gemmInfer a b ta tb = .ok t) :
    ∃ s0 s1 st, a = .array s0 st ∧ b = .array s1 st ∧ s0.length ≠ 1 ∧ s1.length ≠ 1 := by
  unfold gemmInfer at h
  split at h
  · replace h := of_ite_error h
    cases Decidable.of_not_not h.1
    replace h := of_ite_error h.2
    exact ⟨_, _, _, rfl, rfl, fun e => h.1 (Or.inl e), fun e => h.1 (Or.inr e)⟩
  · cases h

end CCV.EvalOps
