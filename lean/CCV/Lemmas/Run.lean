/-
  Node lists evaluated front to back.

  The exported-graph models (`Model/Mask.lean`, `Model/MaskRev.lean`, `Model/Shuffle.lean`) and their
  semantics compute one value per node by functions of one shape,
      F [] env = env        F (n :: g) env = F g (env ++ [step env n])
  (`IsRun F step`): the value of node `k` is `step` of the values of the nodes before it (`IsRun.getD`).
  When every node reads only nodes before it, a property of the values of several such runs follows
  for all nodes from its preservation by the steps (`ind₃`); this is the soundness induction of every
  class analysis.  The holder analysis (`Model/Know.lean`) and `unresList` (`Model/Reshare.lean`) extend
  their lists the same way and use `getD_snoc`.  Import-free.
-/
namespace CCV.Run
variable {α β γ ν : Type}

structure IsRun (F : List ν → List α → List α) (step : List α → ν → α) : Prop where
  nil : ∀ env, F [] env = env
  cons : ∀ n g env, F (n :: g) env = F g (env ++ [step env n])

theorem getD_take {l : List α} {d k : Nat} (h : d < k) (x : α) : (l.take k).getD d x = l.getD d x := by
  rw [List.getD_eq_getElem?_getD, List.getD_eq_getElem?_getD, List.getElem?_take_of_lt h]

theorem getD_snoc (l : List α) (y x : α) (i : Nat) :
    (l ++ [y]).getD i x = if i = l.length then y else l.getD i x := by
  rw [List.getD_eq_getElem?_getD, List.getD_eq_getElem?_getD]
  rcases Nat.lt_trichotomy i l.length with h | h | h
  · rw [List.getElem?_append_left h, if_neg (Nat.ne_of_lt h)]
  · subst h
    rw [List.getElem?_append_right (Nat.le_refl _), Nat.sub_self, if_pos rfl]
    rfl
  · rw [if_neg (Nat.ne_of_gt h), List.getElem?_eq_none (Nat.le_of_lt h),
      List.getElem?_eq_none (by rw [List.length_append, List.length_singleton]; exact h)]

theorem getD_map_lt {β : Type} (f : Nat → β) (deps : List Nat) {j : Nat} (h : j < deps.length) (x : β) :
    (deps.map f).getD j x = f (deps.getD j 0) := by
  rw [List.getD_eq_getElem?_getD, List.getD_eq_getElem?_getD, List.getElem?_map,
    List.getElem?_eq_getElem h]
  rfl

theorem getD_mem_lt (deps : List Nat) {j : Nat} (h : j < deps.length) : deps.getD j 0 ∈ deps := by
  rw [List.getD_eq_getElem?_getD, List.getElem?_eq_getElem h]
  exact List.getElem_mem h

/-- an opaque operation all of whose operands are of a class `good` that promises equal values sees
    equal argument lists in the two runs -/
theorem map_congr_of_all {C V : Type} [BEq C] [LawfulBEq C] {P : C → V → V → Prop} {c0 good : C} {v0 : V}
    (hgood : ∀ r r', P good r r' → r' = r) {cl : List C} {env env' : List V} {deps : List Nat}
    (hdep : ∀ d ∈ deps, P (cl.getD d c0) (env.getD d v0) (env'.getD d v0))
    (hall : deps.all (fun j => cl.getD j c0 == good) = true) :
    deps.map (fun d => env'.getD d v0) = deps.map (fun d => env.getD d v0) :=
  List.map_congr_left fun d hd => hgood _ _ (eq_of_beq (List.all_eq_true.1 hall d hd) ▸ hdep d hd)

namespace IsRun
variable {F : List ν → List α → List α} {step : List α → ν → α}

theorem spec (h : IsRun F step) : ∀ (g : List ν) (env : List α), ∃ vs : List α,
    F g env = env ++ vs ∧ vs.length = g.length ∧
      ∀ k (hk : k < g.length), vs[k]? = some (step (env ++ vs.take k) g[k])
  | [], env => ⟨[], by rw [h.nil, List.append_nil], rfl, fun _ hk => absurd hk (Nat.not_lt_zero _)⟩
  | n :: g, env => by
    obtain ⟨vs, e, hl, hv⟩ := spec h g (env ++ [step env n])
    refine ⟨step env n :: vs, by rw [h.cons, e, List.append_assoc, List.singleton_append],
      by rw [List.length_cons, List.length_cons, hl], fun k hk => ?_⟩
    cases k with
    | zero => rw [List.take_zero, List.append_nil]; rfl
    | succ k =>
      rw [List.getElem?_cons_succ, hv k (Nat.lt_of_succ_lt_succ hk), List.take_succ_cons,
        List.append_assoc, List.singleton_append]
      rfl

theorem length_from (h : IsRun F step) (g : List ν) (env : List α) :
    (F g env).length = env.length + g.length := by
  obtain ⟨vs, e, hl, _⟩ := h.spec g env
  rw [e, List.length_append, hl]

theorem length (h : IsRun F step) (g : List ν) : (F g []).length = g.length := by
  rw [h.length_from, List.length_nil, Nat.zero_add]

theorem getD (h : IsRun F step) (g : List ν) (k : Nat) (hk : k < g.length) (d : α) :
    (F g []).getD k d = step ((F g []).take k) g[k] := by
  obtain ⟨vs, e, _, hv⟩ := h.spec g []
  rw [e, List.nil_append, List.getD_eq_getElem?_getD, hv k hk, List.nil_append]
  rfl

theorem lt_of_getD {F : List ν → List Bool → List Bool} {step : List Bool → ν → Bool} (h : IsRun F step)
    {g : List ν} {m : Nat} (hm : (F g []).getD m false = true) : m < g.length := by
  apply Decidable.byContradiction
  intro hge
  rw [List.getD_eq_getElem?_getD,
    List.getElem?_eq_none (by rw [h.length]; exact Nat.le_of_not_lt hge)] at hm
  exact Bool.false_ne_true hm

theorem length_take (h : IsRun F step) (g : List ν) (k : Nat) (hk : k < g.length) :
    ((F g []).take k).length = k :=
  List.length_take_of_le (by rw [h.length]; exact Nat.le_of_lt hk)

end IsRun

/-- The run of a node function that reads the environment through a lookup, with the environment held
    as a function: `look` = the values of the first `k` nodes.  Extending it costs the kernel nothing and
    an operand is found in as many steps as it lies back, where `env ++ [·]` copies the environment for
    every node and `getD` walks to the operand from the front; this is the form in which the generated
    obligations are evaluated (`Lemmas/CheckersEval.lean`). -/
def runF (node : Nat → (Nat → α) → ν → α) : List ν → Nat → (Nat → α) → Nat → α
  | [], _, look => look
  | n :: g, k, look => runF node g (k + 1) (fun d => if d = k then node k look n else look d)

theorem IsRun.getD_eq_runF {F : List ν → List α → List α} {step : List α → ν → α} (h : IsRun F step)
    {node : Nat → (Nat → α) → ν → α} {x : α}
    (hs : ∀ env n, step env n = node env.length (fun d => env.getD d x) n) :
    ∀ (g : List ν) (env : List α),
      (fun m => (F g env).getD m x) = runF node g env.length (fun d => env.getD d x)
  | [], env => by rw [h.nil]; rfl
  | n :: g, env => by
    rw [h.cons, h.getD_eq_runF hs g, List.length_append, List.length_singleton, hs]
    exact congrArg (runF node g (env.length + 1)) (funext fun d => getD_snoc env _ x d)

theorem scoped_lt {W : List ν → Nat → Bool} {deps : ν → List Nat}
    (hW : ∀ n g j, W (n :: g) j = true → (∀ d ∈ deps n, d < j) ∧ W g (j + 1) = true) :
    ∀ (g : List ν) (j : Nat), W g j = true → ∀ k (hk : k < g.length), ∀ d ∈ deps g[k], d < j + k
  | n :: g, j, hw, 0, _, d, hd => (hW n g j hw).1 d hd
  | n :: g, j, hw, k + 1, hk, d, hd => by
    have := scoped_lt hW g (j + 1) (hW n g j hw).2 k (Nat.lt_of_succ_lt_succ hk) d hd
    rwa [Nat.add_right_comm] at this

theorem scoped_lt_zero {W : List ν → Nat → Bool} {deps : ν → List Nat}
    (hW : ∀ n g j, W (n :: g) j = true → (∀ d ∈ deps n, d < j) ∧ W g (j + 1) = true)
    {g : List ν} (hw : W g 0 = true) (k : Nat) (hk : k < g.length) : ∀ d ∈ deps g[k], d < k := by
  have := scoped_lt hW g 0 hw k hk
  rwa [Nat.zero_add] at this

theorem scoped_induct (deps : ν → List Nat) (g : List ν)
    (hsc : ∀ k (hk : k < g.length), ∀ d ∈ deps g[k], d < k) (Q : Nat → Prop)
    (step : ∀ k (hk : k < g.length), (∀ d ∈ deps g[k], Q d) → Q k) : ∀ k, k < g.length → Q k := by
  intro k
  induction k using Nat.strongRecOn with
  | _ k ih =>
    intro hk
    exact step k hk (fun d hd => ih d (hsc k hk d hd) (Nat.lt_trans (hsc k hk d hd) hk))

/-- the soundness induction of an analysis: `F₁` classifies the nodes, `F₂` and `F₃` evaluate them
    (under two tapes, or two secret vectors); `P` says what a class promises about the two values.
    `step` asks this of one node, given it of the nodes it reads. -/
theorem ind₃ {F₁ : List ν → List α → List α} {s₁ : List α → ν → α} (h₁ : IsRun F₁ s₁)
    {F₂ : List ν → List β → List β} {s₂ : List β → ν → β} (h₂ : IsRun F₂ s₂)
    {F₃ : List ν → List γ → List γ} {s₃ : List γ → ν → γ} (h₃ : IsRun F₃ s₃)
    (d₁ : α) (d₂ : β) (d₃ : γ) (deps : ν → List Nat) (g : List ν)
    (hsc : ∀ k (hk : k < g.length), ∀ d ∈ deps g[k], d < k) (P : Nat → α → β → γ → Prop)
    (step : ∀ k (hk : k < g.length),
      (∀ d ∈ deps g[k], P d (((F₁ g []).take k).getD d d₁) (((F₂ g []).take k).getD d d₂)
        (((F₃ g []).take k).getD d d₃)) →
      P k (s₁ ((F₁ g []).take k) g[k]) (s₂ ((F₂ g []).take k) g[k]) (s₃ ((F₃ g []).take k) g[k])) :
    ∀ k, k < g.length → P k ((F₁ g []).getD k d₁) ((F₂ g []).getD k d₂) ((F₃ g []).getD k d₃) := by
  refine scoped_induct deps g hsc _ (fun k hk ih => ?_)
  rw [h₁.getD g k hk, h₂.getD g k hk, h₃.getD g k hk]
  refine step k hk (fun d hd => ?_)
  have hd' := hsc k hk d hd
  rw [getD_take hd', getD_take hd', getD_take hd']
  exact ih d hd

end CCV.Run
