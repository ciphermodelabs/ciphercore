import CCV.Model.Mask
import CCV.Lemmas.Pivot
import CCV.Lemmas.Run
/- Semantics of observer-classified protocol graphs and soundness of the discipline checker. -/
set_option linter.unusedSectionVars false
namespace CCV.Mask
open CCV.Pivot CCV.Run
variable {R : Type} [AddCommGroup R]

/-- value of a node.  `x` = the secrets (hidden inputs), `ρ` = the unknown tape; the observer's own
    inputs `own`, the masks it knows `kn` and the semantics `sem` of all other operations are
    parameters. -/
def evalNode (sem : Nat → List R → R) (own kn : Nat → R) (x ρ : Nat → R) (env : List R) (n : Node) : R :=
  let args := n.deps.map (fun d => env.getD d 0)
  match n.k with
  | .hid i => x i
  | .own i => own i
  | .tapeU v => ρ v
  | .tapeK v => kn v
  | .nop => args.getD 0 0
  | .add => args.getD 0 0 + args.getD 1 0
  | .sub => args.getD 0 0 - args.getD 1 0
  | .op tag => sem tag args

def evalRun (sem : Nat → List R → R) (own kn : Nat → R) (x ρ : Nat → R) :
    List Node → List R → List R
  | [], env => env
  | n :: g, env => evalRun sem own kn x ρ g (env ++ [evalNode sem own kn x ρ env n])

/-- what a class promises about the value under `upd ρ v a` (r') versus under `ρ` (r) -/
def Rel (ρ : Nat → R) (v : Nat) (a : R) : Cls → R → R → Prop
  | .indep, r, r' => r' = r
  | .pos, r, r' => r' = r + (a - ρ v)
  | .neg, r, r' => r' = r - (a - ρ v)
  | .bad, _, _ => True

theorem rel_add_left (ρ : Nat → R) (v : Nat) (a : R) (c : Cls) (s r r' : R) (h : Rel ρ v a c r r') :
    Rel ρ v a c (s + r) (s + r') := by
  cases c
  · exact congrArg (s + ·) h
  · exact (congrArg (s + ·) h).trans (add_assoc s r _).symm
  · exact (congrArg (s + ·) h).trans (add_sub_assoc s r _).symm
  · trivial

theorem clsAdd_cases (c1 c2 : Cls) :
    clsAdd c1 c2 = .bad ∨ (c1 = .indep ∧ clsAdd c1 c2 = c2) ∨ (c2 = .indep ∧ clsAdd c1 c2 = c1) := by
  cases c1 <;> cases c2 <;> decide

theorem rel_clsAdd (ρ : Nat → R) (v : Nat) (a : R) (c1 c2 : Cls) (r1 r1' r2 r2' : R)
    (h1 : Rel ρ v a c1 r1 r1') (h2 : Rel ρ v a c2 r2 r2') :
    Rel ρ v a (clsAdd c1 c2) (r1 + r2) (r1' + r2') := by
  rcases clsAdd_cases c1 c2 with e | ⟨rfl, e⟩ | ⟨rfl, e⟩
  · rw [e]; trivial
  · rw [e, show r1' = r1 from h1]; exact rel_add_left ρ v a c2 r1 r2 r2' h2
  · rw [e, show r2' = r2 from h2, add_comm r1, add_comm r1']; exact rel_add_left ρ v a c1 r2 r1 r1' h1

theorem rel_clsNeg (ρ : Nat → R) (v : Nat) (a : R) (c : Cls) (r r' : R) (h : Rel ρ v a c r r') :
    Rel ρ v a (clsNeg c) (-r) (-r') := by
  cases c
  · exact congrArg Neg.neg h
  · exact (congrArg Neg.neg h).trans (neg_add' r _)
  · exact (congrArg Neg.neg h).trans ((neg_sub r _).trans (sub_eq_neg_add _ r))
  · trivial

theorem wellScoped_cons (n : Node) (g : List Node) (k : Nat) (h : wellScoped (n :: g) k = true) :
    (∀ d ∈ n.deps, d < k) ∧ wellScoped g (k + 1) = true := by
  have h' : (n.deps.all (· < k) && wellScoped g (k + 1)) = true := h
  simp only [Bool.and_eq_true, List.all_eq_true, decide_eq_true_eq] at h'
  exact h'

theorem wellScoped_lt {g : List Node} (hw : wellScoped g 0 = true) (k : Nat) (hk : k < g.length) :
    ∀ d ∈ g[k].deps, d < k :=
  scoped_lt_zero (deps := Node.deps) wellScoped_cons hw k hk

theorem evalNode_congr (sem : Nat → List R → R) (own kn x ρ : Nat → R) (env env2 : List R) (n : Node)
    (h : ∀ d ∈ n.deps, env.getD d 0 = env2.getD d 0) :
    evalNode sem own kn x ρ env n = evalNode sem own kn x ρ env2 n := by
  unfold evalNode
  rw [List.map_congr_left h]

theorem clsRun_isRun (v : Nat) : IsRun (clsRun v) (clsNode v) := ⟨fun _ => rfl, fun _ _ _ => rfl⟩

theorem compRun_isRun : IsRun compRun compNode := ⟨fun _ => rfl, fun _ _ _ => rfl⟩

theorem evalRun_isRun (sem : Nat → List R → R) (own kn : Nat → R) (x ρ : Nat → R) :
    IsRun (evalRun sem own kn x ρ) (evalNode sem own kn x ρ) := ⟨fun _ => rfl, fun _ _ _ => rfl⟩

section
variable (sem : Nat → List R → R) (own kn : Nat → R) (x ρ : Nat → R) (v : Nat) (a : R)

theorem step_rel (cl : List Cls) (env env' : List R) (n : Node)
    (hdep : ∀ d ∈ n.deps, Rel ρ v a (cl.getD d .bad) (env.getD d 0) (env'.getD d 0)) :
    Rel ρ v a (clsNode v cl n) (evalNode sem own kn x ρ env n) (evalNode sem own kn x (upd ρ v a) env' n) := by
  obtain ⟨k, deps⟩ := n
  -- operand `j`, as `clsNode` and `evalNode` read it
  have arg : ∀ j, j < deps.length → Rel ρ v a (cl.getD (deps.getD j 0) .bad)
      ((deps.map (fun d => env.getD d 0)).getD j 0) ((deps.map (fun d => env'.getD d 0)).getD j 0) := by
    intro j hj
    rw [getD_map_lt _ deps hj, getD_map_lt _ deps hj]
    exact hdep _ (getD_mem_lt deps hj)
  cases k with
  | hid i | own i | tapeK w => exact rfl
  | tapeU w =>
    show Rel ρ v a (if w = v then .pos else .indep) (ρ w) (upd ρ v a w)
    by_cases e : w = v
    · subst e; rw [if_pos rfl, upd_same]; exact (add_sub_cancel _ a).symm
    · rw [if_neg e]; exact upd_other ρ a e
  | nop =>
    show Rel ρ v a (if deps.length = 1 then _ else .bad) _ _
    by_cases h1 : deps.length = 1
    · rw [if_pos h1]; exact arg 0 (h1.symm ▸ Nat.zero_lt_one)
    · rw [if_neg h1]; trivial
  | add =>
    show Rel ρ v a (if deps.length = 2 then _ else .bad) _ _
    by_cases h2 : deps.length = 2
    · rw [if_pos h2]; exact rel_clsAdd ρ v a _ _ _ _ _ _ (arg 0 (h2.symm ▸ Nat.zero_lt_two)) (arg 1 (h2.symm ▸ Nat.one_lt_two))
    · rw [if_neg h2]; trivial
  | sub =>
    show Rel ρ v a (if deps.length = 2 then _ else .bad) (_ - _) (_ - _)
    by_cases h2 : deps.length = 2
    · rw [if_pos h2, sub_eq_add_neg, sub_eq_add_neg]
      exact rel_clsAdd ρ v a _ _ _ _ _ _ (arg 0 (h2.symm ▸ Nat.zero_lt_two))
        (rel_clsNeg ρ v a _ _ _ (arg 1 (h2.symm ▸ Nat.one_lt_two)))
    · rw [if_neg h2]; trivial
  | op tag =>
    show Rel ρ v a (if deps.all (fun j => cl.getD j .bad == .indep) = true then .indep else .bad) _ _
    by_cases hall : deps.all (fun j => cl.getD j .bad == .indep) = true
    · rw [if_pos hall]
      exact congrArg (sem tag) (map_congr_of_all (fun _ _ h => h) hdep hall)
    · rw [if_neg hall]; trivial

theorem clsRun_sound (g : List Node) (hw : wellScoped g 0 = true) (m : Nat) (hm : m < g.length) :
    Rel ρ v a ((clsRun v g []).getD m .bad) ((evalRun sem own kn x ρ g []).getD m 0)
      ((evalRun sem own kn x (upd ρ v a) g []).getD m 0) :=
  ind₃ (clsRun_isRun v) (evalRun_isRun sem own kn x ρ) (evalRun_isRun sem own kn x (upd ρ v a)) .bad 0 0
    Node.deps g (wellScoped_lt hw) (fun _ c r r' => Rel ρ v a c r r')
    (fun k _ hdep => step_rel sem own kn x ρ v a _ _ _ g[k] hdep) m hm

end

def toMsg (sem : Nat → List R → R) (own kn : Nat → R) (g : List Node) (mv : Nat × Nat) : Msg (Nat → R) R :=
  ⟨fun x ρ => (evalRun sem own kn x ρ g []).getD mv.1 0, mv.2, (clsRun mv.2 g []).getD mv.1 .bad == .neg⟩

theorem discOkAux_disc (sem : Nat → List R → R) (own kn : Nat → R) (g : List Node)
    (hw : wellScoped g 0 = true) : ∀ (cert : Cert), (∀ mv ∈ cert, mv.1 < g.length) →
    discOkAux g cert = true → Disc (cert.map (toMsg sem own kn g))
  | [], _, _ => Disc.nil
  | (m, v) :: rest, hr, h => by
    have h' : (((clsRun v g []).getD m .bad == .pos || (clsRun v g []).getD m .bad == .neg) &&
        rest.all (fun (m', v') => (clsRun v g []).getD m' .bad == .indep && v' != v) &&
        discOkAux g rest) = true := h
    simp only [Bool.and_eq_true, Bool.or_eq_true, List.all_eq_true, beq_iff_eq] at h'
    obtain ⟨⟨hcls, hrest⟩, haux⟩ := h'
    refine Disc.cons _ _ ?_ ?_ (discOkAux_disc sem own kn g hw rest
      (fun mv h => hr mv (List.mem_cons_of_mem _ h)) haux)
    · -- Shift: the sign of the message is that of its class
      intro x ρ a
      have := clsRun_sound sem own kn x ρ v a g hw m (hr (m, v) List.mem_cons_self)
      show _ = _ + sg ((clsRun v g []).getD m .bad == .neg) (a - ρ v)
      rcases hcls with hc | hc
      · rw [hc] at this ⊢; exact this
      · rw [hc] at this ⊢; exact this.trans (sub_eq_add_neg _ _)
    · intro m' hm'
      obtain ⟨mv', hmv', rfl⟩ := List.mem_map.mp hm'
      have hh := hrest mv' hmv'
      refine ⟨fun x ρ a => ?_, bne_iff_ne.1 hh.2⟩
      have := clsRun_sound sem own kn x ρ v a g hw mv'.1 (hr mv' (List.mem_cons_of_mem _ hmv'))
      rw [hh.1] at this
      exact this

theorem discOk_disc (sem : Nat → List R → R) (own kn : Nat → R) (g : List Node) (cert : Cert)
    (h : discOk g cert = true) : Disc (cert.map (toMsg sem own kn g)) := by
  simp only [discOk, Bool.and_eq_true, List.all_eq_true, decide_eq_true_eq] at h
  exact discOkAux_disc sem own kn g h.1.1 cert (fun mv hmv => h.1.2 mv hmv) h.2

theorem comp_step (sem : Nat → List R → R) (own kn : Nat → R) (x x' ρ ρ' : Nat → R)
    (cb : List Bool) (env env' : List R) (n : Node)
    (hdep : ∀ d ∈ n.deps, cb.getD d false = true → env.getD d 0 = env'.getD d 0)
    (hc : compNode cb n = true) :
    evalNode sem own kn x ρ env n = evalNode sem own kn x' ρ' env' n := by
  have hargs : n.deps.all (fun j => cb.getD j false) = true →
      n.deps.map (fun d => env.getD d 0) = n.deps.map (fun d => env'.getD d 0) :=
    fun h => List.map_congr_left (fun d hd => hdep d hd (List.all_eq_true.1 h d hd))
  obtain ⟨k, deps⟩ := n
  cases k with
  | hid i | tapeU w => exact absurd hc Bool.false_ne_true
  | own i | tapeK w => rfl
  | nop | add | sub | op tag => simp only [evalNode, hargs hc]

theorem compOk_const (sem : Nat → List R → R) (own kn : Nat → R) (g : List Node) (ms : List Nat)
    (h : compOk g ms = true) (x x' ρ ρ' : Nat → R) :
    ms.map (fun m => (evalRun sem own kn x ρ g []).getD m 0)
      = ms.map (fun m => (evalRun sem own kn x' ρ' g []).getD m 0) := by
  simp only [compOk, Bool.and_eq_true, List.all_eq_true] at h
  refine List.map_congr_left (fun m hm => ?_)
  have hb := h.2 m hm
  exact ind₃ compRun_isRun (evalRun_isRun sem own kn x ρ) (evalRun_isRun sem own kn x' ρ') false 0 0
    Node.deps g (wellScoped_lt h.1) (fun _ b r r' => b = true → r = r')
    (fun k _ hdep => comp_step sem own kn x x' ρ ρ' _ _ _ g[k] hdep) m (compRun_isRun.lt_of_getD hb) hb

end CCV.Mask
