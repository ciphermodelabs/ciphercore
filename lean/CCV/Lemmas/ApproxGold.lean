import CCV.Lemmas.ApproxFixed
/-
  C20: GoldschmidtDivision (ops/goldschmidt_division.rs), model `goldStep` / `goldIter` /
  `goldschmidt`: one round without wrap, and the n-step QUOTIENT bound.  Over ℤ with denominators
  cleared: `P = 2^c`; the pair `(x, b)` is (numerator, denominator) after some rounds, started at
  `(a·w₀, d·w₀)`; `G = a·b − x·d` measures how far the pair has drifted from the exact ratio `a/d`
  (it is 0 at the start and only moves through the two truncations per round), `E = P − b` is the
  denominator error.  The returned quotient `x` satisfies `x·d − a·P = −(G + a·E)`.
-/
namespace CCV.Approx

theorem goldConst_eq (sg : Bool) {c : Nat} (hc : c ≤ 30) : wrap sg 64 (2 ^ (c + 1)) = 2 ^ (c + 1) :=
  wrap64_nonneg sg (le_of_lt (two_pow_pos' _))
    (lt_of_le_of_lt (two_pow_le_two_pow (show c + 1 ≤ 31 by omega)) (by decide))

/-- nothing wraps: `w = 2^(c+1) - b ∈ [0, 2^(c+1)]`, so `b·w ≤ 2^61` and `a·w ≤ a·2^(c+1)`. -/
theorem goldStep_eq (sg : Bool) {c : Nat} {a b : Int} (hc : c ≤ 30) (hb0 : 0 ≤ b) (hb : b ≤ 2 ^ c)
    (ha0 : 0 ≤ a) (ha : a * 2 ^ (c + 1) < 2 ^ 63) :
    goldStep sg 64 c (a, b) = ((a * (2 ^ (c + 1) - b)) / 2 ^ c, (b * (2 ^ (c + 1) - b)) / 2 ^ c) := by
  have hP30 : (2:Int) ^ c ≤ 2 ^ 30 := two_pow_le_two_pow hc
  have hsucc := two_pow_succ c
  have hw0 : 0 ≤ 2 ^ (c + 1) - b := by omega
  have hbw1 : b * (2 ^ (c + 1) - b) ≤ 2 ^ 30 * (2 * 2 ^ 30) :=
    mul_le_mul (by omega) (by omega) hw0 (by decide)
  have haw1 : a * (2 ^ (c + 1) - b) ≤ a * 2 ^ (c + 1) := mul_le_mul_of_nonneg_left (by omega) ha0
  unfold goldStep
  simp only
  rw [goldConst_eq sg hc, sub64 sg hw0 (by omega),
    mulFixed64 sg c (mul_nonneg ha0 hw0) (lt_of_le_of_lt haw1 ha),
    mulFixed64 sg c (mul_nonneg hb0 hw0) (lt_of_le_of_lt hbw1 (by decide))]

example : goldStep false 64 10 (123456 * 8, 123 * 8) = (1026228, 1022) := by decide

/-- the drift `G` of the pair against a weight `k` (`d` for the drift upward, `a` downward), over one
    round `b'·P + rb = b·w`, `w = 2P − b`: the bound `G·P ≤ 4·i·k·b` is kept with `i + 1` when the
    round adds at most `P·k` to `G·w`.  Multiply the new drift by `P`:
    `(G'·P)·P ≤ (G·P)·w + P²·k ≤ 4·i·k·(b·w) + P²·k = 4·i·k·(b'·P + rb) + P²·k
    ≤ P·(4·i·k·b' + 4·i·k + P·k)`, and `4·i·k + P·k ≤ 2·P·k ≤ 4·k·b'` by `4·i ≤ P ≤ 2·b'`. -/
theorem gold_drift {P k G G' b b' rb i : Int} (hP : 0 < P) (hk : 0 ≤ k) (hi0 : 0 ≤ i)
    (hi : 4 * i ≤ P) (hw : b ≤ 2 * P) (hb' : b' * P + rb = b * (2 * P - b)) (hrb : rb < P)
    (hb'0 : P ≤ 2 * b') (hG : G * P ≤ 4 * i * k * b) (hG' : G' * P ≤ G * (2 * P - b) + P * k) :
    G' * P ≤ 4 * (i + 1) * k * b' := by
  have hPk : 0 ≤ P * k := mul_nonneg (le_of_lt hP) hk
  have h0 : 0 ≤ P * (G * (2 * P - b) + P * k - G' * P) := mul_nonneg (le_of_lt hP) (Int.sub_nonneg_of_le hG')
  have h1 : 0 ≤ (4 * i * k * b - G * P) * (2 * P - b) :=
    mul_nonneg (Int.sub_nonneg_of_le hG) (Int.sub_nonneg_of_le hw)
  have e : 4 * (i * k) * (b' * P + rb) = 4 * (i * k) * (b * (2 * P - b)) := by rw [hb']
  have h2 : 0 ≤ (i * k) * (P - rb) :=
    mul_nonneg (mul_nonneg hi0 hk) (Int.sub_nonneg_of_le (le_of_lt hrb))
  have h3 : 0 ≤ (P * k) * (P - 4 * i) := mul_nonneg hPk (Int.sub_nonneg_of_le hi)
  have h4 : 0 ≤ (P * k) * (2 * b' - P) := mul_nonneg hPk (Int.sub_nonneg_of_le hb'0)
  have : P * (G' * P) ≤ P * (4 * (i + 1) * k * b') := by linarith only [h0, h1, e, h2, h3, h4]
  exact le_of_mul_le_mul_left this hP

/-- algebraic core of one Goldschmidt round `x'·P + rx = x·w`, `b'·P + rb = b·w`, `w = 2P − b`, with
    the two truncation remainders `rx`, `rb`: the denominator stays in `[P/2, P]`, its error obeys
    `e' ≤ e² + 1/P` and `e' ≤ 1/4 + 1/P` (written with `P * 1`, `4 * 1`: the rounding budget `R = 1` of
    `quad_inv_step`, `quad_first_step`), and the drift bounds are kept with `i + 1`. -/
theorem gold_round {P a d x b x' b' rx rb i : Int} (hP : 4 ≤ P) (ha : 0 ≤ a) (hd : 0 < d)
    (hb0 : P ≤ 2 * b) (hb1 : b ≤ P)
    (hx' : x' * P + rx = x * (2 * P - b)) (hrx0 : 0 ≤ rx) (hrx1 : rx < P)
    (hb' : b' * P + rb = b * (2 * P - b)) (hrb0 : 0 ≤ rb) (hrb1 : rb < P)
    (hi0 : 0 ≤ i) (hi : 4 * i ≤ P)
    (hU : (a * b - x * d) * P ≤ 4 * i * d * b) (hL : (x * d - a * b) * P ≤ 4 * i * a * b) :
    P ≤ 2 * b' ∧ b' ≤ P ∧ P * (P - b') ≤ (P - b) ^ 2 + P * 1 ∧ 4 * (P - b') ≤ P + 4 * 1 ∧
      (a * b' - x' * d) * P ≤ 4 * (i + 1) * d * b' ∧ (x' * d - a * b') * P ≤ 4 * (i + 1) * a * b' := by
  have hP0 : 0 < P := by omega
  have hE : P * (P - b') = (P - b) ^ 2 + rb := by linarith only [hb']
  have hrec : P * (P - b') ≤ (P - b) ^ 2 + P * 1 := by omega
  have hfirst := quad_first_step hP0 (by omega) (by omega) hrec
  have hb'1 : b' ≤ P := by
    have : 0 ≤ P * (P - b') := by rw [hE]; exact add_nonneg (sq_nonneg _) hrb0
    exact sub_nonneg.mp (nonneg_of_mul_nonneg_right this hP0)
  have hb'0 : P ≤ 2 * b' := by omega
  have ex : x' * P * d + rx * d = x * (2 * P - b) * d := by rw [← hx']; ring
  have eb : a * (b' * P) + a * rb = a * (b * (2 * P - b)) := by rw [← hb']; ring
  have hrxd0 : 0 ≤ rx * d := mul_nonneg hrx0 (le_of_lt hd)
  have hrxd1 : rx * d ≤ P * d := mul_le_mul_of_nonneg_right (le_of_lt hrx1) (le_of_lt hd)
  have harb0 : 0 ≤ a * rb := mul_nonneg ha hrb0
  have harb1 : a * rb ≤ a * P := mul_le_mul_of_nonneg_left (le_of_lt hrb1) ha
  exact ⟨hb'0, hb'1, hrec, hfirst,
    gold_drift hP0 (le_of_lt hd) hi0 hi (by omega) hb' hrb1 hb'0 hU
      (by linarith only [ex, eb, hrxd1, harb0]),
    gold_drift hP0 ha hi0 hi (by omega) hb' hrb1 hb'0 hL
      (by linarith only [ex, eb, hrxd0, harb1])⟩

/-- invariant after `i` Goldschmidt rounds on the pair `ab = (x, b)` started from `(a·w₀, d·w₀)`:
    `b ∈ [2^(c-1), 2^c]`, two-sided drift bound `−4·i·a·b ≤ (a·b − x·d)·2^c ≤ 4·i·d·b`, and the
    denominator error `2^(2^i)·(2^c − b) ≤ 2^c + 4·2^(2^i)` (`e_i ≤ 2^(-2^i) + 4/2^c`). -/
def GoldInv (c : Nat) (a d : Int) (i : Nat) (ab : Int × Int) : Prop :=
  0 ≤ ab.1 ∧ 2 ^ c ≤ 2 * ab.2 ∧ ab.2 ≤ 2 ^ c ∧
  (a * ab.2 - ab.1 * d) * 2 ^ c ≤ 4 * (i : Int) * d * ab.2 ∧
  (ab.1 * d - a * ab.2) * 2 ^ c ≤ 4 * (i : Int) * a * ab.2 ∧
  2 ^ (2 ^ i) * (2 ^ c - ab.2) ≤ 2 ^ c + 4 * 2 ^ (2 ^ i)

/-- the numerator approximates `a·2^c/d` from not too far above:
    `x·d·P ≤ a·b·(P + 4i) ≤ a·P·(P + 4n) ≤ d·M·P`. -/
theorem gold_num_le {P a d x b M i n : Int} (hP : 0 < P) (ha : 0 ≤ a) (hd : 0 < d) (hi0 : 0 ≤ i)
    (hin : i ≤ n) (hb1 : b ≤ P) (hL : (x * d - a * b) * P ≤ 4 * i * a * b)
    (hM : a * (P + 4 * n) ≤ d * M) : x ≤ M := by
  have u1 : 0 ≤ (a * (P - b)) * (P + 4 * i) :=
    mul_nonneg (mul_nonneg ha (Int.sub_nonneg_of_le hb1))
      (add_nonneg (le_of_lt hP) (mul_nonneg (by decide) hi0))
  have u2 : 0 ≤ (a * P) * (n - i) :=
    mul_nonneg (mul_nonneg ha (le_of_lt hP)) (Int.sub_nonneg_of_le hin)
  have u3 : 0 ≤ P * (d * M - a * (P + 4 * n)) :=
    mul_nonneg (le_of_lt hP) (Int.sub_nonneg_of_le hM)
  have : (d * P) * x ≤ (d * P) * M := by linarith only [hL, u1, u2, u3]
  exact le_of_mul_le_mul_left this (mul_pos hd hP)

theorem goldInv_num_le {c i n : Nat} {a d M : Int} {ab : Int × Int} (ha : 0 ≤ a) (hd : 0 < d)
    (hin : i ≤ n) (hM : a * (2 ^ c + 4 * (n : Int)) ≤ d * M) (h : GoldInv c a d i ab) : ab.1 ≤ M :=
  gold_num_le (two_pow_pos' c) ha hd (Int.natCast_nonneg i) (Int.ofNat_le.mpr hin) h.2.2.1
    h.2.2.2.2.1 hM

section
variable (sg : Bool) {c n : Nat} {a d M : Int} (hc4 : 4 ≤ c) (hc : c ≤ 30) (ha : 0 ≤ a) (hd : 0 < d)
  (hn : 4 * (n : Int) ≤ 2 ^ c) (hM : a * (2 ^ c + 4 * (n : Int)) ≤ d * M)
  (hM63 : M * 2 ^ (c + 1) < 2 ^ 63)
include hc4 hc ha hd hn hM hM63

theorem goldInv_step {i : Nat} {ab : Int × Int} (hin : i + 1 ≤ n) (h : GoldInv c a d i ab) : GoldInv c a d (i + 1) (goldStep sg 64 c ab) := by
  have hxM := goldInv_num_le ha hd (show i ≤ n by omega) hM h
  obtain ⟨x, b⟩ := ab
  obtain ⟨hx, hb0, hb1, hU, hL, hE⟩ := h
  have hP : (0:Int) < 2 ^ c := two_pow_pos' c
  have hP16 : (2:Int) ^ 4 ≤ 2 ^ c := two_pow_le_two_pow hc4
  have hx63 : x * 2 ^ (c + 1) < 2 ^ 63 :=
    lt_of_le_of_lt (mul_le_mul_of_nonneg_right hxM (le_of_lt (two_pow_pos' _))) hM63
  have hw0 : 0 ≤ 2 * 2 ^ c - b := by omega
  rw [goldStep_eq sg hc (by omega) hb1 hx hx63, two_pow_succ]
  obtain ⟨rx, hrx0, hrx1, ex⟩ := ediv_rem (x * (2 * 2 ^ c - b)) hP
  obtain ⟨rb, hrb0, hrb1, eb⟩ := ediv_rem (b * (2 * 2 ^ c - b)) hP
  obtain ⟨g1, g2, hrec, hfirst, g3, g4⟩ := gold_round (by omega) ha hd hb0 hb1 ex hrx0 hrx1 eb hrb0 hrb1
    (Int.natCast_nonneg i) (by omega) hU hL
  refine ⟨Int.ediv_nonneg (mul_nonneg hx hw0) (le_of_lt hP), g1, g2, g3, g4, ?_⟩
  dsimp only
  rw [two_pow_two_pow_succ]
  rcases Nat.eq_zero_or_pos i with rfl | hi0
  · -- first round: `B = 2`, and `e' ≤ 1/4 + 1/P` from `e ≤ 1/2`
    rw [show (2:Int) ^ (2 ^ 0) = 2 by decide]
    omega
  · have := quad_inv_step hP (by decide) (by omega) (four_le_two_pow_two_pow hi0) (by omega)
      (by omega) hrec
    omega

theorem goldInv_iter :
    ∀ (m i : Nat) (ab : Int × Int), i + m ≤ n → GoldInv c a d i ab →
      GoldInv c a d (i + m) (goldIter sg 64 c m ab)
  | 0, _, _, _, h => h
  | m + 1, i, ab, him, h => by
    rw [← Nat.add_assoc, Nat.add_right_comm]
    exact goldInv_iter m (i + 1) _ (by omega)
      (goldInv_step sg hc4 hc ha hd hn hM hM63 (by omega) h)

end

theorem goldInv_start {c : Nat} {a d w : Int} (ha : 0 ≤ a) (hw : 0 ≤ w)
    (hlo : 2 ^ c ≤ 2 * (d * w)) (hhi : d * w ≤ 2 ^ c) : GoldInv c a d 0 (a * w, d * w) := by
  have e : a * (d * w) - a * w * d = 0 := by ring
  have e' : a * w * d - a * (d * w) = 0 := by ring
  refine ⟨mul_nonneg ha hw, hlo, hhi, ?_, ?_, ?_⟩
  · simp only [e, Int.zero_mul, Int.natCast_zero, Int.mul_zero, Int.le_refl]
  · simp only [e', Int.zero_mul, Int.natCast_zero, Int.mul_zero, Int.le_refl]
  · simp only [show (2:Int) ^ (2 ^ 0) = 2 by decide]; omega

/-- what the invariant says about the returned quotient `x` (cleared of denominators):
    `x·d − a·2^c ≤ 4·n·a` and `B·(a·2^c − x·d) ≤ 4·n·d·B + a·(2^c + 4·B)`, `B = 2^(2^n)`:
    `x·d − a·P = (x·d − a·b) − a·(P − b)` with the drift bounds divided by `P ≥ b`. -/
theorem gold_quotient {P B a d x b n : Int} (hP : 0 < P) (hB : 0 ≤ B) (ha : 0 ≤ a) (hd : 0 < d)
    (hn : 0 ≤ n) (hb1 : b ≤ P) (hU : (a * b - x * d) * P ≤ 4 * n * d * b)
    (hL : (x * d - a * b) * P ≤ 4 * n * a * b) (hE : B * (P - b) ≤ P + 4 * B) :
    x * d - a * P ≤ 4 * n * a ∧ B * (a * P - x * d) ≤ 4 * n * d * B + a * (P + 4 * B) := by
  have hPb : 0 ≤ P - b := Int.sub_nonneg_of_le hb1
  have v1 : 0 ≤ (n * a) * (P - b) := mul_nonneg (mul_nonneg hn ha) hPb
  have v2 : 0 ≤ a * (P - b) := mul_nonneg ha hPb
  have hl : P * (x * d - a * b) ≤ P * (4 * n * a) := by linarith only [hL, v1]
  have w1 : 0 ≤ (n * d) * (P - b) := mul_nonneg (mul_nonneg hn (le_of_lt hd)) hPb
  have hu : P * (a * b - x * d) ≤ P * (4 * n * d) := by linarith only [hU, w1]
  have w2 : 0 ≤ B * (4 * n * d - (a * b - x * d)) :=
    mul_nonneg hB (sub_nonneg.mpr (le_of_mul_le_mul_left hu hP))
  have w3 : 0 ≤ a * (P + 4 * B - B * (P - b)) := mul_nonneg ha (Int.sub_nonneg_of_le hE)
  exact ⟨by linarith only [le_of_mul_le_mul_left hl hP, v2], by linarith only [w2, w3]⟩

end CCV.Approx
