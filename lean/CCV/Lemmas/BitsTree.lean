/-
  List facts shared by the bit-level models: a `zipWith` that selects one operand (the multiplexers),
  and one level of the log-depth reduction trees of adder.rs (`CarryNode::shrink`) and comparisons.rs
  (`ComparisonResult::shrink`): neighbouring elements are combined, and folding the combined list
  is folding the list.
-/
namespace CCV.Tree
variable {α β : Type}

theorem zipWith_left (f : α → β → α) (hf : ∀ a b, f a b = a) (x : List α) (y : List β)
    (h : x.length ≤ y.length) : List.zipWith f x y = x := by
  induction x generalizing y with
  | nil => rfl
  | cons a x ih =>
    match y, h with
    | b :: y, h => rw [List.zipWith_cons_cons, hf, ih y (Nat.le_of_succ_le_succ h)]

theorem zipWith_right (f : α → β → β) (hf : ∀ a b, f a b = b) (x : List α) (y : List β)
    (h : y.length ≤ x.length) : List.zipWith f x y = y := by
  rw [List.zipWith_comm]
  exact zipWith_left _ (fun b a => hf a b) y x h

def pairUp (f : α → α → α) : List α → List α
  | a :: b :: t => f a b :: pairUp f t
  | _ => []

@[simp] theorem pairUp_nil (f : α → α → α) : pairUp f [] = [] := rfl
@[simp] theorem pairUp_single (f : α → α → α) (a : α) : pairUp f [a] = [] := rfl
@[simp] theorem pairUp_cons_cons (f : α → α → α) (a b : α) (t : List α) :
    pairUp f (a :: b :: t) = f a b :: pairUp f t := rfl

theorem pairs_induction {motive : List α → Prop} (nil : motive []) (single : ∀ a, motive [a])
    (step : ∀ a b t, motive t → motive (a :: b :: t)) : ∀ l, motive l
  | [] => nil
  | [a] => single a
  | a :: b :: t => step a b t (pairs_induction nil single step t)

theorem pairUp_length (f : α → α → α) (l : List α) : (pairUp f l).length = l.length / 2 := by
  induction l using pairs_induction with
  | nil => exact (Nat.zero_div 2).symm
  | single a => exact (Nat.div_eq_of_lt Nat.one_lt_two).symm
  | step a b t ih =>
    simp only [pairUp_cons_cons, List.length_cons, ih]
    omega

theorem pairUp_take (f : α → α → α) (l : List α) (j : Nat) :
    pairUp f (l.take (2 * j)) = (pairUp f l).take j := by
  induction j generalizing l with
  | zero => rfl
  | succ j ih =>
    match l with
    | [] => rfl
    | [a] => rfl
    | a :: b :: t =>
      rw [Nat.mul_succ, List.take_succ_cons, List.take_succ_cons, pairUp_cons_cons, pairUp_cons_cons,
        List.take_succ_cons, ih]

/-- the way both sources write one level: every second element zipped with every second element
    of the tail (`eo` is the respective model's `everyOther`, given by its equations). -/
theorem zipWith_everyOther (eo : List α → List α) (h0 : eo [] = []) (h1 : ∀ a, eo [a] = [a])
    (h2 : ∀ a b t, eo (a :: b :: t) = a :: eo t) (f : α → α → α) (l : List α) :
    List.zipWith f (eo l) (eo (l.drop 1)) = pairUp f l := by
  induction l using pairs_induction with
  | nil => rw [h0]; rfl
  | single a => rw [List.drop_one, List.tail_cons, h0, List.zipWith_nil_right]; rfl
  | step a b t ih =>
    rw [h2, List.drop_one, List.tail_cons, pairUp_cons_cons, ← ih]
    cases t with
    | nil => rw [h1, h0, List.zipWith_cons_cons]; rfl
    | cons c t => rw [h2, List.zipWith_cons_cons, List.drop_one, List.tail_cons]

/-- folding the combined list is folding the list, when `g` absorbs `f`
    (an associative `f` with `g = f`; a monoid action). -/
theorem foldl_pairUp (f : α → α → α) (g : β → α → β) (hg : ∀ c a b, g c (f a b) = g (g c a) b)
    (l : List α) (c : β) (h : l.length % 2 = 0) : (pairUp f l).foldl g c = l.foldl g c := by
  induction l using pairs_induction generalizing c with
  | nil => rfl
  | single a => simp at h
  | step a b t ih =>
    rw [pairUp_cons_cons, List.foldl_cons, hg, List.foldl_cons, List.foldl_cons]
    exact ih _ (by simp only [List.length_cons] at h; omega)

end CCV.Tree
