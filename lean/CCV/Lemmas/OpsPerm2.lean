import CCV.Model.Ops
import CCV.Lemmas.OpsPerm
import CCV.Lemmas.OpsStruct
/-!
  ApplyPermutation on payloads of any rank: `gather` along axis 0 selects rows, selecting twice
  composes the index arrays, and the inverse of a permutation inverts on both sides.
-/
namespace CCV.Ops
open CCV CCV.Shape

def rowOf (xs : List Nat) (R k : Nat) : List Nat := slice xs (k * R) R

theorem rowOf_length (xs : List Nat) (R d k : Nat) (hx : xs.length = d * R) (hk : k < d) :
    (rowOf xs R k).length = R := by
  apply slice_length
  rw [hx]
  exact block_le R hk

theorem gather_axis0 (d : Nat) (rest xs p : List Nat) (hlt : ∀ v ∈ p, v < d) :
    gather (d :: rest) xs p 0 = .ok (p.flatMap (rowOf xs (prod rest))) := by
  rw [gather_ok (d :: rest) xs p 0 hlt]
  show Except.ok (([0].flatMap fun ai => p.map fun ie =>
    slice xs ((ai * d + ie) * prod rest) (prod rest)).flatMap id) = _
  simp only [List.flatMap_cons, List.flatMap_nil, List.append_nil, Nat.zero_mul, Nat.zero_add,
    List.flatMap_map, id]
  rfl

theorem rowOf_flatMap (xs : List Nat) (R d : Nat) (a : List Nat) (hx : xs.length = d * R)
    (ha : ∀ v ∈ a, v < d) (k : Nat) (hk : k < a.length) :
    rowOf (a.flatMap (rowOf xs R)) R k = rowOf xs R (a.getD k 0) := by
  show slice (a.flatMap (rowOf xs R)) (k * R) R = _
  rw [slice_flatMap a (rowOf xs R) R (fun v hv => rowOf_length xs R d v hx (ha v hv)) k hk]
  simp [List.getD_eq_getElem?_getD, hk]

theorem gather_rows_compose (xs : List Nat) (R d : Nat) (a b : List Nat) (hx : xs.length = d * R)
    (ha : ∀ v ∈ a, v < d) (hb : ∀ v ∈ b, v < a.length) :
    b.flatMap (rowOf (a.flatMap (rowOf xs R)) R) = b.flatMap (fun k => rowOf xs R (a.getD k 0)) := by
  apply flatMap_congr'
  intro k hk
  exact rowOf_flatMap xs R d a hx ha k (hb k hk)

theorem gather_rows_inverse (xs : List Nat) (R d : Nat) (a b : List Nat) (hx : xs.length = d * R)
    (hal : a.length = d) (hbl : b.length = d) (ha : ∀ v ∈ a, v < d) (hb : ∀ v ∈ b, v < d)
    (hab : ∀ k, k < d → a.getD (b.getD k 0) 0 = k) :
    b.flatMap (rowOf (a.flatMap (rowOf xs R)) R) = xs := by
  rw [gather_rows_compose xs R d a b hx ha (by rw [hal]; exact hb)]
  have hmap : b.map (fun k => a.getD k 0) = List.range d := by
    apply List.ext_getElem
    · simp [hbl]
    · intro i h1 h2
      have hi : i < d := by simpa using h2
      have := hab i hi
      simp only [List.getD_eq_getElem?_getD, List.getElem?_eq_getElem (hbl ▸ hi), Option.getD_some] at this
      simp [List.getD_eq_getElem?_getD, this]
  have : b.flatMap (fun k => rowOf xs R (a.getD k 0)) = (b.map (fun k => a.getD k 0)).flatMap (rowOf xs R) := by
    rw [List.flatMap_map]
  rw [this, hmap]
  exact flatMap_slices R d xs hx

/-- the check `ApplyPermutation` performs on its index array accepts a permutation of `0..n-1` -/
theorem perm_check (p : List Nat) (n : Nat) (hpl : p.length = n) (hnd : p.Nodup) (hlt : ∀ v ∈ p, v < n) :
    ((p.filter (· < n)).eraseDups).length = n := by
  have hf : p.filter (· < n) = p := List.filter_eq_self.mpr (fun a ha => by simpa using hlt a ha)
  rw [hf, eraseDups_of_nodup p hnd, hpl]

theorem inversePermutation_perm (p : List Nat) (hnd : p.Nodup) (hlt : ∀ v ∈ p, v < p.length) :
    ∃ q, inversePermutation p = .ok q ∧ q.length = p.length ∧ q.Nodup ∧ (∀ v ∈ q, v < p.length) ∧
      (∀ i, i < p.length → q.getD (p.getD i 0) 0 = i) ∧ (∀ k, k < p.length → p.getD (q.getD k 0) 0 = k) := by
  obtain ⟨q, hq, hql, hqi⟩ := inversePermutation_spec p hnd hlt
  have hsurj := mem_of_nodup_lt rfl hnd hlt
  have hpq : ∀ k, k < p.length → q.getD k 0 < p.length ∧ p.getD (q.getD k 0) 0 = k := by
    intro k hk
    obtain ⟨j, hj, hjk⟩ := List.mem_iff_getElem.mp (hsurj k hk)
    have h1 := hqi j hj
    have : p.getD j 0 = k := by simp [List.getD_eq_getElem?_getD, hj, hjk]
    rw [this] at h1
    rw [h1]
    exact ⟨hj, this⟩
  have hqlt : ∀ v ∈ q, v < p.length := by
    intro v hv
    obtain ⟨k, hk, rfl⟩ := List.mem_iff_getElem.mp hv
    have := (hpq k (hql ▸ hk)).1
    simpa [List.getD_eq_getElem?_getD, hk] using this
  refine ⟨q, hq, hql, ?_, hqlt, hqi, fun k hk => (hpq k hk).2⟩
  apply List.pairwise_iff_getElem.mpr
  intro i j hi hj hij e
  have h1 := (hpq i (hql ▸ hi)).2
  have h2 := (hpq j (hql ▸ hj)).2
  simp only [List.getD_eq_getElem?_getD, List.getElem?_eq_getElem hi, List.getElem?_eq_getElem hj,
    Option.getD_some, e] at h1 h2
  omega

theorem applyPermutation_unfold (inv : Bool) (d : Nat) (rest xs perm : List Nat) :
    applyPermutation inv (d :: rest) xs perm =
      if ((perm.filter (· < d)).eraseDups).length ≠ d then
        .error "Argument 1 doesn't contain a valid permutation."
      else
        match (if inv then executeInversePermutation perm else .ok perm) with
        | .error e => .error e
        | .ok p => gather (d :: rest) xs p 0 := rfl

example : applyPermutation false [3, 2] [1, 2, 3, 4, 5, 6] [2, 0, 1] = .ok [5, 6, 1, 2, 3, 4] := by rfl

example : applyPermutation true [3, 2] [5, 6, 1, 2, 3, 4] [2, 0, 1] = .ok [1, 2, 3, 4, 5, 6] := by rfl

example : applyPermutation true [3] [10, 20, 30] [2, 0, 1] = .ok [20, 30, 10] := rfl

example : applyPermutation false [3] [10, 20, 30] [2, 0, 1] = .ok [30, 10, 20] := rfl

end CCV.Ops
