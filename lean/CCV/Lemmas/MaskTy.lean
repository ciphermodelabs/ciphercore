import CCV.Model.MaskTy
import CCV.Lemmas.Mask
import CCV.Lemmas.PivotTyped
/- Well-typedness of the evaluation of an exported graph: with `tyOk`, every node value lies in the
   type of its tag, hence every certified message lies in the type of its pivot. -/
set_option linter.unusedSectionVars false
namespace CCV.Mask
open CCV.Pivot CCV.Run
variable {R : Type} [AddCommGroup R]

/-- types by tag: predicates on `R` closed under 0, +, − (subgroups) -/
structure TagTypes (R : Type) [AddCommGroup R] where
  P : Nat → R → Prop
  zero : ∀ t, P t 0
  add : ∀ t a b, P t a → P t b → P t (a + b)
  neg : ∀ t a, P t a → P t (-a)

theorem TagTypes.sub (T : TagTypes R) (t : Nat) (a b : R) (ha : T.P t a) (hb : T.P t b) : T.P t (a - b) := by
  rw [sub_eq_add_neg]; exact T.add t a (-b) ha (T.neg t b hb)

def TagTypes.vars (T : TagTypes R) (vty : List Nat) : Types R :=
  ⟨fun v => T.P (vty.getD v 0), fun _ => T.zero _, fun _ => T.add _, fun _ => T.neg _⟩

/-- the parameters of the semantics respect the type tags: the observer's own inputs, the masks it
    knows, and the results of all non-additive operations.  For an `op` node the result is asked to lie
    in the node's type for ALL argument lists, well-typed or not, and per tag: this is more than type
    soundness of the evaluator (C09), and cannot hold if one tag occurs at nodes of two types; it is
    what `node_typed` can use without knowing the argument types of `sem`. -/
def LeafOK (T : TagTypes R) (sem : Nat → List R → R) (own kn : Nat → R) (tys : List Nat) (idx : Nat)
    (n : Node) : Prop :=
  match n.k with
  | .own i => T.P (tys.getD idx 0) (own i)
  | .tapeK v => T.P (tys.getD idx 0) (kn v)
  | .op tag => ∀ args, T.P (tys.getD idx 0) (sem tag args)
  | _ => True

def SecretOK (T : TagTypes R) (x : Nat → R) (tys : List Nat) (idx : Nat) (n : Node) : Prop :=
  match n.k with
  | .hid i => T.P (tys.getD idx 0) (x i)
  | _ => True

section
variable (T : TagTypes R) (sem : Nat → List R → R) (own kn : Nat → R) (x ρ : Nat → R)
variable (tys vty : List Nat)

theorem arg_typed (env : List R) (deps : List Nat) (t : Nat)
    (hdep : ∀ d ∈ deps, T.P (tys.getD d 0) (env.getD d 0))
    (hall : deps.all (fun d => tys.getD d 0 == t) = true) (j : Nat) :
    T.P t ((deps.map (fun d => env.getD d 0)).getD j 0) := by
  rw [List.getD_eq_getElem?_getD, List.getElem?_map]
  cases hj : deps[j]? with
  | none => exact T.zero t
  | some d =>
    have hd := List.mem_of_getElem? hj
    show T.P t (env.getD d 0)
    rw [← eq_of_beq (List.all_eq_true.1 hall d hd)]
    exact hdep d hd

theorem node_typed (env : List R) (n : Node) (idx : Nat)
    (hdep : ∀ d ∈ n.deps, T.P (tys.getD d 0) (env.getD d 0))
    (hty : tyNodeOk tys vty idx n = true)
    (hleaf : LeafOK T sem own kn tys idx n) (hsec : SecretOK T x tys idx n)
    (hρ : TypedTape (T.vars vty) ρ) :
    T.P (tys.getD idx 0) (evalNode sem own kn x ρ env n) := by
  obtain ⟨k, deps⟩ := n
  cases k with
  | hid i => exact hsec
  | own i | tapeK v => exact hleaf
  | op tag => exact hleaf _
  | tapeU v =>
    have hv : vty.getD v 0 = tys.getD idx 0 := eq_of_beq (Bool.and_eq_true_iff.1 hty).2
    show T.P (tys.getD idx 0) (ρ v)
    rw [← hv]; exact hρ v
  | nop => exact arg_typed T tys env deps _ hdep hty 0
  | add => exact T.add _ _ _ (arg_typed T tys env deps _ hdep hty 0) (arg_typed T tys env deps _ hdep hty 1)
  | sub => exact T.sub _ _ _ (arg_typed T tys env deps _ hdep hty 0) (arg_typed T tys env deps _ hdep hty 1)

theorem tyRunOk_getElem : ∀ (g : List Node) (j : Nat), tyRunOk tys vty g j = true →
    ∀ k (hk : k < g.length), tyNodeOk tys vty (j + k) g[k] = true
  | n :: g, j, h, 0, _ => (Bool.and_eq_true_iff.1 h).1
  | n :: g, j, h, k + 1, hk => by
    have := tyRunOk_getElem g (j + 1) (Bool.and_eq_true_iff.1 h).2 k (Nat.lt_of_succ_lt_succ hk)
    rwa [Nat.add_right_comm] at this

end

def SemOK (T : TagTypes R) (sem : Nat → List R → R) (own kn : Nat → R) (g : List Node) (tys : List Nat) : Prop :=
  ∀ j n, g[j]? = some n → LeafOK T sem own kn tys j n

def SecOK (T : TagTypes R) (g : List Node) (tys : List Nat) (x : Nat → R) : Prop :=
  ∀ j n, g[j]? = some n → SecretOK T x tys j n

theorem eval_typed (T : TagTypes R) (sem : Nat → List R → R) (own kn : Nat → R) (g : List Node)
    (tys vty : List Nat) (cert : Cert) (h : tyOk g tys vty cert = true) (hw : wellScoped g 0 = true)
    (hsem : SemOK T sem own kn g tys) (x ρ : Nat → R) (hx : SecOK T g tys x)
    (hρ : TypedTape (T.vars vty) ρ) (m : Nat) (hm : m < g.length) :
    T.P (tys.getD m 0) ((evalRun sem own kn x ρ g []).getD m 0) := by
  simp only [tyOk, Bool.and_eq_true, decide_eq_true_eq] at h
  refine scoped_induct Node.deps g (wellScoped_lt hw)
    (fun k => T.P (tys.getD k 0) ((evalRun sem own kn x ρ g []).getD k 0)) (fun k hk ih => ?_) m hm
  have hn : g[k]? = some g[k] := List.getElem?_eq_getElem hk
  have hty := tyRunOk_getElem tys vty g 0 h.1.2 k hk
  rw [Nat.zero_add] at hty
  rw [(evalRun_isRun sem own kn x ρ).getD g k hk]
  refine node_typed T sem own kn x ρ tys vty _ g[k] k (fun d hd => ?_) hty (hsem k _ hn) (hx k _ hn) hρ
  rw [getD_take (wellScoped_lt hw k hk d hd)]
  exact ih d hd

theorem cert_msgs_typed (T : TagTypes R) (sem : Nat → List R → R) (own kn : Nat → R) (g : List Node)
    (tys vty : List Nat) (cert : Cert) (h : tyOk g tys vty cert = true) (hd : discOk g cert = true)
    (hsem : SemOK T sem own kn g tys) :
    ∀ m ∈ cert.map (toMsg sem own kn g), MsgTyped (T.vars vty) (SecOK T g tys) m := by
  intro m hm
  obtain ⟨mv, hmv, rfl⟩ := List.mem_map.mp hm
  intro x ρ hx hρ
  have hd' := hd
  simp only [discOk, Bool.and_eq_true, List.all_eq_true, decide_eq_true_eq] at hd'
  have hlt : mv.1 < g.length := hd'.1.2 mv hmv
  have hc := h
  simp only [tyOk, Bool.and_eq_true, List.all_eq_true, decide_eq_true_eq] at hc
  have hmvt := hc.2 mv hmv
  simp only [Bool.and_eq_true, decide_eq_true_eq, beq_iff_eq] at hmvt
  have := eval_typed T sem own kn g tys vty cert h hd'.1.1 hsem x ρ hx hρ mv.1 hlt
  show T.P (vty.getD mv.2 0) ((evalRun sem own kn x ρ g []).getD mv.1 0)
  rw [← hmvt.2]; exact this

end CCV.Mask
