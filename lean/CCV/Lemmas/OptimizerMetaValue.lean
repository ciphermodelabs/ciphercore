import CCV.Lemmas.OptimizerMeta
/-
  Value preservation of the meta-operation pass: the loop invariant "a proxy object denotes the
  value of its node" (`Den`), for nested proxies, and its maintenance by `vget` / `applyMeta` /
  `metaR`; C04(b) and the annotations for the same loop.
-/
namespace CCV.Optimizer

variable {V : Type}

section
variable (sem : Op → List V → V) (inp : Nat → V) (dv : V) (rnd : Nat → List V → V)

def ev (out : List Node) (k : Nat) : V := (eval sem inp dv rnd out).getD k dv

variable {sem inp dv rnd}

theorem ev_append (out ext : List Node) {k : Nat} (hk : k < out.length) :
    ev sem inp dv rnd (out ++ ext) k = ev sem inp dv rnd out k :=
  eval_getD_append sem inp dv rnd out ext k hk

theorem NoInputExt.ev {out out' : List Node} (h : NoInputExt out out') {k : Nat} (hk : k < out.length) :
    ev sem inp dv rnd out' k = ev sem inp dv rnd out k := by
  obtain ⟨ext, rfl, _⟩ := h
  exact ev_append out ext hk

theorem ev_snoc (out : List Node) (n : Node) :
    ev sem inp dv rnd (out ++ [n]) out.length =
      nodeVal sem inp dv rnd (eval sem inp dv rnd out) (countIn out) out.length n := by
  unfold ev
  rw [eval_snoc, List.getD_eq_getElem?_getD,
    List.getElem?_append_right (Nat.le_of_eq (eval_length ..)), eval_length, Nat.sub_self]
  rfl

theorem ev_mk (out : List Node) {op : Op} (deps : List Nat) (ty : Ty) (h1 : op.isInput = false)
    (h2 : op.isRandom = false) :
    ev sem inp dv rnd (out ++ [mkNode op deps ty]) out.length =
      sem op (deps.map (ev sem inp dv rnd out)) := by
  rw [ev_snoc, nodeVal_plain _ _ _ _ _ _ _ _ h1 h2]
  rfl

theorem countIn_ops (l : List Node) : countIn l = ((l.map (·.op)).filter Op.isInput).length := by
  rw [List.filter_map, List.length_map]
  rfl

theorem evalRev_congr : ∀ (l1 l2 : List Node),
    l1.map (fun n => (n.op, n.deps)) = l2.map (fun n => (n.op, n.deps)) →
    evalRev sem inp dv rnd l1 = evalRev sem inp dv rnd l2 := by
  intro l1
  induction l1 with
  | nil =>
    intro l2 h
    rw [List.map_nil, eq_comm, List.map_eq_nil_iff] at h
    rw [h]
  | cons a r ih =>
    intro l2 h
    cases l2 with
    | nil => cases h
    | cons b r2 =>
      rw [List.map_cons, List.map_cons, List.cons.injEq, Prod.mk.injEq] at h
      obtain ⟨⟨hop, hdeps⟩, hr⟩ := h
      have hlen : r.length = r2.length := by
        rw [← List.length_map (as := r), hr, List.length_map]
      have hcnt : countIn r.reverse = countIn r2.reverse := by
        have hops : r.map (·.op) = r2.map (·.op) := by
          have := congrArg (List.map Prod.fst) hr
          rw [List.map_map, List.map_map] at this
          exact this
        rw [countIn_ops, countIn_ops, List.map_reverse, List.map_reverse, hops]
      simp only [evalRev_cons, ih r2 hr, hcnt, hlen]
      unfold nodeVal
      rw [hop, hdeps]

theorem eval_addAnn (out : List Node) (k : Nat) (anns : List Nat) :
    eval sem inp dv rnd (addAnn out k anns) = eval sem inp dv rnd out := by
  unfold eval
  apply evalRev_congr
  rw [List.map_reverse, List.map_reverse, map_addAnn _ (fun _ _ => rfl)]

theorem ev_addAnn (out : List Node) (k : Nat) (anns : List Nat) :
    ev sem inp dv rnd (addAnn out k anns) = ev sem inp dv rnd out := by
  funext j
  unfold ev
  rw [eval_addAnn]

end

/-- `Den sem tyv e p v`: the proxy object `p` describes the value `v`, where `e k` is the value of the
    result-graph node `k`.  Elements of compound proxies are (proxy, node) pairs; each element proxy
    describes the value of its own node, recursively.  `number` leaves the value id open (a proxy
    records only the number, and `MetaLaws.vectorGet` holds for every id); `zip` also records that
    its components are vectors, which `maybe_vector_get` needs to type the VectorGet nodes it creates. -/
inductive Den (sem : Op → List V → V) (tyv : V → Ty) (e : Nat → V) : Proxy → V → Prop where
  | number (c vid : Nat) : Den sem tyv e (.number c) (sem (.constant vid (some c)) [])
  | unknown (v : V) : Den sem tyv e .unknown v
  | a2v (arr : Nat) : Den sem tyv e (.a2v arr) (sem .arrayToVector [e arr])
  | tuple (es : List PN) : (∀ x ∈ es, Den sem tyv e x.1 (e x.2)) →
      Den sem tyv e (.tuple es) (sem .createTuple (es.map fun x => e x.2))
  | named (es : List (Nat × PN)) : (es.map (·.1)).Nodup → (∀ x ∈ es, Den sem tyv e x.2.1 (e x.2.2)) →
      Den sem tyv e (.named es) (sem (.createNamedTuple (es.map (·.1))) (es.map fun x => e x.2.2))
  | zip (es : List PN) : (∀ x ∈ es, Den sem tyv e x.1 (e x.2)) →
      (∀ x ∈ es, ∃ t, tyv (e x.2) = .vec t) →
      Den sem tyv e (.zip es) (sem .zip (es.map fun x => e x.2))
  | vector (es : List PN) (t : Nat) : (∀ x ∈ es, Den sem tyv e x.1 (e x.2)) →
      Den sem tyv e (.vector es) (sem (.createVector t) (es.map fun x => e x.2))
  | a2b (n : Nat) : Den sem tyv e (.a2b n) (sem .a2b [e n])
  | b2a (n st : Nat) : Den sem tyv e (.b2a n) (sem (.b2a st) [e n])

def DenPN (sem : Op → List V → V) (tyv : V → Ty) (e : Nat → V) (p : PN) : Prop := Den sem tyv e p.1 (e p.2)

section
variable {sem : Op → List V → V} {tyv : V → Ty}

theorem Den.inv {e : Nat → V} {p : Proxy} {v : V} (h : Den sem tyv e p v) :
    match p with
    | .number c => ∃ vid, v = sem (.constant vid (some c)) []
    | .unknown => True
    | .a2v arr => v = sem .arrayToVector [e arr]
    | .tuple es => v = sem .createTuple (es.map fun x => e x.2) ∧ ∀ x ∈ es, DenPN sem tyv e x
    | .named es => v = sem (.createNamedTuple (es.map (·.1))) (es.map fun x => e x.2.2) ∧
        (es.map (·.1)).Nodup ∧ ∀ x ∈ es, DenPN sem tyv e x.2
    | .zip es => v = sem .zip (es.map fun x => e x.2) ∧ (∀ x ∈ es, DenPN sem tyv e x) ∧
        ∀ x ∈ es, ∃ t, tyv (e x.2) = .vec t
    | .vector es => (∃ t, v = sem (.createVector t) (es.map fun x => e x.2)) ∧
        ∀ x ∈ es, DenPN sem tyv e x
    | .a2b n => v = sem .a2b [e n]
    | .b2a n => ∃ st, v = sem (.b2a st) [e n] := by
  cases h with
  | number c vid => exact ⟨vid, rfl⟩
  | unknown => trivial
  | a2v | a2b => rfl
  | tuple es h => exact ⟨rfl, h⟩
  | named es hn h => exact ⟨rfl, hn, h⟩
  | zip es h hv => exact ⟨rfl, h, hv⟩
  | vector es t h => exact ⟨⟨t, rfl⟩, h⟩
  | b2a n st => exact ⟨st, rfl⟩

theorem Den.mono {e e' : Nat → V} {b : Nat} (hag : ∀ k, k < b → e' k = e k) {p : Proxy} {v : V}
    (h : Den sem tyv e p v) : PBound b p → Den sem tyv e' p v := by
  have vals : ∀ es : List PN, (∀ x ∈ es, PNBound b x) →
      (es.map fun x => e x.2) = es.map fun x => e' x.2 :=
    fun es hb => List.map_congr_left fun x hx => (hag x.2 (hb x hx).2).symm
  have kids : ∀ es : List PN, (∀ x ∈ es, PBound b x.1 → Den sem tyv e' x.1 (e x.2)) →
      (∀ x ∈ es, PNBound b x) → ∀ x ∈ es, Den sem tyv e' x.1 (e' x.2) := by
    intro es ih hb x hx
    rw [hag x.2 (hb x hx).2]
    exact ih x hx (hb x hx).1
  induction h with
  | number c vid => exact fun _ => .number c vid
  | unknown v => exact fun _ => .unknown v
  | a2v arr =>
    intro hb
    rw [← hag arr hb.inv]
    exact .a2v arr
  | tuple es _ ih =>
    intro hb
    rw [vals es hb.inv]
    exact .tuple es (kids es ih hb.inv)
  | named es hnd _ ih =>
    intro hb
    have hb := hb.inv
    have : (es.map fun x => e x.2.2) = es.map fun x => e' x.2.2 :=
      List.map_congr_left fun x hx => (hag x.2.2 (hb x hx).2).symm
    rw [this]
    refine .named es hnd fun x hx => ?_
    rw [hag x.2.2 (hb x hx).2]
    exact ih x hx (hb x hx).1
  | zip es _ hv ih =>
    intro hb
    rw [vals es hb.inv]
    refine .zip es (kids es ih hb.inv) fun x hx => ?_
    rw [hag x.2 (hb.inv x hx).2]
    exact hv x hx
  | vector es t _ ih =>
    intro hb
    rw [vals es hb.inv]
    exact .vector es t (kids es ih hb.inv)
  | a2b n =>
    intro hb
    rw [← hag n hb.inv]
    exact .a2b n
  | b2a n st =>
    intro hb
    rw [← hag n hb.inv]
    exact .b2a n st

theorem DenPN.mono {e e' : Nat → V} {b : Nat} (hag : ∀ k, k < b → e' k = e k) {p : PN}
    (h : DenPN sem tyv e p) (hb : PNBound b p) : DenPN sem tyv e' p := by
  unfold DenPN
  rw [hag p.2 hb.2]
  exact Den.mono hag h hb.1

end

section
variable (ok : V → Prop) (sem : Op → List V → V) (inp : Nat → V) (dv : V) (rnd : Nat → List V → V)
  (tyv : V → Ty)

def TyInv (out : List Node) : Prop :=
  ∀ k n', out[k]? = some n' → tyv (ev sem inp dv rnd out k) = n'.ty ∧ ok (ev sem inp dv rnd out k)

variable {ok sem inp dv rnd tyv}

theorem TyInv.tyOf {out : List Node} (h : TyInv ok sem inp dv rnd tyv out) {k : Nat} (hk : k < out.length) :
    tyOf out k = tyv (ev sem inp dv rnd out k) := by
  unfold Optimizer.tyOf
  rw [List.getD_eq_getElem?_getD, List.getElem?_eq_getElem hk]
  exact (h k out[k] (List.getElem?_eq_getElem hk)).1.symm

theorem TyInv.snoc {out : List Node} (h : TyInv ok sem inp dv rnd tyv out) {n : Node} {v : V}
    (hv : ev sem inp dv rnd (out ++ [n]) out.length = v) (hty : tyv v = n.ty) (hok : ok v) :
    TyInv ok sem inp dv rnd tyv (out ++ [n]) := by
  intro k n' hk
  rcases getElem?_snoc_cases hk with hk | ⟨rfl, rfl⟩
  · rw [ev_append _ _ (lt_of_getElem?_some hk)]
    exact h k n' hk
  · rw [hv]
    exact ⟨hty, hok⟩

/-- the conclusion has the form of the goals of `vget_spec` (see `bound_snoc`) -/
theorem TyInv.mk {out : List Node} (h : TyInv ok sem inp dv rnd tyv out) {op : Op} {deps : List Nat}
    {ty : Ty} {v : V} (h1 : op.isInput = false) (h2 : op.isRandom = false)
    (hv : sem op (deps.map (ev sem inp dv rnd out)) = v) (hty : tyv v = ty) (hok : ok v) {p : Proxy}
    (hp : Den sem tyv (ev sem inp dv rnd out) p v) (hb : PBound out.length p) :
    TyInv ok sem inp dv rnd tyv (out ++ [mkNode op deps ty]) ∧
      ∀ e, some (p, out.length) = some e →
        ev sem inp dv rnd (out ++ [mkNode op deps ty]) e.2 = v ∧
        DenPN sem tyv (ev sem inp dv rnd (out ++ [mkNode op deps ty])) e := by
  have hval := (ev_mk out deps ty h1 h2).trans hv
  refine ⟨h.snoc hval hty hok, fun e he => ?_⟩
  cases he
  refine ⟨hval, ?_⟩
  unfold DenPN
  rw [hval]
  exact hp.mono (fun k hk => ev_append out _ hk) hb

theorem vget_spec (L : MetaLaws ok sem tyv) : ∀ fuel : Nat,
    (∀ out p index idx r out' vid, Closed out → PNBound out.length p → idx < out.length →
      TyInv ok sem inp dv rnd tyv out → DenPN sem tyv (ev sem inp dv rnd out) p →
      (∃ t, tyv (ev sem inp dv rnd out p.2) = .vec t) →
      ev sem inp dv rnd out idx = sem (.constant vid (some index)) [] →
      ok (sem .vectorGet [ev sem inp dv rnd out p.2, ev sem inp dv rnd out idx]) →
      vget fuel out p index idx = some (r, out') →
      TyInv ok sem inp dv rnd tyv out' ∧ ∀ e, r = some e →
        ev sem inp dv rnd out' e.2 = sem .vectorGet [ev sem inp dv rnd out p.2, ev sem inp dv rnd out idx] ∧
        DenPN sem tyv (ev sem inp dv rnd out') e) ∧
    (∀ out vecs index idx acc r out' vid, Closed out → (∀ v ∈ vecs, PNBound out.length v) →
      (∀ a ∈ acc, PNBound out.length a) → idx < out.length → TyInv ok sem inp dv rnd tyv out →
      (∀ v ∈ vecs, DenPN sem tyv (ev sem inp dv rnd out) v) →
      (∀ a ∈ acc, DenPN sem tyv (ev sem inp dv rnd out) a) →
      (∀ v ∈ vecs, ∃ t, tyv (ev sem inp dv rnd out v.2) = .vec t) →
      ev sem inp dv rnd out idx = sem (.constant vid (some index)) [] →
      (∀ v ∈ vecs, ok (sem .vectorGet [ev sem inp dv rnd out v.2, ev sem inp dv rnd out idx])) →
      vgetAll fuel out vecs index idx acc = some (r, out') →
      TyInv ok sem inp dv rnd tyv out' ∧ ∀ sl, r = some sl →
        sl.map (fun x => ev sem inp dv rnd out' x.2) = acc.map (fun x => ev sem inp dv rnd out x.2) ++
          vecs.map (fun v => sem .vectorGet [ev sem inp dv rnd out v.2, ev sem inp dv rnd out idx]) ∧
        ∀ a ∈ sl, DenPN sem tyv (ev sem inp dv rnd out') a) := by
  intro fuel
  induction fuel with
  | zero => exact ⟨nofun, nofun⟩
  | succ f ih =>
    constructor
    · intro out p index idx r out' vid hc hp hidx hty hden hvec hcv hok h
      have hp1 := hp.1
      unfold DenPN at hden
      unfold vget at h
      split at h
      · -- a proxied vector: the element itself
        rename_i es heq
        rw [heq] at hden
        obtain ⟨⟨t, hv⟩, hch⟩ := hden.inv
        split at h
        · rename_i e he
          cases h
          refine ⟨hty, fun e' he' => ?_⟩
          cases he'
          obtain ⟨hlt, hee⟩ := List.getElem?_eq_some_iff.mp he
          refine ⟨?_, hch e (List.mem_of_getElem? he)⟩
          rw [hv, hcv] at hok ⊢
          rw [L.vectorGet t _ vid index (by rw [List.length_map]; exact hlt) hok, List.getElem_map, hee]
        · cases h
      · -- ArrayToVector: Get on a one-dimensional array, GetSlice otherwise
        rename_i arr heq
        rw [heq] at hden hp1
        have harr : arr < out.length := hp1.inv
        have hlaw := L.a2vGet (ev sem inp dv rnd out arr) vid index
        rw [← hden.inv, ← hcv] at hlaw
        have hlaw := hlaw hok
        rw [hty.tyOf harr] at h
        split at h
        · rename_i st hcase
          cases h
          rw [hcase] at hlaw
          change _ = sem (.get index) _ at hlaw
          exact hty.mk rfl rfl hlaw.symm (by rw [hlaw]; exact L.ty_get _ _ _ hcase (hlaw ▸ hok)) hok
            (.unknown _) .unknown
        · rename_i nd st hne hcase
          cases h
          rw [hcase] at hlaw
          split at hlaw
          · rename_i st' hh
            cases hh
            exact absurd rfl hne
          · refine hty.mk rfl rfl hlaw.symm ?_ hok (.unknown _) .unknown
            rw [hlaw, L.ty_getSlice _ _ (hlaw ▸ hok), hcase]
        · rename_i hne1 hne2
          cases h
          split at hlaw
          · rename_i st hh
            exact absurd hh (hne1 st)
          · refine hty.mk rfl rfl hlaw.symm ?_ hok (.unknown _) .unknown
            rw [hlaw, L.ty_getSlice _ _ (hlaw ▸ hok)]
            split
            · rename_i nd st hh
              exact absurd hh (hne2 nd st)
            · rfl
      · -- no proxy information: an explicit VectorGet node
        cases h
        obtain ⟨t, ht⟩ := hvec
        refine hty.mk rfl rfl rfl ?_ hok (.unknown _) .unknown
        change tyv (sem .vectorGet [_, _]) = _
        rw [L.ty_vectorGet _ _ t ht hok, hty.tyOf hp.2, ht]
        rfl
      · -- Zip: VectorGet distributes over the components, which are collected in a tuple
        rename_i vecs heq
        rw [heq] at hden hp1
        obtain ⟨hv, hch, hcv'⟩ := hden.inv
        have hvb := hp1.inv
        rw [hv] at hok
        have hzl := L.zipGet _ _ hok
        have hokc : ∀ v ∈ vecs, ok (sem .vectorGet [ev sem inp dv rnd out v.2, ev sem inp dv rnd out idx]) := by
          intro v hvm
          refine L.ok_createTuple _ (hzl ▸ hok) _ ?_
          rw [List.map_map]
          exact List.mem_map_of_mem hvm
        rw [hv]
        split at h
        · cases h
        · rename_i hv1
          cases h
          exact ⟨(ih.2 _ _ _ _ _ _ _ vid hc hvb (List.forall_mem_nil _) hidx hty hch (List.forall_mem_nil _) hcv' hcv hokc hv1).1, nofun⟩
        · rename_i sl out1 hv1
          cases h
          obtain ⟨h1, h2⟩ := ih.2 _ _ _ _ _ _ _ vid hc hvb (List.forall_mem_nil _) hidx hty hch (List.forall_mem_nil _) hcv' hcv hokc hv1
          obtain ⟨hmap, hsl⟩ := h2 sl rfl
          have hslb := ((vget_bound f).2 _ _ _ _ _ _ _ hc hvb (List.forall_mem_nil _) hidx hv1).2 sl rfl
          have hval : sem .createTuple (sl.map fun x => ev sem inp dv rnd out1 x.2) =
              sem .vectorGet [sem .zip (vecs.map fun x => ev sem inp dv rnd out x.2), ev sem inp dv rnd out idx] := by
            rw [hmap, hzl, List.map_map]
            rfl
          refine h1.mk rfl rfl ?_ (hval ▸ L.ty_createTuple _) hok (hval ▸ .tuple sl hsl)
            (.tuple sl (fun e he => (hslb e he).1) fun e he => (hslb e he).2)
          rw [List.map_map]
          exact hval
      · cases h
        exact ⟨hty, nofun⟩
    · intro out vecs index idx acc r out' vid hc hvb hab hidx hty hvd had hvt hcv hokv h
      unfold vgetAll at h
      split at h
      · cases h
        refine ⟨hty, fun sl hsl => ?_⟩
        cases hsl
        exact ⟨(List.append_nil _).symm, had⟩
      · rename_i v vs
        have hv := fun r out1 => ih.1 out v index idx r out1 vid hc (hvb v List.mem_cons_self) hidx hty (hvd v List.mem_cons_self)
          (hvt v List.mem_cons_self) hcv (hokv v List.mem_cons_self)
        split at h
        · cases h
        · rename_i hv1
          cases h
          exact ⟨(hv _ _ hv1).1, nofun⟩
        · rename_i s out1 hv1
          obtain ⟨h1, h2⟩ := hv _ _ hv1
          obtain ⟨hs1, hs2⟩ := h2 s rfl
          obtain ⟨hc1, hsb⟩ := (vget_bound f).1 _ _ _ _ _ _ hc (hvb v List.mem_cons_self) hidx hv1
          have hext := (vget_ext f).1 _ _ _ _ _ _ hv1
          have hle := hext.le
          have hag : ∀ k, k < out.length → ev sem inp dv rnd out1 k = ev sem inp dv rnd out k :=
            fun k hk => hext.ev hk
          have hvs : ∀ x ∈ vs, x ∈ v :: vs := fun x hx => List.mem_cons_of_mem _ hx
          have hvg : ∀ x ∈ vs, sem .vectorGet [ev sem inp dv rnd out1 x.2, ev sem inp dv rnd out1 idx] =
              sem .vectorGet [ev sem inp dv rnd out x.2, ev sem inp dv rnd out idx] :=
            fun x hx => by rw [hag x.2 (hvb x (hvs x hx)).2, hag idx hidx]
          obtain ⟨h3, h4⟩ := ih.2 _ _ _ _ _ _ _ vid hc1 (fun x hx => (hvb x (hvs x hx)).mono hle)
            (List.forall_mem_append.mpr
              ⟨fun a ha => (hab a ha).mono hle, List.forall_mem_singleton.mpr (hsb s rfl)⟩)
            (Nat.lt_of_lt_of_le hidx hle) h1
            (fun x hx => (hvd x (hvs x hx)).mono hag (hvb x (hvs x hx)))
            (List.forall_mem_append.mpr
              ⟨fun a ha => (had a ha).mono hag (hab a ha), List.forall_mem_singleton.mpr hs2⟩)
            (fun x hx => by rw [hag x.2 (hvb x (hvs x hx)).2]; exact hvt x (hvs x hx))
            (by rw [hag idx hidx]; exact hcv)
            (fun x hx => by rw [hvg x hx]; exact hokv x (hvs x hx)) h
          refine ⟨h3, fun sl hsl => ?_⟩
          obtain ⟨h5, h6⟩ := h4 sl hsl
          refine ⟨?_, h6⟩
          rw [h5, List.map_append, List.append_assoc, List.map_cons, List.map_nil, hs1,
            List.map_congr_left fun a ha => hag a.2 (hab a ha).2, List.map_congr_left hvg]
          rfl

theorem applyMeta_spec (L : MetaLaws ok sem tyv) {fuel : Nat} {out : List Node} {op : Op} {pds : List PN}
    {r : Option PN} {out' : List Node} {SI : V} (hokSI : ok SI) (hc : Closed out)
    (hty : TyInv ok sem inp dv rnd tyv out) (hb : ∀ d ∈ pds, PNBound out.length d)
    (hden : ∀ d ∈ pds, DenPN sem tyv (ev sem inp dv rnd out) d)
    (hSI : op.isInput = false → op.isRandom = false →
      SI = sem op (pds.map fun d => ev sem inp dv rnd out d.2))
    (hvg : op = .vectorGet → ∀ x, (pds.map fun d => ev sem inp dv rnd out d.2).head? = some x →
      ∃ t, tyv x = .vec t)
    (h : applyMeta fuel out op pds = some (r, out')) :
    TyInv ok sem inp dv rnd tyv out' ∧ ∀ e, r = some e →
      ev sem inp dv rnd out' e.2 = SI ∧ DenPN sem tyv (ev sem inp dv rnd out') e := by
  rcases applyMeta_cases h with ⟨rfl, rfl⟩ | ⟨nm, d, es, e, rfl, rfl, hes, he, rfl, rfl⟩ |
    ⟨j, d, es, e, rfl, rfl, hes, he, rfl, rfl⟩ | ⟨v, i, index, rfl, rfl, hi, hv⟩
  · exact ⟨hty, nofun⟩
  · refine ⟨hty, fun e' he' => ?_⟩
    cases he'
    have hdd := hden d List.mem_cons_self
    unfold DenPN at hdd
    rw [hes] at hdd
    obtain ⟨hv, hnd, hch⟩ := hdd.inv
    obtain ⟨j, hj⟩ := namedGet_spec nm es e he
    obtain ⟨hjl, hej⟩ := List.getElem?_eq_some_iff.mp hj
    refine ⟨?_, hch _ (List.mem_of_getElem? hj)⟩
    have hnm : (es.map (·.1))[j]! = nm := by
      rw [List.getElem!_eq_getElem?_getD, List.getElem?_map, hj]
      rfl
    have hlaw := L.namedGet (es.map (·.1)) (es.map fun x => ev sem inp dv rnd out' x.2.2) j
      (by rw [List.length_map]; exact hjl) (by rw [List.length_map, List.length_map]) hnd
    rw [hnm, ← hv, List.getElem_map, hej] at hlaw
    cases hSI rfl rfl
    exact (hlaw hokSI).symm
  · refine ⟨hty, fun e' he' => ?_⟩
    cases he'
    have hdd := hden d List.mem_cons_self
    unfold DenPN at hdd
    rw [hes] at hdd
    obtain ⟨hv, hch⟩ := hdd.inv
    obtain ⟨hjl, hej⟩ := List.getElem?_eq_some_iff.mp he
    refine ⟨?_, hch _ (List.mem_of_getElem? he)⟩
    have hlaw := L.tupleGet (es.map fun x => ev sem inp dv rnd out' x.2) j (by rw [List.length_map]; exact hjl)
    rw [← hv, List.getElem_map, hej] at hlaw
    cases hSI rfl rfl
    exact (hlaw hokSI).symm
  · have hdi := hden i (List.mem_cons_of_mem _ List.mem_cons_self)
    unfold DenPN at hdi
    rw [hi] at hdi
    obtain ⟨vid, hvid⟩ := hdi.inv
    cases hSI rfl rfl
    exact (vget_spec L fuel).1 _ _ _ _ _ _ vid hc (hb v List.mem_cons_self)
      (hb i (List.mem_cons_of_mem _ List.mem_cons_self)).2 hty (hden v List.mem_cons_self)
      (hvg rfl _ rfl) hvid hokSI hv

theorem elems_den {e : Nat → V} {deps : List Nat} {mds : List (Option PN)}
    (hmd : ∀ d p, (d, some p) ∈ deps.zip mds → DenPN sem tyv e p) :
    ∀ x ∈ elems deps mds, DenPN sem tyv e x := by
  intro x hx
  obtain ⟨⟨d, md⟩, hmem, rfl⟩ := List.mem_map.mp hx
  cases md with
  | none => exact .unknown _
  | some p => exact hmd d p hmem

theorem elems_val {e : Nat → V} {deps : List Nat} {mds : List (Option PN)} (hlen : mds.length = deps.length)
    (hmd : ∀ d p, (d, some p) ∈ deps.zip mds → e p.2 = e d) :
    (elems deps mds).map (fun x => e x.2) = deps.map e := by
  have : ∀ x ∈ deps.zip mds, e (match x.2 with | some p => p | none => (Proxy.unknown, x.1)).2 = e x.1 := by
    intro x hx
    obtain ⟨d, md⟩ := x
    cases md with
    | none => rfl
    | some p => exact hmd d p hx
  unfold elems
  rw [List.map_map]
  refine (List.map_congr_left (g := e ∘ Prod.fst) this).trans ?_
  rw [← List.map_map, List.map_fst_zip (Nat.le_of_eq hlen.symm)]

theorem filterMap_val {e : Nat → V} : ∀ {deps : List Nat} {mds : List (Option PN)},
    mds.length = deps.length → mds.all Option.isSome = true →
    (∀ d p, (d, some p) ∈ deps.zip mds → e p.2 = e d) →
    (mds.filterMap id).map (fun p => e p.2) = deps.map e := by
  intro deps
  induction deps with
  | nil =>
    intro mds hl _ _
    rw [List.eq_nil_of_length_eq_zero hl]
    rfl
  | cons d ds ih =>
    intro mds hl hall h
    cases mds with
    | nil => cases hl
    | cons md r =>
      rw [List.all_cons, Bool.and_eq_true] at hall
      cases md with
      | none => cases hall.1
      | some p =>
        rw [List.filterMap_cons_some (f := id) rfl, List.map_cons, List.map_cons, h d p List.mem_cons_self,
          ih (Nat.succ.inj hl) hall.2 fun d' p' hm => h d' p' (List.mem_cons_of_mem _ hm)]

theorem mem_zip_headD {d : Nat} {mds : List (Option PN)} {p : PN} (h : mds.headD none = some p) :
    (d, some p) ∈ [d].zip mds := by
  cases mds with
  | nil => cases h
  | cons x r =>
    cases (h : x = some p)
    exact List.mem_singleton.mpr rfl

/-- the arity (`hwf`) is needed because the pass reads `deps[0]` of A2B / B2A / ArrayToVector and
    pairs names with dependencies -/
theorem metaR_spec (L : MetaLaws ok sem tyv) {fuel : Nat} {out : List Node} {simple : Nat} {op : Op}
    {deps : List Nat} {mds : List (Option PN)} {mn : Option PN} {out' : List Node}
    (hoks : ok (ev sem inp dv rnd out simple)) (hc : Closed out) (hty : TyInv ok sem inp dv rnd tyv out)
    (hSI : op.isInput = false → op.isRandom = false →
      ev sem inp dv rnd out simple = sem op (deps.map (ev sem inp dv rnd out)))
    (hlen : mds.length = deps.length)
    (hmd : ∀ d p, (d, some p) ∈ deps.zip mds → ev sem inp dv rnd out p.2 = ev sem inp dv rnd out d ∧
      DenPN sem tyv (ev sem inp dv rnd out) p ∧ PNBound out.length p)
    (hwf : arityOK op deps.length = true)
    (hvg : op = .vectorGet → ∀ x, (deps.map (ev sem inp dv rnd out)).head? = some x → ∃ t, tyv x = .vec t)
    (hzp : op = .zip → ∀ x ∈ deps.map (ev sem inp dv rnd out), ∃ t, tyv x = .vec t)
    (h : metaR fuel out simple op deps mds = some (mn, out')) :
    TyInv ok sem inp dv rnd tyv out' ∧ ∀ p, mn = some p →
      ev sem inp dv rnd out' p.2 = ev sem inp dv rnd out simple ∧
      DenPN sem tyv (ev sem inp dv rnd out') p := by
  have same : ∀ p : PN, ev sem inp dv rnd out p.2 = ev sem inp dv rnd out simple →
      Den sem tyv (ev sem inp dv rnd out) p.1 (ev sem inp dv rnd out simple) →
      TyInv ok sem inp dv rnd tyv out ∧ ∀ q, some p = some q →
        ev sem inp dv rnd out q.2 = ev sem inp dv rnd out simple ∧
        DenPN sem tyv (ev sem inp dv rnd out) q := by
    intro p hp hd
    refine ⟨hty, fun q hq => ?_⟩
    cases hq
    refine ⟨hp, ?_⟩
    unfold DenPN
    rw [hp]
    exact hd
  have hel_den := elems_den (sem := sem) (tyv := tyv) fun d p hx => (hmd d p hx).2.1
  have hel_val := elems_val hlen fun d p hx => (hmd d p hx).1
  unfold metaR at h
  split at h
  · rename_i vid num
    split at h
    · rename_i c
      cases h
      refine same _ rfl ?_
      rw [hSI rfl rfl, List.eq_nil_of_length_eq_zero (eq_of_beq hwf)]
      exact .number c vid
    · cases h
      exact ⟨hty, nofun⟩
  · cases h
    obtain ⟨d, rfl⟩ := List.length_eq_one_iff.mp (eq_of_beq hwf)
    refine same _ rfl ?_
    rw [hSI rfl rfl]
    exact .a2v d
  · -- A2B: on a B2A proxy the original bit array is reused (A2B ∘ B2A = id)
    cases h
    obtain ⟨d, rfl⟩ := List.length_eq_one_iff.mp (eq_of_beq hwf)
    have hSI' := hSI rfl rfl
    refine same _ ?_ (hSI' ▸ .a2b d)
    split
    · rename_i bin x hm'
      obtain ⟨h1, h2, _⟩ := hmd d _ (mem_zip_headD hm')
      obtain ⟨st, hst⟩ := h2.inv
      rw [hSI']
      change _ = sem .a2b [ev sem inp dv rnd out d]
      rw [← h1, hst, L.a2b_b2a _ _ (by rw [← hst, h1]; exact hSI' ▸ hoks)]
    · rfl
  · -- B2A: on an A2B proxy of an array with the same scalar type the array is reused
    rename_i st'
    cases h
    obtain ⟨d, rfl⟩ := List.length_eq_one_iff.mp (eq_of_beq hwf)
    have hSI' := hSI rfl rfl
    refine same _ ?_ (hSI' ▸ .b2a d st')
    split
    · rename_i ar x hm'
      obtain ⟨h1, h2, h3⟩ := hmd d _ (mem_zip_headD hm')
      have har : ar < out.length := h3.1.inv
      have hv : ev sem inp dv rnd out x = sem .a2b [ev sem inp dv rnd out ar] := h2.inv
      split
      · rename_i nd s hcase
        split
        · rename_i hst
          rw [hty.tyOf har] at hcase
          rw [hSI']
          change _ = sem (.b2a st') [ev sem inp dv rnd out d]
          rw [← h1, hv, hst, L.b2a_a2b _ nd s hcase (hty ar _ (List.getElem?_eq_getElem har)).2
            (by rw [← hst, ← hv, h1]; exact hSI' ▸ hoks)]
        · rfl
      · rfl
    · rfl
  · rename_i names
    cases h
    have hnm : names.Nodup ∧ names.length = deps.length := by
      have := Bool.and_eq_true_iff.mp hwf
      exact ⟨of_decide_eq_true this.1, eq_of_beq this.2⟩
    have hl := congrArg List.length hel_val
    rw [List.length_map, List.length_map, ← hnm.2] at hl
    have e1 : (names.zip (elems deps mds)).map (·.1) = names := List.map_fst_zip (Nat.le_of_eq hl.symm)
    have e2 : (names.zip (elems deps mds)).map (fun x => ev sem inp dv rnd out x.2.2) =
        deps.map (ev sem inp dv rnd out) :=
      (List.map_map (f := Prod.snd) (g := fun x : PN => ev sem inp dv rnd out x.2)).symm.trans
        (by rw [List.map_snd_zip (Nat.le_of_eq hl), hel_val])
    refine same _ rfl ?_
    have := Den.named (sem := sem) (tyv := tyv) (e := ev sem inp dv rnd out) (names.zip (elems deps mds))
      (e1.symm ▸ hnm.1) fun x hx => hel_den x.2 (List.of_mem_zip hx).2
    rw [e1, e2, ← hSI rfl rfl] at this
    exact this
  · cases h
    refine same _ rfl ?_
    rw [hSI rfl rfl, ← hel_val]
    exact .tuple _ hel_den
  · rename_i t
    cases h
    refine same _ rfl ?_
    rw [hSI rfl rfl, ← hel_val]
    exact .vector _ t hel_den
  · cases h
    refine same _ rfl ?_
    rw [hSI rfl rfl, ← hel_val]
    refine .zip _ hel_den fun x hx => hzp rfl _ ?_
    rw [← hel_val]
    exact List.mem_map_of_mem (f := fun x : PN => ev sem inp dv rnd out x.2) hx
  · split at h
    · rename_i hall
      have hvals := filterMap_val hlen hall fun d p hx => (hmd d p hx).1
      have hzip : ∀ p ∈ mds.filterMap id, ∃ d, (d, some p) ∈ deps.zip mds := by
        intro p hp
        obtain ⟨j, hj⟩ := List.mem_iff_getElem?.mp (mem_filterMap_id.mp hp)
        have hjl : j < deps.length := hlen ▸ lt_of_getElem?_some hj
        exact ⟨deps[j], List.mem_iff_getElem?.mpr
          ⟨j, List.getElem?_zip_eq_some.mpr ⟨List.getElem?_eq_getElem hjl, hj⟩⟩⟩
      refine applyMeta_spec L hoks hc hty (fun p hp => ?_) (fun p hp => ?_) ?_ ?_ h
      · obtain ⟨d, hd⟩ := hzip p hp
        exact (hmd d p hd).2.2
      · obtain ⟨d, hd⟩ := hzip p hp
        exact (hmd d p hd).2.1
      · rw [hvals]
        exact hSI
      · rw [hvals]
        exact hvg
    · cases h
      exact ⟨hty, nofun⟩

end

section
variable (ok : V → Prop) (sem : Op → List V → V) (inp : Nat → V) (dv : V) (rO rN : Nat → List V → V)
  (tyv : V → Ty) (src : List Node)

/-- loop invariant of `optimize_graph_meta_operations`, for an oracle `rN` of the result -/
structure VInv (st : MSt) : Prop where
  vals : ∀ i k, Maps st.m i k → ev sem inp dv rN st.out k = ev sem inp dv rO src i
  den : ∀ (i : Nat) (p : PN), st.px[i]? = some (some p) →
    Maps st.m i p.2 ∧ DenPN sem tyv (ev sem inp dv rN st.out) p
  ty : TyInv ok sem inp dv rN tyv st.out

variable {ok sem inp dv rO rN tyv src}

theorem VInv.nil : VInv ok sem inp dv rO rN tyv src ⟨[], [], []⟩ where
  vals := fun _ _ h => by cases h
  den := fun _ _ h => by cases h
  ty := fun _ _ h => by cases h

/-- the invariant is kept for every oracle compatible with the mapping built so far (`hP`), so that
    compatibility with the final mapping is only needed at the end -/
theorem metaStep_vinv (L : MetaLaws ok sem tyv) (hsrc : Closed src)
    (htyS : TyOK sem inp dv rO tyv src) (hokS : ValOK ok sem inp dv rO src) {fuel : Nat}
    {pre rest : List Node} {n : Node} (hsplit : src = pre ++ n :: rest) {st st' : MSt}
    (hm : st.m.length = pre.length) (hp : st.px.length = pre.length)
    (hi : inputsOf st.out = inputsOf pre) (I : MInv st)
    (hP : ∀ rN, Compat pre st.m rO rN → VInv ok sem inp dv rO rN tyv src st) (hwf : metaWF n = true)
    (hvo : (n.op = .vectorGet → ∀ d, n.deps.head? = some d → ∃ t, tyv (ev sem inp dv rO src d) = .vec t) ∧
      (n.op = .zip → ∀ d ∈ n.deps, ∃ t, tyv (ev sem inp dv rO src d) = .vec t))
    (h : metaStep fuel (some st) n = some st') (hcomp : Compat (pre ++ [n]) st'.m rO rN) :
    VInv ok sem inp dv rO rN tyv src st' := by
  obtain ⟨mn, out', k, hR, hk1, hk0, rfl⟩ := metaStep_shape h
  have hn : src[pre.length]? = some n := by rw [hsplit]; simp
  have V := hP rN fun i j n0 hij hn0 hr =>
    hcomp i j n0 (maps_append_left hij) (getElem?_append_some _ hn0) hr
  have hrand : n.op.isRandom = true → rN st.out.length = rO pre.length := fun hr => by
    have hk := hk0 (metaR_special (Or.inl hr) hR).1
    exact hcomp pre.length st.out.length n (hk ▸ hm ▸ maps_append_new st.m k)
      List.getElem?_concat_length hr
  have hd : ∀ d ∈ n.deps, d < st.m.length := hm ▸ closed_deps_lt (hsplit ▸ hsrc)
  have hlook : ∀ d ∈ n.deps, look st.m d < st.out.length ∧
      ev sem inp dv rN st.out (look st.m d) = ev sem inp dv rO src d :=
    fun d hdd => ⟨(I.look (hd d hdd)).2, V.vals d _ (I.look (hd d hdd)).1⟩
  have hSspec : ev sem inp dv rO src pre.length =
      nodeVal sem inp dv rO (eval sem inp dv rO src) (countIn pre) pre.length n := by
    have := eval_spec sem inp dv rO src hsrc pre.length n hn
    rw [hsplit, List.take_left, ← hsplit] at this
    exact this
  generalize hsn : ({ n.remap st.m with ann := [] } : Node) = simpleNode at hR
  have hop : simpleNode.op = n.op := by rw [← hsn]; rfl
  have hdeps : simpleNode.deps = n.deps.map (look st.m) := by rw [← hsn]; rfl
  have hs : ev sem inp dv rN (st.out ++ [simpleNode]) st.out.length = ev sem inp dv rO src pre.length := by
    rw [ev_snoc, hSspec]
    refine nodeVal_eq sem inp dv hop ?_ (fun _ => ?_) hrand
    · rw [hdeps, List.map_map]
      exact List.map_congr_left fun d hdd => (hlook d hdd).2
    · rw [countIn_eq_inputsOf, hi, ← countIn_eq_inputsOf]
  have hc1 : Closed (st.out ++ [simpleNode]) := closed_snoc I.closed fun d hdd => by
    rw [hdeps] at hdd
    obtain ⟨d0, h0, rfl⟩ := List.mem_map.mp hdd
    exact (hlook d0 h0).1
  have hag1 : ∀ j, j < st.out.length →
      ev sem inp dv rN (st.out ++ [simpleNode]) j = ev sem inp dv rN st.out j :=
    fun j hj => ev_append _ _ hj
  have hokn : ok (ev sem inp dv rO src pre.length) := hokS pre.length (lt_of_getElem?_some hn)
  have hty1 : TyInv ok sem inp dv rN tyv (st.out ++ [simpleNode]) :=
    V.ty.snoc hs (by rw [← hsn]; exact htyS pre.length n hn) hokn
  have hargs : (n.deps.map (look st.m)).map (ev sem inp dv rN (st.out ++ [simpleNode])) =
      n.deps.map (ev sem inp dv rO src) := by
    rw [List.map_map]
    exact List.map_congr_left fun d hdd => (hag1 _ (hlook d hdd).1).trans (hlook d hdd).2
  obtain ⟨hty', hmn⟩ := metaR_spec (inp := inp) (dv := dv) (rnd := rN) L (hs ▸ hokn) hc1 hty1
    (fun h1 h2 => by rw [hs, hSspec, nodeVal_plain _ _ _ _ _ _ _ _ h1 h2, hargs]; rfl)
    (by rw [List.length_map, List.length_map])
    (fun d p hx => by
      rw [List.zip_map', List.mem_map] at hx
      obtain ⟨d0, _, he⟩ := hx
      obtain ⟨rfl, h2⟩ := Prod.mk.inj he
      have hpx := getD_none_eq_some.mp h2
      obtain ⟨hmp, hdp⟩ := V.den d0 p hpx
      have hb := I.pb d0 p hpx
      refine ⟨by rw [look_of_maps hmp], hdp.mono hag1 hb, hb.mono ?_⟩
      rw [List.length_append]
      exact Nat.le_succ _)
    (by rw [List.length_map]; exact hwf)
    (fun hop' x hx => by
      rw [hargs, List.head?_map] at hx
      obtain ⟨d0, hh, rfl⟩ := Option.map_eq_some_iff.mp hx
      exact hvo.1 hop' d0 hh)
    (fun hop' x hx => by
      rw [hargs] at hx
      obtain ⟨d0, h0, rfl⟩ := List.mem_map.mp hx
      exact hvo.2 hop' d0 h0)
    hR
  have hext := metaR_ext hR
  have hag' : ∀ j, j < st.out.length → ev sem inp dv rN out' j = ev sem inp dv rN st.out j := fun j hj =>
    (hext.ev (by rw [List.length_append]; exact Nat.lt_succ_of_lt hj)).trans (hag1 j hj)
  have hnew : ev sem inp dv rN out' k = ev sem inp dv rO src pre.length := by
    cases mn with
    | none =>
      rw [hk0 rfl, hext.ev (by rw [List.length_append]; exact Nat.lt_succ_self _)]
      exact hs
    | some p =>
      rw [hk1 p rfl]
      exact (hmn p rfl).1.trans hs
  refine ⟨fun i j hij => ?_, fun i p hpx => ?_, fun j n' hj => ?_⟩
  · rw [ev_addAnn]
    rcases maps_append_cases hij with hij | ⟨hi', hx⟩
    · rw [hag' j (I.lt hij)]
      exact V.vals i j hij
    · cases hx
      rw [hi', hm]
      exact hnew
  · rw [ev_addAnn]
    rcases getElem?_snoc_cases hpx with hpx | ⟨hi', hx⟩
    · obtain ⟨h1, h2⟩ := V.den i p hpx
      exact ⟨maps_append_left h1, h2.mono hag' (I.pb i p hpx)⟩
    · refine ⟨?_, (hmn p hx).2⟩
      rw [hi', hp, ← hm, ← hk1 p hx]
      exact maps_append_new _ _
  · rw [ev_addAnn]
    obtain ⟨n0, h0, rfl⟩ := getElem?_addAnn_some hj
    exact hty' j n0 h0

theorem metaOps_value (L : MetaLaws ok sem tyv) (g g' : Graph) (m : Mapping)
    (hc : Closed g.nodes)
    (hwf : MetaWF g.nodes) (h : metaOps g = some (g', m))
    (htyS : TyOK sem inp dv rO tyv g.nodes) (hokS : ValOK ok sem inp dv rO g.nodes) (hvo : VecOK sem inp dv rO tyv g.nodes)
    (hcomp : Compat g.nodes m rO rN) :
    (∀ i k, Maps m i k →
      (eval sem inp dv rN g'.nodes).getD k dv = (eval sem inp dv rO g.nodes).getD i dv) ∧
    TyOK sem inp dv rN tyv g'.nodes ∧ ValOK ok sem inp dv rN g'.nodes := by
  obtain ⟨st, rfl, rfl, _, _, hP⟩ := metaOps_ind_closed
    (fun pre st => ∀ rN, Compat pre st.m rO rN → VInv ok sem inp dv rO rN tyv g.nodes st) hc h
    (fun _ _ => .nil)
    fun pre n rest st st' hg _ hm hp hi I _ hP hs rN hcomp =>
      have hn : g.nodes[pre.length]? = some n := by rw [hg]; simp
      metaStep_vinv L hc htyS hokS hg hm hp hi I hP (hwf n (List.mem_of_getElem? hn))
        (hvo pre.length n hn) hs hcomp
  have V := hP rN hcomp
  exact ⟨V.vals, fun i n hn => (V.ty i n hn).1, fun i hi => (V.ty i _ (List.getElem?_eq_getElem hi)).2⟩

end

theorem addAnn_get {out : List Node} {j : Nat} {n0 : Node} (k : Nat) (anns : List Nat)
    (h : out[j]? = some n0) :
    ∃ n', (addAnn out k anns)[j]? = some n' ∧ n'.op = n0.op ∧ (∀ a ∈ n0.ann, a ∈ n'.ann) ∧
      (k = j → ∀ a ∈ anns, a ∈ n'.ann) := by
  refine ⟨{ n0 with ann := if k = j then n0.ann ++ anns else n0.ann }, by rw [getElem?_addAnn, h]; rfl,
    rfl, fun a ha => ?_, fun hkj a ha => ?_⟩
  · show a ∈ if k = j then n0.ann ++ anns else n0.ann
    split
    · exact List.mem_append_left _ ha
    · exact ha
  · show a ∈ if k = j then n0.ann ++ anns else n0.ann
    rw [if_pos hkj]
    exact List.mem_append_right _ ha

/-- `sp1`: a special node is the first node mapped to its image, so no other special node is mapped
    there -/
structure SInv (pre : List Node) (st : MSt) : Prop where
  sp1 : ∀ i k n, Maps st.m i k → pre[i]? = some n → Special n.op →
    (∃ n', st.out[k]? = some n' ∧ n'.op = n.op) ∧ ∀ j, Maps st.m j k → i ≤ j
  sp2 : ∀ k n', st.out[k]? = some n' → Special n'.op →
    ∃ i n, Maps st.m i k ∧ pre[i]? = some n ∧ n.op = n'.op
  ann : ∀ i k n, Maps st.m i k → pre[i]? = some n →
    ∃ n', st.out[k]? = some n' ∧ ∀ a ∈ n.ann, a ∈ n'.ann

theorem SInv.nil : SInv [] ⟨[], [], []⟩ where
  sp1 := fun _ _ _ h => by cases h
  sp2 := fun _ _ h => by cases h
  ann := fun _ _ _ h => by cases h

theorem metaStep_sinv {fuel : Nat} {pre : List Node} {n : Node} {st st' : MSt}
    (hm : st.m.length = pre.length) (I : MInv st) (I' : MInv st') (S : SInv pre st)
    (h : metaStep fuel (some st) n = some st') : SInv (pre ++ [n]) st' := by
  obtain ⟨mn, out', k, hR, _, hk0, rfl⟩ := metaStep_shape h
  have hsp : Special n.op → k = st.out.length := fun hs => hk0 (metaR_special hs hR).1
  obtain ⟨ext, rfl, hext⟩ := metaR_ext hR
  generalize hsn : ({ n.remap st.m with ann := [] } : Node) = simpleNode at I' hR ⊢
  have hopS : simpleNode.op = n.op := by rw [← hsn]; rfl
  have hnew : k < (st.out ++ [simpleNode] ++ ext).length := by
    have := I'.lt (maps_append_new st.m k)
    rwa [addAnn_length] at this
  have hold : ∀ (j : Nat) (n0 : Node), st.out[j]? = some n0 →
      ∃ n', (addAnn (st.out ++ [simpleNode] ++ ext) k n.ann)[j]? = some n' ∧ n'.op = n0.op ∧
        ∀ a ∈ n0.ann, a ∈ n'.ann := by
    intro j n0 hj
    obtain ⟨n', h1, h2, h3, _⟩ :=
      addAnn_get k n.ann (getElem?_append_some ext (getElem?_append_some [simpleNode] hj))
    exact ⟨n', h1, h2, h3⟩
  have hsimple : ∃ n', (addAnn (st.out ++ [simpleNode] ++ ext) k n.ann)[st.out.length]? = some n' ∧
      n'.op = n.op := by
    obtain ⟨n', h1, h2, _⟩ :=
      addAnn_get k n.ann (getElem?_append_some ext (List.getElem?_concat_length (l := st.out)))
    exact ⟨n', h1, h2.trans hopS⟩
  refine ⟨fun i j ni hij hni hspi => ?_, fun j n' hj hspj => ?_, fun i j ni hij hni => ?_⟩
  · rcases maps_snoc_cases hm hij hni with ⟨hij0, hni0⟩ | ⟨hi, hx, rfl⟩
    · obtain ⟨⟨n', h1, h2⟩, h4⟩ := S.sp1 i j ni hij0 hni0 hspi
      obtain ⟨n'', h5, h6, _⟩ := hold j n' h1
      refine ⟨⟨n'', h5, h6.trans h2⟩, fun j' hj' => ?_⟩
      rcases maps_append_cases hj' with hj' | ⟨hj', _⟩
      · exact h4 j' hj'
      · rw [hj']
        exact Nat.le_of_lt (maps_lt hij0)
    · -- a special node is mapped to its own copy, which is new
      cases hx
      have hkk := hsp hspi
      subst hkk
      refine ⟨hsimple, fun j' hj' => ?_⟩
      rcases maps_append_cases hj' with hj' | ⟨hj', _⟩
      · exact absurd (I.lt hj') (Nat.lt_irrefl _)
      · rw [hj', hi, hm]
        exact Nat.le_refl _
  · obtain ⟨n0, h0, rfl⟩ := getElem?_addAnn_some hj
    have hspj : Special n0.op := hspj
    rw [List.getElem?_append] at h0
    split at h0
    · rcases getElem?_snoc_cases h0 with h0 | ⟨rfl, rfl⟩
      · obtain ⟨i, ni, h1, h2, h3⟩ := S.sp2 j n0 h0 hspj
        exact ⟨i, ni, maps_append_left h1, getElem?_append_some _ h2, h3⟩
      · rw [hopS] at hspj
        refine ⟨pre.length, n, ?_, List.getElem?_concat_length, hopS.symm⟩
        rw [← hsp hspj, ← hm]
        exact maps_append_new _ _
    · exact absurd hspj (not_special_of_plain (hext n0 (List.mem_of_getElem? h0)))
  · rcases maps_snoc_cases hm hij hni with ⟨hij, hni⟩ | ⟨_, hx, rfl⟩
    · obtain ⟨n', h1, h2⟩ := S.ann i j ni hij hni
      obtain ⟨n'', h5, _, h6⟩ := hold j n' h1
      exact ⟨n'', h5, fun a ha => h6 a (h2 a ha)⟩
    · cases hx
      obtain ⟨n', h1, _, _, h2⟩ := addAnn_get k ni.ann (List.getElem?_eq_getElem hnew)
      exact ⟨n', h1, h2 rfl⟩

theorem metaOps_special (g g' : Graph) (m : Mapping) (hc : Closed g.nodes)
    (h : metaOps g = some (g', m)) :
    SpecialInj g.nodes g'.nodes m ∧
    ∀ i k n, Maps m i k → g.nodes[i]? = some n →
      ∃ n', g'.nodes[k]? = some n' ∧ ∀ a ∈ n.ann, a ∈ n'.ann := by
  obtain ⟨st, rfl, rfl, _, _, S⟩ := metaOps_ind_closed SInv hc h .nil
    fun _ _ _ _ _ _ _ hm _ _ I I' S hs => metaStep_sinv hm I I' S hs
  refine ⟨⟨fun i k n hik hn hs => ?_, S.sp2⟩, S.ann⟩
  obtain ⟨h1, h2⟩ := S.sp1 i k n hik hn hs
  exact ⟨h1, fun j nj hj hnj hsj => Nat.le_antisymm ((S.sp1 j k nj hj hnj hsj).2 i hik) (h2 j hj), h2⟩

end CCV.Optimizer
