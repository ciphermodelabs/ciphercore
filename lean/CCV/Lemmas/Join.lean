import CCV.Model.Join
/-
  Lemmas about the join model (CCV/Model/Join.lean) for CCV/Proofs/C19.lean: the hash map
  (`lookup`, `insertKey`, the fold of `buildMap`), matching (`findMatch`, `liveKeys`), cells and
  positions (`copyCell`, `cellAt`, `posOf`), rows that carry the key of another row (`SameKey`) and
  the live keys of tables made row by row, the row equation behind full = union(a, left(b, a));
  at the end the example tables used by C19.
-/
namespace CCV.Join

theorem lookup_insertKey (m : List (List Int × Row)) (k' k : List Int) (r : Row) :
    lookup (insertKey m k' r) k = if k' = k then some r else lookup m k := by
  induction m with
  | nil => rfl
  | cons p t ih =>
    by_cases h : p.1 = k'
    · by_cases hk : k' = k <;> simp [insertKey, lookup, h, hk]
    · by_cases hk : k' = k
      · subst hk; simp [insertKey, lookup, h, ih]
      · simp [insertKey, lookup, h, hk, ih]

/-- The fold of `buildMap` with the test and the key left open (`if !keep r`: what `buildMap` reads
    after `hasEmpty` is rewritten to `!live`): replacing inserts of the kept rows of `B`.  When these have pairwise different keys, none of them in the map `m` the fold starts
    from, a key is answered by `m` or else by the first kept row of `B` that carries it (a later
    row with the same key would have replaced it). -/
theorem lookup_foldl (keep : Row → Bool) (key : Row → List Int) (k : List Int) (B : Table) :
    ∀ m : List (List Int × Row), (∀ r ∈ B, keep r = true → lookup m (key r) = none) →
      ((B.filter keep).map key).Nodup →
      lookup (B.foldl (fun m r => if !keep r then m else insertKey m (key r) r) m) k =
        (lookup m k).or (B.find? fun r => keep r && decide (key r = k)) := by
  induction B with
  | nil => intro m _ _; exact Option.or_none.symm
  | cons r B ih =>
    intro m hm hu
    have hm' := fun r' hr' => hm r' (List.mem_cons_of_mem _ hr')
    rw [List.foldl_cons, List.find?_cons]
    cases hl : keep r
    · rw [List.filter_cons_of_neg (Bool.eq_false_iff.1 hl)] at hu
      exact ih m hm' hu
    · rw [List.filter_cons_of_pos hl, List.map_cons, List.nodup_cons] at hu
      rw [Bool.not_true, if_neg Bool.false_ne_true, ih _ ?_ hu.2, lookup_insertKey]
      · by_cases hk : key r = k
        · subst hk; simp [hm r List.mem_cons_self hl]
        · simp [hk]
      · intro r' hr' hl'
        rw [lookup_insertKey, if_neg, hm' r' hr' hl']
        intro e
        exact hu.1 (e ▸ List.mem_map_of_mem (List.mem_filter.2 ⟨hr', hl'⟩))

theorem findMatch_nil (ks : List Nat) (k : List Int) : findMatch ks [] k = none := rfl

theorem findMatch_cons (ks : List Nat) (r : Row) (T : Table) (k : List Int) :
    findMatch ks (r :: T) k =
      if live ks r = true ∧ rowKey ks r = k then some r else findMatch ks T k := by
  simp only [findMatch, List.find?_cons]
  cases live ks r <;> by_cases h : rowKey ks r = k <;> simp [h]

theorem liveKeys_nil (ks : List Nat) : liveKeys ks [] = [] := rfl

theorem liveKeys_cons (ks : List Nat) (r : Row) (T : Table) :
    liveKeys ks (r :: T) = if live ks r then rowKey ks r :: liveKeys ks T else liveKeys ks T := by
  unfold liveKeys
  cases h : live ks r
  · rw [List.filter_cons_of_neg (Bool.eq_false_iff.1 h)]; rfl
  · rw [List.filter_cons_of_pos h]; rfl

theorem liveKeys_append (ks : List Nat) (S T : Table) :
    liveKeys ks (S ++ T) = liveKeys ks S ++ liveKeys ks T := by
  simp only [liveKeys, List.filter_append, List.map_append]

theorem mem_liveKeys {ks : List Nat} {T : Table} {k : List Int} :
    k ∈ liveKeys ks T ↔ ∃ r ∈ T, live ks r = true ∧ rowKey ks r = k := by
  simp only [liveKeys, List.mem_map, List.mem_filter, and_assoc]

theorem liveKeys_filter_sublist (ks : List Nat) (c : Row → Bool) (T : Table) :
    (liveKeys ks (T.filter c)).Sublist (liveKeys ks T) :=
  (List.filter_sublist.filter _).map _

theorem findMatch_eq_none_iff {ks : List Nat} {T : Table} {k : List Int} :
    findMatch ks T k = none ↔ k ∉ liveKeys ks T := by
  simp only [findMatch, List.find?_eq_none, mem_liveKeys, Bool.and_eq_true, decide_eq_true_eq,
    not_exists, not_and]

theorem findMatch_some {ks : List Nat} {T : Table} {k : List Int} {r : Row}
    (h : findMatch ks T k = some r) : r ∈ T ∧ live ks r = true ∧ rowKey ks r = k := by
  have h2 := List.find?_some h
  simp only [Bool.and_eq_true, decide_eq_true_eq] at h2
  exact ⟨List.mem_of_find?_eq_some h, h2⟩

theorem live_null {ks : List Nat} {r : Row} (h : live ks r = true) : r.null = true := by
  rw [live, Bool.and_eq_true] at h; exact h.1

theorem matchOf_of_live {P : Plan} {a : Row} (B : Table) (h : live P.k0 a = true) :
    matchOf P B a = findMatch P.k1 B (rowKey P.k0 a) := if_pos h

theorem zeroRow_null (ws : List Nat) : (zeroRow ws).null = false := rfl
theorem merged_null (P : Plan) (a b : Row) : (merged P a b).null = true := rfl
theorem padded_null (P : Plan) (a : Row) : (padded P a).null = true := rfl
theorem liftRow_null (P : Plan) (s : Bool) (b : Row) : (liftRow P s b).null = true := rfl
theorem mergedB_null (P : Plan) (b : Row) (a : Option Row) : (mergedB P b a).null = true := rfl

theorem live_zeroRow (ks ws : List Nat) : live ks (zeroRow ws) = false := rfl

theorem copyCell_mask (w : Nat) (c : Cell) : (copyCell w c).mask = c.mask := by
  unfold copyCell; split <;> simp_all [zeroCell]

theorem copyCell_of_mask {w : Nat} {c : Cell} (h : c.mask = true) : copyCell w c = c := if_pos h

theorem copyCell_zeroCell (w w' : Nat) : copyCell w (zeroCell w') = zeroCell w := rfl

theorem copyCell_copyCell (w w' : Nat) (c : Cell) :
    copyCell w (copyCell w' c) = copyCell w c := by
  cases h : c.mask
  · simp [copyCell, h, zeroCell]
  · simp [copyCell_of_mask h]

theorem wf_length {ws : List Nat} {T : Table} (h : WellFormed ws T) {r : Row} (hr : r ∈ T) :
    r.cells.length = ws.length := by
  have := congrArg List.length (h r hr)
  rwa [List.length_map] at this

theorem cellAt_copyRow_append (ws : List Nat) (a : Row) (n : Bool) (X : List Cell) (j : Nat)
    (h1 : j < ws.length) (h2 : j < a.cells.length) :
    cellAt ⟨n, copyRow ws a ++ X⟩ j = copyCell (widthAt ws j) (cellAt a j) := by
  have hl : j < (List.zipWith copyCell ws a.cells).length := by
    rw [List.length_zipWith]; exact Nat.lt_min.2 ⟨h1, h2⟩
  simp only [cellAt, widthAt, copyRow, List.getD_eq_getElem?_getD, List.getElem?_append_left hl,
    List.getElem?_zipWith, List.getElem?_eq_getElem h1, List.getElem?_eq_getElem h2, Option.getD_some]

theorem cellAt_copyRow_append_right (ws : List Nat) (a : Row) (n : Bool) (X : List Cell) (i : Nat)
    (h : a.cells.length = ws.length) :
    cellAt ⟨n, copyRow ws a ++ X⟩ (i + ws.length) = X.getD i ⟨false, []⟩ := by
  have hl : (List.zipWith copyCell ws a.cells).length = ws.length := by
    rw [List.length_zipWith, h, Nat.min_self]
  rw [cellAt, copyRow, List.getD_eq_getElem?_getD,
    List.getElem?_append_right (by rw [hl]; exact Nat.le_add_left _ _), hl, Nat.add_sub_cancel,
    List.getD_eq_getElem?_getD]

theorem cellAt_rangeMap_append (n : Bool) (m : Nat) (F : Nat → Cell) (X : List Cell) (j : Nat)
    (h : j < m) : cellAt ⟨n, (List.range m).map F ++ X⟩ j = F j := by
  have hl : j < ((List.range m).map F).length := by rwa [List.length_map, List.length_range]
  simp only [cellAt, List.getD_eq_getElem?_getD, List.getElem?_append_left hl, List.getElem?_map,
    List.getElem?_range h, Option.map_some, Option.getD_some]

theorem posOf_eq_none_iff {j : Nat} {ks : List Nat} : posOf j ks = none ↔ j ∉ ks := by
  induction ks with
  | nil => simp [posOf]
  | cons k ks ih =>
    rw [posOf, List.mem_cons, not_or, ← ih]
    by_cases hk : k = j
    · simp [hk]
    · simp [hk, Ne.symm hk]

theorem posOf_some {j i : Nat} {ks : List Nat} (h : posOf j ks = some i) :
    ∃ h : i < ks.length, ks[i] = j := by
  induction ks generalizing i with
  | nil => cases h
  | cons k ks ih =>
    rw [posOf] at h
    split at h
    · cases h; exact ⟨Nat.zero_lt_succ _, ‹k = j›⟩
    · obtain ⟨i', hp, rfl⟩ := Option.map_eq_some_iff.1 h
      obtain ⟨h1, h2⟩ := ih hp
      exact ⟨Nat.succ_lt_succ h1, h2⟩

theorem posOf_getElem {ks : List Nat} (hnd : ks.Nodup) {i : Nat} (h : i < ks.length) :
    posOf ks[i] ks = some i := by
  induction ks generalizing i with
  | nil => simp at h
  | cons k ks ih =>
    rw [List.nodup_cons] at hnd
    cases i with
    | zero => simp [posOf]
    | succ i =>
      have hi : i < ks.length := by simpa using h
      have hne : k ≠ ks[i] := by
        intro e; apply hnd.1; rw [e]; exact List.getElem_mem hi
      simp [posOf, hne, ih hnd.2 hi]

def SameKey (ks : List Nat) (r : Row) (ks' : List Nat) (r' : Row) : Prop :=
  live ks r = live ks' r' ∧ (live ks' r' = true → rowKey ks r = rowKey ks' r')

/-- Rows with the same null flag whose cells at aligned key positions are copies (`copyCell`) of
    one another carry the same key: a copy keeps the mask, and an entry whose mask is one is copied
    unchanged. -/
theorem sameKey_of_cells {r r' : Row} (hn : r.null = r'.null) {ks ks' : List Nat}
    (hlen : ks.length = ks'.length)
    (hc : ∀ i (h : i < ks.length) (h' : i < ks'.length),
      ∃ w, cellAt r ks[i] = copyCell w (cellAt r' ks'[i])) :
    SameKey ks r ks' r' := by
  induction ks generalizing ks' with
  | nil =>
    cases ks' with
    | nil => exact ⟨by rw [live, live, hn]; rfl, fun _ => rfl⟩
    | cons => cases hlen
  | cons j ks ih =>
    cases ks' with
    | nil => cases hlen
    | cons j' ks' =>
      obtain ⟨w, hw⟩ := hc 0 (Nat.zero_lt_succ _) (Nat.zero_lt_succ _)
      obtain ⟨ih1, ih2⟩ := ih (Nat.succ.inj hlen) fun i hi hi' =>
        hc (i + 1) (Nat.succ_lt_succ hi) (Nat.succ_lt_succ hi')
      change cellAt r j = copyCell w (cellAt r' j') at hw
      simp only [SameKey, live, List.all_cons] at ih1 ih2 ⊢
      rw [hw, copyCell_mask]
      refine ⟨by rw [Bool.and_left_comm, ih1, Bool.and_left_comm], fun hl => ?_⟩
      simp only [Bool.and_eq_true] at hl ih2
      show (cellAt r j).data ++ rowKey ks r = (cellAt r' j').data ++ rowKey ks' r'
      rw [hw, copyCell_of_mask hl.2.1, ih2 ⟨hl.1, hl.2.2⟩]

theorem sameKey_copyRow (ks ws : List Nat) (a : Row) (X : List Cell)
    (hk : ∀ j ∈ ks, j < ws.length) (ha : a.cells.length = ws.length) (hn : a.null = true) :
    SameKey ks ⟨true, copyRow ws a ++ X⟩ ks a :=
  sameKey_of_cells hn.symm rfl fun i h _ =>
    have hj := hk ks[i] (List.getElem_mem h)
    ⟨_, cellAt_copyRow_append ws a true X ks[i] hj (ha ▸ hj)⟩

theorem sameKey_fromB (P : Plan) (hP : P.ok) (b : Row) (F : Nat → Cell) (X : List Cell)
    (hF : ∀ j i, posOf j P.k0 = some i →
      F j = copyCell (widthAt P.w0 j) (cellAt b (P.k1.getD i 0)))
    (hn : b.null = true) :
    SameKey P.k0 ⟨true, (List.range P.w0.length).map F ++ X⟩ P.k1 b := by
  obtain ⟨hlen, h0, _, hnd⟩ := hP
  refine sameKey_of_cells hn.symm hlen fun i h h' => ⟨widthAt P.w0 P.k0[i], ?_⟩
  rw [cellAt_rangeMap_append _ _ _ _ _ (h0 _ (List.getElem_mem h)), hF _ i (posOf_getElem hnd h),
    List.getD_eq_getElem?_getD, List.getElem?_eq_getElem h', Option.getD_some]

theorem liveKeys_map_filter (ks ks' : List Nat) (g : Row → Row) (c : Row → Bool) (T : Table)
    (h1 : ∀ r ∈ T, c r = true → SameKey ks (g r) ks' r)
    (h0 : ∀ r ∈ T, c r = false → live ks (g r) = false) :
    liveKeys ks (T.map g) = liveKeys ks' (T.filter c) := by
  induction T with
  | nil => rfl
  | cons r T ih =>
    rw [List.forall_mem_cons] at h1 h0
    rw [List.map_cons, liveKeys_cons, ih h1.2 h0.2]
    cases hc : c r
    · rw [h0.1 hc, List.filter_cons_of_neg (Bool.eq_false_iff.1 hc)]; rfl
    · obtain ⟨e1, e2⟩ := h1.1 hc
      rw [List.filter_cons_of_pos hc, liveKeys_cons, e1]
      cases hl : live ks' r
      · rfl
      · rw [e2 hl]

theorem liveKeys_filter_null (ks : List Nat) (T : Table) :
    liveKeys ks (T.filter (·.null)) = liveKeys ks T := by
  unfold liveKeys
  rw [List.filter_filter]
  congr 1
  apply List.filter_congr
  intro r _
  cases h : live ks r
  · rfl
  · exact live_null h

theorem liveKeys_notInInner (P : Plan) (A B : Table) (hk : ∀ j ∈ P.k0, j < P.w0.length)
    (hA : WellFormed P.w0 A) :
    liveKeys P.k0 (notInInner P A B) =
      liveKeys P.k0 (A.filter fun a => a.null && (matchOf P B a).isNone) := by
  refine liveKeys_map_filter _ _ _ _ _ (fun a ha hc => ?_) (fun a _ hc => ?_)
  · simp only [hc, if_true]
    rw [Bool.and_eq_true] at hc
    exact sameKey_copyRow P.k0 P.w0 a _ hk (wf_length hA ha) hc.1
  · simp only [hc]; rfl

/-- shape shared by union and full join: the part of `A` outside the inner join, then one row per
    row of the second table carrying that row's key -/
theorem uniqueLive_notInInner_append (P : Plan) (A B : Table) (g : Row → Row)
    (hk : ∀ j ∈ P.k0, j < P.w0.length) (hA : WellFormed P.w0 A)
    (hg : ∀ b ∈ B, b.null = true → SameKey P.k0 (g b) P.k1 b)
    (hu0 : UniqueLive P.k0 A) (hu1 : UniqueLive P.k1 B) :
    UniqueLive P.k0 (notInInner P A B ++ B.map fun b => if b.null then g b else zeroRow (resW P)) := by
  unfold UniqueLive
  rw [liveKeys_append, liveKeys_notInInner P A B hk hA,
    liveKeys_map_filter P.k0 P.k1 _ (·.null) B (fun b hb hn => by rw [if_pos hn]; exact hg b hb hn)
      (fun b _ hn => by simp only [hn]; rfl),
    liveKeys_filter_null, List.nodup_append]
  refine ⟨(liveKeys_filter_sublist _ _ _).nodup hu0, hu1, ?_⟩
  intro k h1 _ h2 e
  subst e
  obtain ⟨a, ha, hl, rfl⟩ := mem_liveKeys.1 h1
  have hc := (List.mem_filter.1 ha).2
  rw [matchOf_of_live B hl, Bool.and_eq_true, Option.isNone_iff_eq_none] at hc
  exact findMatch_eq_none_iff.1 hc.2 h2

theorem notInInner_congr {P : Plan} {B B' : Table} (A : Table)
    (h : liveKeys P.k1 B = liveKeys P.k1 B') : notInInner P A B = notInInner P A B' := by
  unfold notInInner
  apply List.map_congr_left
  intro a _
  have : (matchOf P B a).isNone = (matchOf P B' a).isNone := by
    unfold matchOf
    split
    · exact Bool.eq_iff_iff.2 (by simp only [Option.isNone_iff_eq_none, findMatch_eq_none_iff, h])
    · rfl
  rw [this]

theorem notInInner_filter_live (P : Plan) (A B : Table) :
    notInInner P A (B.filter (live P.k1)) = notInInner P A B :=
  notInInner_congr A (by simp only [liveKeys, List.filter_filter, Bool.and_self])

theorem mem_nonkey {ks ws : List Nat} {j : Nat} : j ∈ nonkey ks ws ↔ j < ws.length ∧ j ∉ ks := by
  simp [nonkey]

theorem copyNonkey_copyRow (P : Plan) (b : Row) (X : List Cell) (hb : b.cells.length = P.w1.length) :
    copyNonkey P ⟨true, copyRow P.w1 b ++ X⟩ = copyNonkey P b := by
  unfold copyNonkey
  apply List.map_congr_left
  intro j hj
  have hj' := (mem_nonkey.1 hj).1
  rw [cellAt_copyRow_append P.w1 b true X j hj' (hb ▸ hj'), copyCell_copyCell]

/-- The left-hand row is the row that `left(b, a)` makes from a present `b` with match `oa`: the
    columns of `b`, then the non-key columns of the match or zero entries.  The second walk of the
    union in its shared form reassembles from it the row of the directly described full join. -/
theorem liftRow_left_eq (P : Plan) (hP : P.ok) (b : Row) (hb : b.cells.length = P.w1.length)
    (oa : Option Row) :
    liftRow P true ⟨true, copyRow P.w1 b ++
      match oa with | some a => copyNonkey P.swap a | none => zerosExtra P.swap⟩ = mergedB P b oa := by
  obtain ⟨hlen, h0, h1, hnd⟩ := hP
  unfold liftRow mergedB
  rw [copyNonkey_copyRow P b _ hb]
  congr 2
  apply List.map_congr_left
  intro j hj
  have hj' := List.mem_range.1 hj
  cases hp : posOf j P.k0 with
  | some i =>
    obtain ⟨hi, _⟩ := posOf_some hp
    have hi' : i < P.k1.length := hlen ▸ hi
    have hpw := h1 P.k1[i] (List.getElem_mem hi')
    have hg : P.k1.getD i 0 = P.k1[i] := by
      rw [List.getD_eq_getElem?_getD, List.getElem?_eq_getElem hi', Option.getD_some]
    simp only [src0, hp, hg]
    rw [cellAt_copyRow_append P.w1 b true _ _ hpw (hb ▸ hpw), copyCell_copyCell]
  | none =>
    have hnk : j ∈ nonkey P.k0 P.w0 := mem_nonkey.2 ⟨hj', posOf_eq_none_iff.1 hp⟩
    cases hq : posOf j (nonkey P.k0 P.w0) with
    | none => exact absurd hnk (posOf_eq_none_iff.1 hq)
    | some i =>
      obtain ⟨hi, hij⟩ := posOf_some hq
      simp only [src0, hp, hq, if_true, Option.map_some]
      rw [cellAt_copyRow_append_right P.w1 b true _ i hb]
      cases oa <;>
        simp only [copyNonkey, zerosExtra, extraW, Plan.swap, List.getD_eq_getElem?_getD,
          List.getElem?_map, List.getElem?_eq_getElem hi, Option.map_some, Option.getD_some, hij,
          copyCell_copyCell, copyCell_zeroCell]

/-! ### example tables (non-vacuity instances of `CCV.C19`)

  first table: key column 0 (1 element), data column (2 elements);
  second table: data column (1 element), key column 1 (1 element).
  `exA`: key 1, a null row, a row whose key is masked (same key data 1), key 3 with masked data.
  `exB`: key 1 (overlap), a null row with key 1, key 5, a row whose key 3 is masked. -/

def exP : Plan := ⟨[0], [1], [1, 2], [1, 1]⟩

def exA : Table :=
  [⟨true, [⟨true, [1]⟩, ⟨true, [10, 11]⟩]⟩,
   ⟨false, [⟨true, [2]⟩, ⟨true, [20, 21]⟩]⟩,
   ⟨true, [⟨false, [1]⟩, ⟨true, [30, 31]⟩]⟩,
   ⟨true, [⟨true, [3]⟩, ⟨false, [40, 41]⟩]⟩]

def exB : Table :=
  [⟨true, [⟨true, [7]⟩, ⟨true, [1]⟩]⟩,
   ⟨false, [⟨true, [8]⟩, ⟨true, [1]⟩]⟩,
   ⟨true, [⟨true, [9]⟩, ⟨true, [5]⟩]⟩,
   ⟨true, [⟨true, [6]⟩, ⟨false, [3]⟩]⟩]

/-- two live rows with the same key 1: violates the documented precondition -/
def exBdup : Table :=
  [⟨true, [⟨true, [7]⟩, ⟨true, [1]⟩]⟩,
   ⟨true, [⟨true, [8]⟩, ⟨true, [1]⟩]⟩]

theorem ex_hyps : exP.ok ∧ WellFormed exP.w0 exA ∧ WellFormed exP.w1 exB ∧
    UniqueLive exP.k0 exA ∧ UniqueLive exP.k1 exB := by
  unfold Plan.ok WellFormed; decide +kernel

end CCV.Join
