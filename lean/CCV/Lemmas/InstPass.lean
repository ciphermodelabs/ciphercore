import CCV.Model.Instantiate
/-!
  The instantiation pass of `CCV.Model.Instantiate` (Part 2): the lemmas from which
  `CCV/Proofs/C08.lean` proves totality, the form of the result and distinct graph names, and the
  proof that the pass preserves the meaning; a small concrete library (`exLib`) to run them on.
  Gluing is described by plain functions (`gluedNode`, `gluedGraph`: graph dependencies shifted by
  the length of the result so far, custom nodes turned into calls of the cached graph) and by the
  condition under which it succeeds (`okNode`, `okGraphs`); `glueNode_ok`, `glueGraph_ok`,
  `glueGraphs_ok` say that the monadic code computes exactly that.  What holds of a successful run
  is read off `instantiate_ok` (the result is the glued instantiations followed by the glued
  context) and `glueInsts_induct` (an invariant of the loop over the sorted instantiations is
  proved from one step of it).
-/
namespace CCV.Instantiate
variable {Op Ty P : Type} [DecidableEq Op] [DecidableEq Ty]
  {callP : P} {nameOf : Inst Op Ty → String} {lib : Inst Op Ty → Except String (Ctx Op Ty P)}
  {cache : List (Inst Op Ty × Nat)} {S : Inst Op Ty → Prop} {rank : Inst Op Ty → Nat}

theorem mapM_except_eq_map {ε α β : Type} {f : α → Except ε β} {p : α → Prop} {g : α → β}
    (hf : ∀ a b, f a = .ok b ↔ p a ∧ b = g a) :
    ∀ {l : List α} {l' : List β}, List.mapM f l = .ok l' ↔ (∀ a ∈ l, p a) ∧ l' = l.map g
  | [], l' => by
    show Except.ok [] = .ok l' ↔ _
    simp [eq_comm]
  | a :: l, l' => by
    have ih := @mapM_except_eq_map _ _ _ f p g hf l
    rw [List.mapM_cons]
    cases hfa : f a with
    | error e =>
      refine ⟨nofun, fun ⟨h, _⟩ => ?_⟩
      rw [(hf a _).2 ⟨h a (by simp), rfl⟩] at hfa
      cases hfa
    | ok b =>
      obtain ⟨ha, rfl⟩ := (hf a b).1 hfa
      cases hl : List.mapM f l with
      | error e =>
        refine ⟨nofun, fun ⟨h, _⟩ => ?_⟩
        rw [ih.2 ⟨fun x hx => h x (by simp [hx]), rfl⟩] at hl
        cases hl
      | ok bs =>
        obtain ⟨hp, rfl⟩ := ih.1 hl
        exact ⟨fun h => ⟨by simpa using ⟨ha, hp⟩, (Except.ok.inj h).symm⟩, fun h => h.2 ▸ rfl⟩

theorem foldlM_except_nil {ε α β : Type} (f : β → α → Except ε β) (b : β) :
    List.foldlM f b [] = .ok b := rfl

/-- the graph mapping after `k` graphs were appended to a result of length `base` -/
def shiftMap (base k : Nat) : List Nat := (List.range k).map (base + ·)

theorem shiftMap_getElem? (base k x : Nat) :
    (shiftMap base k)[x]? = if x < k then some (base + x) else none := by
  simp only [shiftMap, List.getElem?_map]
  by_cases h : x < k
  · simp [h]
  · simp [h]

theorem shiftMap_zero (base : Nat) : shiftMap base 0 = [] := rfl

theorem shiftMap_succ (base k : Nat) : shiftMap base (k + 1) = shiftMap base k ++ [base + k] := by
  simp [shiftMap, List.range_succ]

theorem cacheGet_cons (i : Inst Op Ty) (gi : Nat) (cache : List (Inst Op Ty × Nat)) (j : Inst Op Ty) :
    cacheGet ((i, gi) :: cache) j = if i = j then some gi else cacheGet cache j := by
  by_cases h : i = j <;> simp [cacheGet, h]

theorem cacheGet_nil (j : Inst Op Ty) : cacheGet ([] : List (Inst Op Ty × Nat)) j = none := rfl

theorem mapIdx_shiftMap {b n : Nat} {gd gd' : List Nat} :
    mapIdx (shiftMap b n) gd = .ok gd' ↔ (∀ x ∈ gd, x < n) ∧ gd' = gd.map (b + ·) := by
  refine mapM_except_eq_map fun x y => ?_
  rw [shiftMap_getElem?]
  by_cases hx : x < n <;> simp [hx, eq_comm]

/-- the glued node, given that gluing succeeds (`okNode`) -/
def gluedNode (callP : P) (cache : List (Inst Op Ty × Nat)) (b : Nat) : Node Op Ty P → RNode P
  | .plain p gd ds => ⟨p, gd.map (b + ·), ds⟩
  | .custom i ds => ⟨callP, [(cacheGet cache i).getD 0], ds⟩

def gluedGraph (callP : P) (cache : List (Inst Op Ty × Nat)) (b : Nat) (g : Graph Op Ty P) :
    RGraph P :=
  ⟨none, g.nodes.map (gluedNode callP cache b), g.out⟩

def okNode (cache : List (Inst Op Ty × Nat)) (n : Nat) : Node Op Ty P → Prop
  | .plain _ gd _ => ∀ x ∈ gd, x < n
  | .custom i _ => ∃ gi, cacheGet cache i = some gi

theorem glueNode_ok {b n : Nat} {nd : Node Op Ty P} {rn : RNode P} :
    glueNode callP cache (shiftMap b n) nd = .ok rn ↔
      okNode cache n nd ∧ rn = gluedNode callP cache b nd := by
  cases nd with
  | plain p gd ds =>
    simp only [glueNode, okNode, gluedNode]
    cases hm : mapIdx (shiftMap b n) gd with
    | ok gd' =>
      obtain ⟨hlt, rfl⟩ := mapIdx_shiftMap.1 hm
      exact ⟨fun h => ⟨hlt, (Except.ok.inj h).symm⟩, fun h => h.2 ▸ rfl⟩
    | error e =>
      refine ⟨nofun, fun ⟨hlt, _⟩ => ?_⟩
      rw [mapIdx_shiftMap.2 ⟨hlt, rfl⟩] at hm
      cases hm
  | custom i ds =>
    simp only [glueNode, okNode, gluedNode]
    cases cacheGet cache i <;> simp [eq_comm]

theorem glueGraph_ok {b n : Nat} {g : Graph Op Ty P} {rg : RGraph P} :
    glueGraph callP cache (shiftMap b n) g = .ok rg ↔
      (∀ nd ∈ g.nodes, okNode cache n nd) ∧ rg = gluedGraph callP cache b g := by
  have nodes := @mapM_except_eq_map _ _ _ _ _ _ (fun nd rn => @glueNode_ok _ _ _ _ _ callP cache b n nd rn)
    g.nodes
  simp only [glueGraph, gluedGraph]
  cases hm : g.nodes.mapM (glueNode callP cache (shiftMap b n)) with
  | ok ns =>
    obtain ⟨hok, rfl⟩ := nodes.1 hm
    exact ⟨fun h => ⟨hok, (Except.ok.inj h).symm⟩, fun h => h.2 ▸ rfl⟩
  | error e =>
    refine ⟨nofun, fun ⟨hok, _⟩ => ?_⟩
    rw [nodes.2 ⟨hok, rfl⟩] at hm
    cases hm

def okGraphs (cache : List (Inst Op Ty × Nat)) (n : Nat) (gs : List (Graph Op Ty P)) : Prop :=
  ∀ (k : Nat) g, gs[k]? = some g → ∀ nd ∈ g.nodes, okNode cache (k + n) nd

theorem okGraphs_cons {n : Nat} {g : Graph Op Ty P} {gs : List (Graph Op Ty P)} :
    okGraphs cache n (g :: gs) ↔ (∀ nd ∈ g.nodes, okNode cache n nd) ∧ okGraphs cache (n + 1) gs := by
  constructor
  · intro h
    refine ⟨by simpa using h 0 g rfl, fun k g' hk => ?_⟩
    have := h (k + 1) g' hk
    rwa [show k + 1 + n = k + (n + 1) by omega] at this
  · rintro ⟨h0, h1⟩ k g' hk
    cases k with
    | zero => cases hk; simpa using h0
    | succ k =>
      have := h1 k g' hk
      rwa [show k + (n + 1) = k + 1 + n by omega] at this

theorem glueGraphs_ok {b : Nat} : ∀ (gs : List (Graph Op Ty P)) (res : List (RGraph P)) (n : Nat)
    {out : List (RGraph P) × List Nat}, res.length = b + n →
    (glueGraphs callP cache gs res (shiftMap b n) = .ok out ↔ okGraphs cache n gs ∧
      out = (res ++ gs.map (gluedGraph callP cache b), shiftMap b (gs.length + n)))
  | [], res, n, out, _ => by simp [glueGraphs, okGraphs, eq_comm]
  | g :: gs, res, n, out, hres => by
    have ih := @glueGraphs_ok b gs (res ++ [gluedGraph callP cache b g]) (n + 1) out
      (by simp [hres]; omega)
    simp only [glueGraphs]
    cases hg : glueGraph callP cache (shiftMap b n) g with
    | error e =>
      refine ⟨nofun, fun ⟨h, _⟩ => ?_⟩
      rw [glueGraph_ok.2 ⟨(okGraphs_cons.1 h).1, rfl⟩] at hg
      cases hg
    | ok rg =>
      obtain ⟨h0, rfl⟩ := glueGraph_ok.1 hg
      simp only []
      rw [hres, ← shiftMap_succ, ih, okGraphs_cons]
      simp only [List.append_assoc, List.cons_append, List.nil_append, List.map_cons,
        List.length_cons, Nat.add_assoc, Nat.add_comm 1 n]
      exact ⟨fun h => ⟨⟨h0, h.1⟩, h.2⟩, fun h => ⟨h.1.2, h.2⟩⟩

/-- as the pass calls it: nothing mapped yet -/
theorem glueGraphs_nil_ok {gs : List (Graph Op Ty P)} {res : List (RGraph P)}
    {out : List (RGraph P) × List Nat} :
    glueGraphs callP cache gs res [] = .ok out ↔ okGraphs cache 0 gs ∧
      out = (res ++ gs.map (gluedGraph callP cache res.length), shiftMap res.length gs.length) :=
  glueGraphs_ok gs res 0 rfl

theorem gluedGraph_unnamed {b : Nat} {gs : List (Graph Op Ty P)} :
    ∀ rg ∈ gs.map (gluedGraph callP cache b), rg.name = none := by
  intro rg h
  obtain ⟨g, _, rfl⟩ := List.mem_map.1 h
  rfl

/-- graph dependencies point to earlier graphs, the main graph exists (guaranteed by construction
    in the code) -/
def WfCtx (c : Ctx Op Ty P) : Prop :=
  c.main < c.graphs.length ∧
  ∀ (k : Nat) g, c.graphs[k]? = some g → ∀ p gd ds, Node.plain p gd ds ∈ g.nodes → ∀ x ∈ gd, x < k

/-- the instantiations in `S` can be instantiated, their bodies are well formed and use only
    instantiations in `S` of smaller rank (= the dependency graph restricted to `S` is acyclic) -/
def Acyclic (lib : Inst Op Ty → Except String (Ctx Op Ty P)) (S : Inst Op Ty → Prop)
    (rank : Inst Op Ty → Nat) : Prop :=
  ∀ i, S i → ∃ body, lib i = .ok body ∧ WfCtx body ∧ ∀ j ∈ body.uses, S j ∧ rank j < rank i

omit [DecidableEq Op] [DecidableEq Ty] in
theorem mem_uses {c : Ctx Op Ty P} {i : Inst Op Ty} :
    i ∈ c.uses ↔ ∃ g ∈ c.graphs, ∃ ds, Node.custom i ds ∈ g.nodes := by
  simp only [Ctx.uses, List.mem_flatMap, List.mem_filterMap]
  constructor
  · rintro ⟨g, hg, n, hn, hi⟩
    cases n with
    | plain p gd ds => simp [Node.inst?] at hi
    | custom j ds => simp [Node.inst?] at hi; subst hi; exact ⟨g, hg, ds, hn⟩
  · rintro ⟨g, hg, ds, hn⟩
    exact ⟨g, hg, _, hn, rfl⟩

def wfCtxB (c : Ctx Op Ty P) : Bool :=
  decide (c.main < c.graphs.length) && c.graphs.zipIdx.all fun (g, k) =>
    g.nodes.all fun n => match n with
      | .plain _ gd _ => gd.all (· < k)
      | .custom _ _ => true

omit [DecidableEq Op] [DecidableEq Ty] in
theorem WfCtx_of_check (c : Ctx Op Ty P) (h : wfCtxB c = true) : WfCtx c := by
  simp only [wfCtxB, Bool.and_eq_true, decide_eq_true_eq, List.all_eq_true] at h
  refine ⟨h.1, fun k g hk p gd ds hp x hx => ?_⟩
  have := h.2 (g, k) (List.mem_zipIdx_iff_getElem?.2 hk) _ hp
  simp only [List.all_eq_true, decide_eq_true_eq] at this
  exact this x hx

theorem visit_zero (lib : Inst Op Ty → Except String (Ctx Op Ty P)) (done i) :
    visit lib 0 done i =
      if i ∈ done then .ok done else .error "Circular dependency among instantiations" := by
  rw [visit]

theorem visit_succ (lib : Inst Op Ty → Except String (Ctx Op Ty P)) (fuel done i) :
    visit lib (fuel + 1) done i = if i ∈ done then .ok done else
      match lib i with
        | .error e => .error e
        | .ok body =>
          match visitAll lib fuel done body.uses with
          | .error e => .error e
          | .ok done' => .ok (done' ++ [i]) := by
  rw [visit]; rfl

/-- `done` is duplicate free, inside `S`, and every element comes after everything its body uses:
    such lists are built the way `visit` builds them -/
inductive Sorted (lib : Inst Op Ty → Except String (Ctx Op Ty P)) (S : Inst Op Ty → Prop) :
    List (Inst Op Ty) → Prop
  | nil : Sorted lib S []
  | snoc {done i body} : Sorted lib S done → i ∉ done → S i → lib i = .ok body →
      (∀ j ∈ body.uses, j ∈ done) → Sorted lib S (done ++ [i])

omit [DecidableEq Op] [DecidableEq Ty] in
theorem Sorted.split {l : List (Inst Op Ty)} (h : Sorted lib S l) :
    ∀ {pre is : List (Inst Op Ty)} {i : Inst Op Ty}, l = pre ++ i :: is →
      i ∉ pre ∧ S i ∧ ∃ body, lib i = .ok body ∧ ∀ j ∈ body.uses, j ∈ pre := by
  induction h with
  | nil => intro pre is i e; simp at e
  | @snoc done x body _ hx hS hb hu ih =>
    intro pre is i e
    rcases List.eq_nil_or_concat is with rfl | ⟨is', y, rfl⟩
    · obtain ⟨rfl, e'⟩ := List.append_inj' e rfl
      cases e'
      exact ⟨hx, hS, body, hb, hu⟩
    · rw [List.concat_eq_append, ← List.cons_append, ← List.append_assoc] at e
      exact ih (List.append_inj_left' e rfl)

omit [DecidableEq Op] [DecidableEq Ty] in
theorem Sorted.mem_S {done : List (Inst Op Ty)} (h : Sorted lib S done) {x : Inst Op Ty}
    (hx : x ∈ done) : S x := by
  obtain ⟨_, _, e⟩ := List.append_of_mem hx
  exact (h.split e).2.1

/-- the conclusion of the `visit` lemmas: success, invariant kept, `done` kept, targets reached,
    everything new has rank at most that of a target.  The last part is there only to show that
    an instantiation is not added while the instantiations its body uses (of smaller rank) are
    visited, so that `visit` may append it afterwards. -/
def VisitPost (lib : Inst Op Ty → Except String (Ctx Op Ty P)) (S : Inst Op Ty → Prop)
    (rank : Inst Op Ty → Nat) (done : List (Inst Op Ty)) (js : List (Inst Op Ty))
    (r : Except String (List (Inst Op Ty))) : Prop :=
  ∃ done', r = .ok done' ∧ Sorted lib S done' ∧ (∀ x ∈ done, x ∈ done') ∧ (∀ j ∈ js, j ∈ done') ∧
    ∀ x ∈ done', x ∈ done ∨ ∃ j ∈ js, rank x ≤ rank j

/-- visiting a list keeps `VisitPost` if visiting one instantiation does (`hvisit`: supplied at
    the fuel below by the induction in `visit_post`) -/
theorem visitAll_post {fuel : Nat} (hvisit : ∀ done i, Sorted lib S done → S i → rank i < fuel →
      VisitPost lib S rank done [i] (visit lib fuel done i)) :
    ∀ (js : List (Inst Op Ty)) (done : List (Inst Op Ty)), Sorted lib S done →
      (∀ j ∈ js, S j ∧ rank j < fuel) →
      VisitPost lib S rank done js (visitAll lib fuel done js) := by
  unfold visitAll
  intro js
  induction js with
  | nil =>
    intro done hd _
    exact ⟨done, rfl, hd, fun _ h => h, by simp, fun x hx => Or.inl hx⟩
  | cons j js ihjs =>
    intro done hd hjs
    obtain ⟨hSj, hrj⟩ := hjs j (by simp)
    obtain ⟨d1, e1, s1, k1, t1, r1⟩ := hvisit done j hd hSj hrj
    obtain ⟨d2, e2, s2, k2, t2, r2⟩ := ihjs d1 s1 (fun x hx => hjs x (by simp [hx]))
    refine ⟨d2, ?_, s2, fun x hx => k2 x (k1 x hx), ?_, ?_⟩
    · rw [List.foldlM_cons, e1]; exact e2
    · intro x hx
      rcases List.mem_cons.1 hx with rfl | hx
      · exact k2 _ (t1 _ (by simp))
      · exact t2 x hx
    · intro x hx
      rcases r2 x hx with h | ⟨y, hy, hr⟩
      · rcases r1 x h with h | ⟨y, hy, hr⟩
        · exact Or.inl h
        · simp at hy; subst hy; exact Or.inr ⟨y, by simp, hr⟩
      · exact Or.inr ⟨y, by simp [hy], hr⟩

theorem visit_post (hac : Acyclic lib S rank) :
    ∀ (fuel : Nat) (done : List (Inst Op Ty)) (i : Inst Op Ty), Sorted lib S done → S i →
      rank i < fuel → VisitPost lib S rank done [i] (visit lib fuel done i) := by
  intro fuel
  induction fuel with
  | zero => intro done i _ _ h; omega
  | succ fuel ih =>
    intro done i hd hS hr
    rw [visit_succ]
    by_cases hi : i ∈ done
    · simp only [hi, if_true]
      exact ⟨done, rfl, hd, fun _ h => h, by simpa using hi, fun x hx => Or.inl hx⟩
    · simp only [hi, if_false]
      obtain ⟨body, hb, _, hu⟩ := hac i hS
      rw [hb]
      obtain ⟨d1, e1, s1, k1, t1, r1⟩ := visitAll_post ih body.uses done hd
        (fun j hj => ⟨(hu j hj).1, by have := (hu j hj).2; omega⟩)
      simp only [e1]
      have hi1 : i ∉ d1 := by
        intro hc
        rcases r1 i hc with h | ⟨j, hj, hrj⟩
        · exact hi h
        · have := (hu j hj).2; omega
      refine ⟨d1 ++ [i], rfl, s1.snoc hi1 hS hb t1, ?_, by simp, ?_⟩
      · intro x hx; simp [k1 x hx]
      · intro x hx
        rcases List.mem_append.1 hx with hx | hx
        · rcases r1 x hx with h | ⟨j, hj, hrj⟩
          · exact Or.inl h
          · exact Or.inr ⟨i, by simp, by have := (hu j hj).2; omega⟩
        · simp at hx; subst hx; exact Or.inr ⟨x, by simp, Nat.le_refl _⟩

def named (nm : String) (g : RGraph P) : RGraph P := { g with name := some nm }

theorem setName_ok {res res'' : List (RGraph P)} {gi : Nat} {nm : String}
    (h : setName res gi nm = .ok res'') :
    (∀ g ∈ res, g.name ≠ some nm) ∧ res'' = res.modify gi (named nm) := by
  simp only [setName] at h
  split at h
  · cases h
  · rename_i hany
    cases h
    refine ⟨?_, rfl⟩
    intro g hg hn
    apply hany
    simp only [List.any_eq_true]
    exact ⟨g, hg, by simp [hn]⟩

theorem setName_total {res : List (RGraph P)} (gi : Nat) {nm : String}
    (h : ∀ g ∈ res, g.name ≠ some nm) : setName res gi nm = .ok (res.modify gi (named nm)) := by
  have : res.any (fun g => g.name == some nm) = false := by
    rw [List.any_eq_false]
    intro g hg
    simpa using h g hg
  simp only [setName, this]
  rfl

theorem names_glued_modify {res : List (RGraph P)} {gs : List (Graph Op Ty P)} {b k : Nat}
    {nm : String} (hk : k < gs.length) :
    ((res ++ gs.map (gluedGraph callP cache b)).modify (res.length + k) (named nm)).filterMap
      (·.name) = res.filterMap (·.name) ++ [nm] := by
  have unnamed : ∀ l : List (RGraph P), (∀ rg ∈ l, rg ∈ gs.map (gluedGraph callP cache b)) →
      l.filterMap (·.name) = [] :=
    fun l hl => List.filterMap_eq_nil_iff.2 fun rg h => gluedGraph_unnamed rg (hl rg h)
  rw [List.modify_eq_take_cons_drop (by rw [List.length_append, List.length_map]; omega),
    List.take_length_add_append, Nat.add_assoc, List.drop_length_add_append, List.filterMap_append,
    List.filterMap_append, unnamed _ fun _ => List.mem_of_mem_take,
    List.filterMap_cons_some (f := fun g : RGraph P => g.name) (b := nm) rfl,
    unnamed _ fun _ => List.mem_of_mem_drop, List.append_nil]

theorem okGraphs_of_wf {c : Ctx Op Ty P} (hc : WfCtx c)
    (hu : ∀ j ∈ c.uses, ∃ gi, cacheGet cache j = some gi) : okGraphs cache 0 c.graphs := by
  intro k g hk nd hnd
  cases nd with
  | plain p gd ds => exact hc.2 k g hk p gd ds hnd
  | custom i ds => exact hu i (mem_uses.2 ⟨g, List.mem_iff_getElem?.2 ⟨k, hk⟩, ds, hnd⟩)

theorem glueGraphs_wf (callP : P) (res : List (RGraph P)) {c : Ctx Op Ty P} (hc : WfCtx c)
    (hu : ∀ j ∈ c.uses, ∃ gi, cacheGet cache j = some gi) :
    glueGraphs callP cache c.graphs res [] = .ok
        (res ++ c.graphs.map (gluedGraph callP cache res.length),
          shiftMap res.length c.graphs.length) ∧
      (shiftMap res.length c.graphs.length)[c.main]? = some (res.length + c.main) :=
  ⟨glueGraphs_nil_ok.2 ⟨okGraphs_of_wf hc hu, rfl⟩, by rw [shiftMap_getElem?, if_pos hc.1]⟩

theorem glueInsts_total_from (callP : P) (nameOf : Inst Op Ty → String)
    (hac : Acyclic lib S rank)
    (hinj : ∀ i j, S i → S j → nameOf i = nameOf j → i = j)
    {order : List (Inst Op Ty)} (hord : Sorted lib S order) :
    ∀ (is pre : List (Inst Op Ty)) (res : List (RGraph P)) (cache : List (Inst Op Ty × Nat)),
      order = pre ++ is →
      (∀ j ∈ pre, ∃ gi, cacheGet cache j = some gi) →
      res.filterMap (·.name) = pre.map nameOf →
      ∃ res' cache', glueInsts callP nameOf lib is res cache = .ok (res', cache') ∧
        ∀ j ∈ order, ∃ gi, cacheGet cache' j = some gi := by
  intro is
  induction is with
  | nil =>
    intro pre res cache ho h1 _
    refine ⟨res, cache, rfl, ?_⟩
    simpa [ho] using h1
  | cons i is ih =>
    intro pre res cache ho h1 h2
    obtain ⟨hipre, hSi, body, hb, hu⟩ := hord.split ho
    obtain ⟨body', hb', hwf, _⟩ := hac i hSi
    rw [hb] at hb'; cases hb'
    obtain ⟨e1, e2⟩ := glueGraphs_wf callP res hwf fun j hj => h1 j (hu j hj)
    have hfresh : ∀ g ∈ res ++ body.graphs.map (gluedGraph callP cache res.length),
        g.name ≠ some (nameOf i) := by
      intro g hg hn
      rcases List.mem_append.1 hg with hg | hg
      · have : nameOf i ∈ pre.map nameOf := h2 ▸ List.mem_filterMap.2 ⟨g, hg, hn⟩
        obtain ⟨j, hj, e⟩ := List.mem_map.1 this
        have := hinj i j hSi (hord.mem_S (by simp [ho, hj])) e.symm
        subst this; exact hipre hj
      · rw [gluedGraph_unnamed g hg] at hn; cases hn
    simp only [glueInsts, hb, e1, e2, setName_total _ hfresh]
    apply ih (pre ++ [i])
    · simp [ho]
    · intro j hj
      rw [cacheGet_cons]
      by_cases hij : i = j
      · simp [hij]
      · simp only [hij, if_false]
        rcases List.mem_append.1 hj with hj | hj
        · exact h1 j hj
        · simp at hj; exact absurd hj.symm hij
    · rw [names_glued_modify hwf.1, h2, List.map_append]
      rfl

theorem glueInsts_total (callP : P) (nameOf : Inst Op Ty → String) (hac : Acyclic lib S rank)
    (hinj : ∀ i j, S i → S j → nameOf i = nameOf j → i = j)
    {order : List (Inst Op Ty)} (hord : Sorted lib S order) :
    ∃ res cache, glueInsts callP nameOf lib order [] [] = .ok (res, cache) ∧
      ∀ j ∈ order, ∃ gi, cacheGet cache j = some gi :=
  glueInsts_total_from callP nameOf hac hinj hord order [] [] [] rfl nofun rfl

theorem instantiate_ok {fuel : Nat} {c : Ctx Op Ty P} {r : RCtx P}
    (h : instantiate callP nameOf lib fuel c = .ok (r, cache)) :
    ∃ order res, glueInsts callP nameOf lib order [] [] = .ok (res, cache) ∧
      okGraphs cache 0 c.graphs ∧
      r = ⟨res ++ c.graphs.map (gluedGraph callP cache res.length), res.length + c.main⟩ := by
  simp only [instantiate] at h
  split at h
  · cases h
  · rename_i order ho
    split at h
    · cases h
    · rename_i res cache' hg
      split at h
      · cases h
      · rename_i res' gmap hgl
        split at h
        · cases h
        · rename_i m hm
          cases h
          obtain ⟨hok, e⟩ := glueGraphs_nil_ok.1 hgl
          cases e
          rw [shiftMap_getElem?] at hm
          split at hm
          · rename_i hlt
            cases hm
            exact ⟨order, res, hg, hok, rfl⟩
          · cases hm

theorem glueInsts_induct (Inv : List (RGraph P) → List (Inst Op Ty × Nat) → Prop)
    (step : ∀ i body res cache, Inv res cache → lib i = .ok body →
      okGraphs cache 0 body.graphs → body.main < body.graphs.length →
      (∀ g ∈ res, g.name ≠ some (nameOf i)) →
      Inv ((res ++ body.graphs.map (gluedGraph callP cache res.length)).modify
          (res.length + body.main) (named (nameOf i)))
        ((i, res.length + body.main) :: cache)) :
    ∀ {is : List (Inst Op Ty)} {res : List (RGraph P)} {cache : List (Inst Op Ty × Nat)}
      {res' : List (RGraph P)} {cache' : List (Inst Op Ty × Nat)}, Inv res cache →
      glueInsts callP nameOf lib is res cache = .ok (res', cache') → Inv res' cache'
  | [], res, cache, _, _, hinv, h => by
    cases h
    exact hinv
  | i :: is, res, cache, _, _, hinv, h => by
    simp only [glueInsts] at h
    split at h
    · cases h
    · rename_i body hb
      split at h
      · cases h
      · rename_i res1 gmap hgl
        split at h
        · cases h
        · rename_i gi hgi
          split at h
          · cases h
          · rename_i res2 hsn
            obtain ⟨hok, e⟩ := glueGraphs_nil_ok.1 hgl
            cases e
            rw [shiftMap_getElem?] at hgi
            split at hgi
            · rename_i hlt
              cases hgi
              obtain ⟨hfresh, rfl⟩ := setName_ok hsn
              exact glueInsts_induct Inv step (step i body res cache hinv hb hok hlt
                fun g hg => hfresh g (List.mem_append_left _ hg)) h
            · cases hgi

def CacheNamed (nameOf : Inst Op Ty → String) (res : List (RGraph P))
    (cache : List (Inst Op Ty × Nat)) : Prop :=
  ∀ i gi, cacheGet cache i = some gi → ∃ cg, res[gi]? = some cg ∧ cg.name = some (nameOf i)

theorem glueInsts_cacheNamed {is : List (Inst Op Ty)} {res : List (RGraph P)}
    (h : glueInsts callP nameOf lib is [] [] = .ok (res, cache)) : CacheNamed nameOf res cache := by
  refine glueInsts_induct (CacheNamed nameOf) ?_ ?_ h
  · intro i body res cache hinv _ _ hlt _ j gj hj
    rw [cacheGet_cons] at hj
    have hlen : res.length + body.main <
        (res ++ body.graphs.map (gluedGraph callP cache res.length)).length := by
      simp; omega
    by_cases hij : i = j
    · simp only [hij, if_true, Option.some.injEq] at hj
      subst hj; subst hij
      refine ⟨named (nameOf i) (res ++ body.graphs.map (gluedGraph callP cache res.length))[
        res.length + body.main], ?_, rfl⟩
      rw [List.getElem?_modify, List.getElem?_eq_getElem hlen]
      simp
    · simp only [hij, if_false] at hj
      obtain ⟨cg, h1, h2⟩ := hinv j gj hj
      have hlt' : gj < res.length := (List.getElem?_eq_some_iff.1 h1).1
      refine ⟨cg, ?_, h2⟩
      rw [List.getElem?_modify, List.getElem?_append_left hlt', h1]
      have : ¬ res.length + body.main = gj := by omega
      simp [this]
  · intro i gi hi
    rw [cacheGet_nil] at hi; cases hi

section Eval
variable {V : Type} (sem : P → List (Fn V) → List V → List V → Option V) (cust : Inst Op Ty → Fn V)

theorem getElem?_append_add {α : Type} (A B : List α) (k : Nat) :
    (A ++ B)[A.length + k]? = B[k]? := by
  rw [List.getElem?_append_right (by omega)]
  congr 1
  omega

/-- the shape of `semsR` and `sems`: every step appends one function computed from the earlier -/
def accum {α β : Type} (F : List β → α → β) (init : List β) (gs : List α) : List β :=
  gs.foldl (fun fs g => fs ++ [F fs g]) init

theorem semsR_eq_accum (gs : List (RGraph P)) : semsR sem gs = accum (evalRGraph sem) [] gs := rfl

omit [DecidableEq Op] [DecidableEq Ty] in
theorem sems_eq_accum (gs : List (Graph Op Ty P)) :
    sems sem cust gs = accum (evalGraph sem cust) [] gs := rfl

theorem accum_map_append {α α' β : Type} {F : List β → α' → β} {G : List β → α → β} {h : α → α'}
    (A : List β) : ∀ (gs : List α) (init : List β),
    (∀ g ∈ gs, ∀ F0, F (A ++ F0) (h g) = G F0 g) →
    accum F (A ++ init) (gs.map h) = A ++ accum G init gs
  | [], _, _ => rfl
  | g :: gs, init, hFG => by
    show accum F (A ++ init ++ [F (A ++ init) (h g)]) (gs.map h)
      = A ++ accum G (init ++ [G init g]) gs
    rw [hFG g (by simp), List.append_assoc,
      accum_map_append A gs _ fun x hx => hFG x (by simp [hx])]

theorem accum_length {α β : Type} (F : List β → α → β) :
    ∀ (gs : List α) (init : List β), (accum F init gs).length = init.length + gs.length := by
  intro gs
  induction gs with
  | nil => intro init; rfl
  | cons g gs ih =>
    intro init
    show (accum F (init ++ [F init g]) gs).length = _
    rw [ih]; simp; omega

theorem accum_modify {α β : Type} (F : List β → α → β) (f : α → α)
    (hf : ∀ fs g, F fs (f g) = F fs g) :
    ∀ (gs : List α) (n : Nat) (init : List β), accum F init (gs.modify n f) = accum F init gs := by
  intro gs
  induction gs with
  | nil => intro n init; simp
  | cons g gs ih =>
    intro n init
    cases n with
    | zero =>
      simp only [List.modify_zero_cons]
      show accum F (init ++ [F init (f g)]) gs = accum F (init ++ [F init g]) gs
      rw [hf]
    | succ n =>
      simp only [List.modify_succ_cons]
      show accum F _ (gs.modify n f) = accum F _ gs
      rw [ih]

theorem length_semsR (gs : List (RGraph P)) :
    (semsR sem gs).length = gs.length := by
  rw [semsR_eq_accum, accum_length]; simp

omit [DecidableEq Op] [DecidableEq Ty] in
theorem length_sems (gs : List (Graph Op Ty P)) :
    (sems sem cust gs).length = gs.length := by
  rw [sems_eq_accum, accum_length]; simp

theorem semsR_modify_named (gs : List (RGraph P)) (n : Nat) (nm : String) :
    semsR sem (gs.modify n (named nm)) = semsR sem gs :=
  accum_modify (evalRGraph sem) (named nm) (fun _ _ => rfl) gs n []

theorem mapM_getElem?_shift (A F0 : List (Fn V)) : ∀ (gd : List Nat),
    (gd.map (A.length + ·)).mapM (fun g => (A ++ F0)[g]?) = gd.mapM (fun g => F0[g]?)
  | [] => rfl
  | x :: gd => by
    rw [List.map_cons, List.mapM_cons, List.mapM_cons, mapM_getElem?_shift A F0 gd,
      getElem?_append_add]

variable (hcall : ∀ f args ds, sem callP [f] args ds = f ds)
include hcall

def CacheSem (cust : Inst Op Ty → Fn V) (cache : List (Inst Op Ty × Nat)) (A : List (Fn V)) : Prop :=
  ∀ i gi, cacheGet cache i = some gi → A[gi]? = some (cust i)

theorem stepR_gluedNode {A F0 : List (Fn V)} (hcache : CacheSem cust cache A) {n : Nat}
    {nd : Node Op Ty P} (hok : okNode cache n nd) (args : List V) (acc : Option (List V)) :
    stepR sem (A ++ F0) args acc (gluedNode callP cache A.length nd)
      = step sem cust F0 args acc nd := by
  cases acc with
  | none => rfl
  | some vs =>
    cases nd with
    | plain p gd ds =>
      simp only [gluedNode, stepR, step]
      rw [mapM_getElem?_shift]
    | custom i ds =>
      obtain ⟨gi, hc⟩ := hok
      have hA := hcache i gi hc
      have hlt : gi < A.length := (List.getElem?_eq_some_iff.1 hA).1
      have hg : [gi].mapM (fun g => (A ++ F0)[g]?) = some [cust i] := by
        rw [List.mapM_cons, List.getElem?_append_left hlt, hA]; rfl
      simp only [gluedNode, hc, Option.getD_some, stepR, step, hg]
      cases ds.mapM (fun d => vs[d]?) with
      | none => rfl
      | some dv => simp only [hcall]

theorem evalRGraph_gluedGraph {A F0 : List (Fn V)} (hcache : CacheSem cust cache A) {n : Nat}
    {g : Graph Op Ty P} (hok : ∀ nd ∈ g.nodes, okNode cache n nd) :
    evalRGraph sem (A ++ F0) (gluedGraph callP cache A.length g) = evalGraph sem cust F0 g := by
  funext args
  have nodes : ∀ (nds : List (Node Op Ty P)) (acc : Option (List V)),
      (∀ nd ∈ nds, okNode cache n nd) →
      (nds.map (gluedNode callP cache A.length)).foldl (stepR sem (A ++ F0) args) acc
        = nds.foldl (step sem cust F0 args) acc := by
    intro nds
    induction nds with
    | nil => intro _ _; rfl
    | cons nd nds ih =>
      intro acc h
      rw [List.map_cons, List.foldl_cons, List.foldl_cons,
        stepR_gluedNode sem cust hcall hcache (h nd (by simp)), ih _ fun x hx => h x (by simp [hx])]
  simp only [evalRGraph, evalGraph, gluedGraph, nodes _ _ hok]

theorem semsR_glued {res : List (RGraph P)} (hcache : CacheSem cust cache (semsR sem res))
    {gs : List (Graph Op Ty P)} (hok : okGraphs cache 0 gs) :
    semsR sem (res ++ gs.map (gluedGraph callP cache res.length))
      = semsR sem res ++ sems sem cust gs := by
  have := accum_map_append (F := evalRGraph sem) (G := evalGraph sem cust)
    (h := gluedGraph callP cache (semsR sem res).length) (semsR sem res) gs [] fun g hg F0 => by
      obtain ⟨k, hk⟩ := List.mem_iff_getElem?.1 hg
      exact evalRGraph_gluedGraph sem cust hcall hcache (hok k g hk)
  rw [List.append_nil, length_semsR] at this
  rw [semsR_eq_accum, accum, List.foldl_append]
  exact this

theorem glueInsts_cacheSem (hcust : ∀ i body, lib i = .ok body → cust i = evalCtx sem cust body)
    {is : List (Inst Op Ty)} {res : List (RGraph P)}
    (h : glueInsts callP nameOf lib is [] [] = .ok (res, cache)) :
    CacheSem cust cache (semsR sem res) := by
  refine glueInsts_induct (fun res cache => CacheSem cust cache (semsR sem res)) ?_ ?_ h
  · intro i body res cache hinv hb hok hlt _ j gj hj
    rw [semsR_modify_named, semsR_glued sem cust hcall hinv hok]
    rw [cacheGet_cons] at hj
    by_cases hij : i = j
    · simp only [hij, if_true, Option.some.injEq] at hj
      subst hj; subst hij
      rw [← length_semsR sem res, getElem?_append_add]
      have hm : body.main < (sems sem cust body.graphs).length := by rw [length_sems]; exact hlt
      rw [List.getElem?_eq_getElem hm, hcust i body hb]
      congr 1
      funext args
      simp only [evalCtx, List.getElem?_eq_getElem hm]
    · simp only [hij, if_false] at hj
      have h1 := hinv j gj hj
      have hlt' : gj < (semsR sem res).length := (List.getElem?_eq_some_iff.1 h1).1
      rw [List.getElem?_append_left hlt', h1]
  · intro i gi hi
    rw [cacheGet_nil] at hi; cases hi

/-- if `Call` applies the called graph's function to the node's dependencies and `cust` is
    the library's definition of the custom operations (the evaluation of the instantiated body,
    nested custom nodes evaluated by `cust` again), the result context computes what the source
    context computes. -/
theorem instantiate_eval {fuel : Nat} {c : Ctx Op Ty P} {r : RCtx P}
    (hcust : ∀ i body, lib i = .ok body → cust i = evalCtx sem cust body)
    (h : instantiate callP nameOf lib fuel c = .ok (r, cache)) :
    evalRCtx sem r = evalCtx sem cust c := by
  obtain ⟨order, res, hgi, hok, rfl⟩ := instantiate_ok h
  have hcache := glueInsts_cacheSem sem cust hcall hcust hgi
  funext args
  simp only [evalRCtx, evalCtx]
  rw [semsR_glued sem cust hcall hcache hok, ← length_semsR sem res, getElem?_append_add]

end Eval

/-! ## the running example

    operation 0 = "Not" (body: input, not), operation 1 = "Or" (body: two
    inputs, three nested `Not`s and an and); payloads 99 = Call, 1 = not, 2 = and, 10 + k = input k.
    The context has a graph using `Or` and `Not` and a main graph calling it. -/

def exNot : Ctx Nat Nat Nat := ⟨[⟨[.plain 10 [] [], .plain 1 [] [0]], 1⟩], 0⟩
def exOr (t : List Nat) : Ctx Nat Nat Nat :=
  ⟨[⟨[.plain 10 [] [], .plain 11 [] [], .custom ⟨0, t⟩ [0], .custom ⟨0, t⟩ [1],
      .plain 2 [] [2, 3], .custom ⟨0, t⟩ [4]], 5⟩], 0⟩
/-- `Or` at `[t, t]` uses `Not` at `[t]`, hence `take 1` -/
def exLib (i : Inst Nat Nat) : Except String (Ctx Nat Nat Nat) :=
  if i.op = 0 then .ok exNot else if i.op = 1 then .ok (exOr (i.tys.take 1)) else .error "unknown"
def exName (i : Inst Nat Nat) : String := if i.op = 0 then "Not" else "Or"
def exCtx : Ctx Nat Nat Nat :=
  ⟨[⟨[.plain 10 [] [], .plain 11 [] [], .custom ⟨1, [7, 7]⟩ [0, 1], .custom ⟨0, [7]⟩ [2]], 3⟩,
    ⟨[.plain 10 [] [], .plain 11 [] [], .plain 99 [0] [0, 1]], 2⟩], 1⟩

def exResult : RCtx Nat × List (Inst Nat Nat × Nat) :=
  (⟨[⟨some "Not", [⟨10, [], []⟩, ⟨1, [], [0]⟩], 1⟩,
     ⟨some "Or", [⟨10, [], []⟩, ⟨11, [], []⟩, ⟨99, [0], [0]⟩, ⟨99, [0], [1]⟩, ⟨2, [], [2, 3]⟩,
        ⟨99, [0], [4]⟩], 5⟩,
     ⟨none, [⟨10, [], []⟩, ⟨11, [], []⟩, ⟨99, [1], [0, 1]⟩, ⟨99, [0], [2]⟩], 3⟩,
     ⟨none, [⟨10, [], []⟩, ⟨11, [], []⟩, ⟨99, [2], [0, 1]⟩], 2⟩], 3⟩,
   [(⟨1, [7, 7]⟩, 1), (⟨0, [7]⟩, 0)])

theorem ex_run : instantiate 99 exName exLib 2 exCtx = .ok exResult := by rfl

abbrev exS (i : Inst Nat Nat) : Prop := i = ⟨0, [7]⟩ ∨ i = ⟨1, [7, 7]⟩
abbrev exRank (i : Inst Nat Nat) : Nat := i.op

theorem ex_acyclic : Acyclic exLib exS exRank := by
  intro i hi
  rcases hi with rfl | rfl
  · exact ⟨exNot, rfl, WfCtx_of_check _ rfl, by decide⟩
  · exact ⟨exOr [7], rfl, WfCtx_of_check _ rfl, by decide⟩

theorem ex_inj : ∀ i j, exS i → exS j → exName i = exName j → i = j := by
  rintro i j (rfl | rfl) (rfl | rfl) h
  · rfl
  · exact absurd h (by decide)
  · exact absurd h (by decide)
  · rfl

/-- in the example `Or [7,7]` of graph 0, node 2 became `Call` of graph 1, named "Or" -/
example : (exResult.1.graphs[2]?.bind (·.nodes[2]?)) = some ⟨99, [1], [0, 1]⟩ ∧
    cacheGet exResult.2 ⟨1, [7, 7]⟩ = some 1 ∧
    (exResult.1.graphs[1]?.bind (·.name)) = some (exName ⟨1, [7, 7]⟩) := by decide +kernel

example : exResult.1.graphs.filterMap (·.name) = ["Not", "Or"] := by decide +kernel

def exSem (p : Nat) (fs : List (Fn Bool)) (args ds : List Bool) : Option Bool :=
  if p = 99 then (match fs with | [f] => f ds | _ => none)
  else if p = 1 then (match ds with | [a] => some (!a) | _ => none)
  else if p = 2 then (match ds with | [a, b] => some (a && b) | _ => none)
  else args[p - 10]?

def exNotFn : Fn Bool := fun ds => match ds with | a :: _ => some (!a) | _ => none
def exOrFn : Fn Bool := fun ds => match ds with | a :: b :: _ => some (a || b) | _ => none
/-- the library's functions, stated directly -/
def exCust (i : Inst Nat Nat) : Fn Bool :=
  if i.op = 0 then exNotFn else if i.op = 1 then exOrFn else fun _ => none

theorem ex_hcall : ∀ (f : Fn Bool) args ds, exSem 99 [f] args ds = f ds := fun _ _ _ => rfl

theorem ex_hcust : ∀ i body, exLib i = .ok body → exCust i = evalCtx exSem exCust body := by
  intro i body hb
  obtain ⟨op, tys⟩ := i
  match op, hb with
  | 0, hb =>
    cases hb
    funext args
    match args with
    | [] => rfl
    | a :: _ => rfl
  | 1, hb =>
    cases hb
    funext args
    match args with
    | [] => rfl
    | [a] => rfl
    | a :: b :: _ => cases a <;> cases b <;> rfl
  | n + 2, hb => simp [exLib] at hb

example : evalRCtx exSem exResult.1 = evalCtx exSem exCust exCtx :=
  instantiate_eval exSem exCust ex_hcall ex_hcust ex_run

example : evalRCtx exSem exResult.1 [false, false] = some true ∧
    evalRCtx exSem exResult.1 [true, false] = some false := by decide +kernel

end CCV.Instantiate
