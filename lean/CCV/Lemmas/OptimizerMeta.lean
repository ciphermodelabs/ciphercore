import CCV.Lemmas.OptimizerPasses
/-
  The meta-operation pass: the proxy computation of one iteration (`metaR`), what an iteration does
  to the state (`metaStep_shape`), the induction principle over the loop (`metaOps_ind`), and the
  facts that need no semantics: the input interface, Input nodes stay dependency-free, and
  closedness (`PBound`: the node ids a proxy object mentions; `MInv`).
-/
namespace CCV.Optimizer

theorem mem_of_headD_eq_some {α} {l : List (Option α)} {a : α} (h : l.headD none = some a) :
    some a ∈ l := by
  cases l with
  | nil => cases h
  | cons x r => exact List.mem_cons.mpr (Or.inl h.symm)

theorem mem_filterMap_id {α} {a : α} {l : List (Option α)} : a ∈ l.filterMap id ↔ some a ∈ l := by
  simp [List.mem_filterMap]

theorem inputsOf_eq (ns : List Node) :
    inputsOf ns = (ns.map fun n => (n.op, n.name, n.ty)).filter (·.1.isInput) := by
  rw [List.filter_map]
  rfl

theorem addAnn_length (out : List Node) (k : Nat) (anns : List Nat) :
    (addAnn out k anns).length = out.length := by
  unfold addAnn
  split
  · rfl
  · exact List.length_modify ..

theorem getElem?_addAnn (out : List Node) (k j : Nat) (anns : List Nat) :
    (addAnn out k anns)[j]? =
      out[j]?.map fun n => { n with ann := if k = j then n.ann ++ anns else n.ann } := by
  unfold addAnn
  split
  · simp
  · rw [List.getElem?_modify]
    by_cases hjk : k = j
    · simp [hjk]
    · simp [hjk]

theorem getElem?_addAnn_some {out : List Node} {k j : Nat} {anns : List Nat} {n' : Node}
    (h : (addAnn out k anns)[j]? = some n') :
    ∃ n0, out[j]? = some n0 ∧ n' = { n0 with ann := if k = j then n0.ann ++ anns else n0.ann } := by
  rw [getElem?_addAnn] at h
  cases hx : out[j]? with
  | none => rw [hx] at h; cases h
  | some x => rw [hx] at h; exact ⟨x, rfl, (Option.some.inj h).symm⟩

theorem map_addAnn {β} (f : Node → β) (hf : ∀ n a, f { n with ann := a } = f n) (out : List Node)
    (k : Nat) (anns : List Nat) : (addAnn out k anns).map f = out.map f := by
  apply List.ext_getElem?
  intro j
  rw [List.getElem?_map, List.getElem?_map, getElem?_addAnn, Option.map_map]
  exact congrArg (Option.map · out[j]?) (funext fun n => hf n _)

theorem inputsOf_addAnn (out : List Node) (k : Nat) (anns : List Nat) :
    inputsOf (addAnn out k anns) = inputsOf out := by
  rw [inputsOf_eq, inputsOf_eq, map_addAnn _ (fun _ _ => rfl)]

theorem closed_addAnn {out : List Node} (h : Closed out) (k : Nat) (anns : List Nat) :
    Closed (addAnn out k anns) := by
  intro j n hj
  obtain ⟨n0, h0, rfl⟩ := getElem?_addAnn_some hj
  exact h j n0 h0

theorem inputWF_addAnn {out : List Node} (h : InputWF out) (k : Nat) (anns : List Nat) :
    InputWF (addAnn out k anns) := by
  intro n hn
  obtain ⟨j, hj⟩ := List.mem_iff_getElem?.mp hn
  obtain ⟨n0, h0, rfl⟩ := getElem?_addAnn_some hj
  exact h n0 (List.mem_of_getElem? h0)

def NoInputExt (out out' : List Node) : Prop :=
  ∃ ext, out' = out ++ ext ∧ ∀ n ∈ ext, n.op.isInput = false ∧ n.op.isRandom = false ∧ n.op.isPrf = false

theorem NoInputExt.refl (out : List Node) : NoInputExt out out :=
  ⟨[], (List.append_nil out).symm, fun _ h => absurd h List.not_mem_nil⟩

theorem NoInputExt.trans {a b c : List Node} (h1 : NoInputExt a b) (h2 : NoInputExt b c) :
    NoInputExt a c := by
  obtain ⟨e1, rfl, g1⟩ := h1
  obtain ⟨e2, rfl, g2⟩ := h2
  exact ⟨e1 ++ e2, List.append_assoc .., fun n hn => (List.mem_append.mp hn).elim (g1 n) (g2 n)⟩

theorem NoInputExt.snoc (out : List Node) (n : Node)
    (h : n.op.isInput = false ∧ n.op.isRandom = false ∧ n.op.isPrf = false) :
    NoInputExt out (out ++ [n]) :=
  ⟨[n], rfl, fun x hx => by rw [List.mem_singleton.mp hx]; exact h⟩

theorem NoInputExt.le {out out' : List Node} (h : NoInputExt out out') : out.length ≤ out'.length := by
  obtain ⟨ext, rfl, _⟩ := h
  simp

theorem NoInputExt.inputsOf {out out' : List Node} (h : NoInputExt out out') :
    inputsOf out' = inputsOf out := by
  obtain ⟨ext, rfl, g⟩ := h
  rw [inputsOf_append, inputsOf_noInput ext fun n hn => (g n hn).1, List.append_nil]

theorem NoInputExt.inputWF {out out' : List Node} (h : NoInputExt out out') (hw : InputWF out) :
    InputWF out' := by
  obtain ⟨ext, rfl, g⟩ := h
  intro n hn hin
  rcases List.mem_append.mp hn with h | h
  · exact hw n h hin
  · rw [(g n h).1] at hin
    cases hin

theorem vget_ext : ∀ fuel : Nat,
    (∀ out p index idx r out', vget fuel out p index idx = some (r, out') → NoInputExt out out') ∧
    (∀ out vecs index idx acc r out', vgetAll fuel out vecs index idx acc = some (r, out') →
      NoInputExt out out') := by
  intro fuel
  induction fuel with
  | zero => exact ⟨nofun, nofun⟩
  | succ f ih =>
    constructor
    · intro out p index idx r out' h
      unfold vget at h
      split at h
      · split at h
        · cases h
          exact .refl _
        · cases h
      · split at h
        all_goals
          cases h
          exact .snoc _ _ ⟨rfl, rfl, rfl⟩
      · cases h
        exact .snoc _ _ ⟨rfl, rfl, rfl⟩
      · split at h
        · cases h
        · rename_i hv
          cases h
          exact ih.2 _ _ _ _ _ _ _ hv
        · rename_i hv
          cases h
          exact (ih.2 _ _ _ _ _ _ _ hv).trans (.snoc _ _ ⟨rfl, rfl, rfl⟩)
      · cases h
        exact .refl _
    · intro out vecs index idx acc r out' h
      unfold vgetAll at h
      split at h
      · cases h
        exact .refl _
      · split at h
        · cases h
        · rename_i hv
          cases h
          exact ih.1 _ _ _ _ _ _ hv
        · rename_i hv
          exact (ih.1 _ _ _ _ _ _ hv).trans (ih.2 _ _ _ _ _ _ _ h)

theorem applyMeta_cases {fuel : Nat} {out : List Node} {op : Op} {deps : List PN} {r : Option PN}
    {out' : List Node} (h : applyMeta fuel out op deps = some (r, out')) :
    (r = none ∧ out' = out) ∨
    (∃ nm d es e, op = .namedTupleGet nm ∧ deps = [d] ∧ d.1 = .named es ∧ namedGet nm es = some e ∧
      r = some e ∧ out' = out) ∨
    (∃ j d es e, op = .tupleGet j ∧ deps = [d] ∧ d.1 = .tuple es ∧ es[j]? = some e ∧
      r = some e ∧ out' = out) ∨
    ∃ v i index, op = .vectorGet ∧ deps = [v, i] ∧ i.1 = .number index ∧
      vget fuel out v index i.2 = some (r, out') := by
  unfold applyMeta at h
  split at h
  · split at h
    · rename_i hd
      split at h
      · rename_i he
        cases h
        exact .inr (.inl ⟨_, _, _, _, rfl, rfl, hd, he, rfl, rfl⟩)
      · cases h
    · cases h
      exact .inl ⟨rfl, rfl⟩
  · cases h
  · split at h
    · rename_i hd
      split at h
      · rename_i he
        cases h
        exact .inr (.inr (.inl ⟨_, _, _, _, rfl, rfl, hd, he, rfl, rfl⟩))
      · cases h
    · cases h
      exact .inl ⟨rfl, rfl⟩
  · cases h
  · split at h
    · rename_i hi
      exact .inr (.inr (.inr ⟨_, _, _, rfl, rfl, hi, h⟩))
    · cases h
      exact .inl ⟨rfl, rfl⟩
  · cases h
  · cases h
    exact .inl ⟨rfl, rfl⟩

theorem applyMeta_ext {fuel : Nat} {out : List Node} {op : Op} {deps : List PN} {r : Option PN}
    {out' : List Node} (h : applyMeta fuel out op deps = some (r, out')) : NoInputExt out out' := by
  rcases applyMeta_cases h with ⟨_, rfl⟩ | ⟨_, _, _, _, _, _, _, _, _, rfl⟩ |
    ⟨_, _, _, _, _, _, _, _, _, rfl⟩ | ⟨_, _, _, _, _, _, hv⟩
  · exact .refl _
  · exact .refl _
  · exact .refl _
  · exact (vget_ext fuel).1 _ _ _ _ _ _ hv

/-- the `r` of `metaStep` (a copy of that `match`, tied to it by `metaStep_eq`), with the graph and
    the bare copy as parameters: the proxy object (if any) and the result graph after the getters
    have been resolved; `out` already contains the bare copy at position `simple` -/
def metaR (fuel : Nat) (out : List Node) (simple : Nat) (op : Op) (deps : List Nat)
    (metaDeps : List (Option PN)) : Option (Option PN × List Node) :=
  match op with
  | .constant _ num =>
    match num with
    | some c => some (some (.number c, simple), out)
    | none => some (none, out)
  | .arrayToVector => some (some (.a2v (deps.headD 0), simple), out)
  | .a2b =>
    let node := match metaDeps.headD none with
      | some (.b2a bin, _) => bin
      | _ => simple
    some (some (.a2b (deps.headD 0), node), out)
  | .b2a st' =>
    let node := match metaDeps.headD none with
      | some (.a2b ar, _) =>
        (match tyOf out ar with
         | .arr _ s => if st' = s then ar else simple
         | _ => simple)
      | _ => simple
    some (some (.b2a (deps.headD 0), node), out)
  | .createNamedTuple names =>
    some (some (.named (names.zip (elems deps metaDeps)), simple), out)
  | .createTuple => some (some (.tuple (elems deps metaDeps), simple), out)
  | .createVector _ => some (some (.vector (elems deps metaDeps), simple), out)
  | .zip => some (some (.zip (elems deps metaDeps), simple), out)
  | op =>
    if metaDeps.all Option.isSome then
      applyMeta fuel out op (metaDeps.filterMap id)
    else some (none, out)

theorem metaStep_eq (fuel : Nat) (st : MSt) (n : Node) :
    metaStep fuel (some st) n =
      match metaR fuel (st.out ++ [{ n.remap st.m with ann := [] }]) st.out.length n.op
          (n.deps.map (look st.m)) (n.deps.map fun d => st.px.getD d none) with
      | none => none
      | some (mn, out') =>
        some { out := addAnn out' (match mn with | some p => p.2 | none => st.out.length) n.ann,
               m := st.m ++ [some (match mn with | some p => p.2 | none => st.out.length)],
               px := st.px ++ [mn] } := by
  unfold metaStep metaR
  rfl

theorem metaR_ext {fuel : Nat} {out : List Node} {simple : Nat} {op : Op} {deps : List Nat}
    {mds : List (Option PN)} {mn : Option PN} {out' : List Node}
    (h : metaR fuel out simple op deps mds = some (mn, out')) : NoInputExt out out' := by
  unfold metaR at h
  split at h
  case h_1 =>
    split at h
    all_goals
      cases h
      exact .refl _
  case h_9 =>
    split at h
    · exact applyMeta_ext h
    · cases h
      exact .refl _
  all_goals
    cases h
    exact .refl _

theorem metaR_special {fuel : Nat} {out : List Node} {simple : Nat} {op : Op} {deps : List Nat}
    {mds : List (Option PN)} {mn : Option PN} {out' : List Node} (hsp : Special op)
    (h : metaR fuel out simple op deps mds = some (mn, out')) : mn = none ∧ out' = out := by
  have : metaR fuel out simple op deps mds = some (none, out) := by
    cases op with
    | input | random | prf => exact ite_self _
    | _ => exact absurd hsp (not_special_of_plain ⟨rfl, rfl, rfl⟩)
  rw [this] at h
  cases h
  exact ⟨rfl, rfl⟩

theorem metaStep_shape {fuel : Nat} {st st' : MSt} {n : Node}
    (h : metaStep fuel (some st) n = some st') :
    ∃ (mn : Option PN) (out' : List Node) (k : Nat),
      metaR fuel (st.out ++ [{ n.remap st.m with ann := [] }]) st.out.length n.op
        (n.deps.map (look st.m)) (n.deps.map fun d => st.px.getD d none) = some (mn, out') ∧
      (∀ p, mn = some p → k = p.2) ∧ (mn = none → k = st.out.length) ∧
      st' = ⟨addAnn out' k n.ann, st.m ++ [some k], st.px ++ [mn]⟩ := by
  rw [metaStep_eq] at h
  split at h
  · cases h
  · rename_i mn out' hR
    cases h
    cases mn with
    | none => exact ⟨_, _, _, hR, nofun, fun _ => rfl, rfl⟩
    | some p => exact ⟨_, _, _, hR, fun q hq => by cases hq; rfl, nofun, rfl⟩

theorem metaStep_inputs {fuel : Nat} {st st' : MSt} {n : Node}
    (h : metaStep fuel (some st) n = some st') : inputsOf st'.out = inputsOf st.out ++ inputsOf [n] := by
  obtain ⟨mn, out', k, hR, _, _, rfl⟩ := metaStep_shape h
  rw [inputsOf_addAnn, (metaR_ext hR).inputsOf, inputsOf_append, inputsOf_eq [n], inputsOf_eq [_]]
  rfl

theorem metaStep_inputWF {fuel : Nat} {st st' : MSt} {n : Node} (hw : InputWF st.out)
    (hn : n.op.isInput = true → n.deps = []) (h : metaStep fuel (some st) n = some st') :
    InputWF st'.out := by
  obtain ⟨mn, out', k, hR, _, _, rfl⟩ := metaStep_shape h
  refine inputWF_addAnn ((metaR_ext hR).inputWF fun x hx hin => ?_) k n.ann
  rcases List.mem_append.mp hx with hx | hx
  · exact hw x hx hin
  · rw [List.mem_singleton.mp hx] at hin ⊢
    exact congrArg (List.map (look st.m)) (hn hin)

theorem metaOps_eq {g g' : Graph} {m : Mapping} (h : metaOps g = some (g', m)) :
    ∃ st, g.nodes.foldl (metaStep (metaFuel g)) (some ⟨[], [], []⟩) = some st ∧
      g' = ⟨st.out, look st.m g.out⟩ ∧ m = st.m := by
  unfold metaOps at h
  split at h
  · cases h
  · rename_i st hs
    cases h
    exact ⟨st, hs, rfl, rfl⟩

theorem metaOps_ind {g g' : Graph} {m : Mapping} (P : List Node → MSt → Prop)
    (h : metaOps g = some (g', m)) (h0 : P [] ⟨[], [], []⟩)
    (hstep : ∀ pre n rest st st', g.nodes = pre ++ n :: rest → st.m.length = pre.length →
      st.px.length = pre.length → inputsOf st.out = inputsOf pre → P pre st →
      metaStep (metaFuel g) (some st) n = some st' → P (pre ++ [n]) st') :
    ∃ st, g' = ⟨st.out, look st.m g.out⟩ ∧ m = st.m ∧ st.m.length = g.nodes.length ∧
      inputsOf st.out = inputsOf g.nodes ∧ P g.nodes st := by
  obtain ⟨fin, hs, rfl, rfl⟩ := metaOps_eq h
  -- the loop runs on `Option MSt`; a failed step stays failed, so only successful prefixes matter
  have := fold_inv (metaStep (metaFuel g))
    (fun pre st? => ∀ st, st? = some st → st.m.length = pre.length ∧ st.px.length = pre.length ∧
      inputsOf st.out = inputsOf pre ∧ P pre st) g.nodes
    (fun pre n rest st? hg hP st' hs' => by
      cases st? with
      | none => cases hs'
      | some st =>
        obtain ⟨hm, hp, hi, hP⟩ := hP st rfl
        have hP1 := hstep pre n rest st st' hg hm hp hi hP hs'
        have hi1 := metaStep_inputs hs'
        obtain ⟨mn, out', k, _, _, _, rfl⟩ := metaStep_shape hs'
        refine ⟨?_, ?_, ?_, hP1⟩
        · rw [List.length_append, List.length_append, hm]
          rfl
        · rw [List.length_append, List.length_append, hp]
          rfl
        · rw [hi1, hi, inputsOf_append])
    g.nodes [] _ rfl (fun st hst => by cases hst; exact ⟨rfl, rfl, rfl, h0⟩) fin hs
  exact ⟨fin, rfl, rfl, this.1, this.2.2.1, this.2.2.2⟩

theorem metaOps_inputs (g g' : Graph) (m : Mapping) (h : metaOps g = some (g', m)) :
    inputsOf g'.nodes = inputsOf g.nodes ∧ m.length = g.nodes.length := by
  obtain ⟨st, rfl, rfl, hl, hi, _⟩ := metaOps_ind (fun _ _ => True) h trivial
    fun _ _ _ _ _ _ _ _ _ _ _ => trivial
  exact ⟨hi, hl⟩

theorem metaOps_inputWF (g g' : Graph) (m : Mapping) (hw : InputWF g.nodes)
    (h : metaOps g = some (g', m)) : InputWF g'.nodes := by
  obtain ⟨st, rfl, _, _, _, hi⟩ := metaOps_ind (fun _ st => InputWF st.out) h
    (fun _ hn => absurd hn List.not_mem_nil)
    fun pre n rest st st' hg _ _ _ hP hs =>
      metaStep_inputWF hP (hw n (by rw [hg]; exact List.mem_append_right _ List.mem_cons_self)) hs
  exact hi

theorem metaOps_out (g g' : Graph) (m : Mapping) (h : metaOps g = some (g', m)) :
    g'.out = look m g.out := by
  obtain ⟨st, _, rfl, rfl⟩ := metaOps_eq h
  rfl

inductive PBound (b : Nat) : Proxy → Prop where
  | number (c : Nat) : PBound b (.number c)
  | unknown : PBound b .unknown
  | a2v (arr : Nat) : arr < b → PBound b (.a2v arr)
  | tuple (es : List PN) : (∀ e ∈ es, PBound b e.1) → (∀ e ∈ es, e.2 < b) → PBound b (.tuple es)
  | named (es : List (Nat × PN)) : (∀ e ∈ es, PBound b e.2.1) → (∀ e ∈ es, e.2.2 < b) → PBound b (.named es)
  | zip (es : List PN) : (∀ e ∈ es, PBound b e.1) → (∀ e ∈ es, e.2 < b) → PBound b (.zip es)
  | vector (es : List PN) : (∀ e ∈ es, PBound b e.1) → (∀ e ∈ es, e.2 < b) → PBound b (.vector es)
  | a2b (n : Nat) : n < b → PBound b (.a2b n)
  | b2a (n : Nat) : n < b → PBound b (.b2a n)

def PNBound (b : Nat) (p : PN) : Prop := PBound b p.1 ∧ p.2 < b

theorem PBound.mono {b b' : Nat} (hb : b ≤ b') {p : Proxy} (h : PBound b p) : PBound b' p := by
  induction h with
  | number c => exact .number c
  | unknown => exact .unknown
  | a2v arr h => exact .a2v arr (Nat.lt_of_lt_of_le h hb)
  | tuple es _ h2 ih => exact .tuple es ih fun e he => Nat.lt_of_lt_of_le (h2 e he) hb
  | named es _ h2 ih => exact .named es ih fun e he => Nat.lt_of_lt_of_le (h2 e he) hb
  | zip es _ h2 ih => exact .zip es ih fun e he => Nat.lt_of_lt_of_le (h2 e he) hb
  | vector es _ h2 ih => exact .vector es ih fun e he => Nat.lt_of_lt_of_le (h2 e he) hb
  | a2b n h => exact .a2b n (Nat.lt_of_lt_of_le h hb)
  | b2a n h => exact .b2a n (Nat.lt_of_lt_of_le h hb)

theorem PNBound.mono {b b' : Nat} (hb : b ≤ b') {p : PN} (h : PNBound b p) : PNBound b' p :=
  ⟨h.1.mono hb, Nat.lt_of_lt_of_le h.2 hb⟩

theorem PBound.inv {b : Nat} {p : Proxy} (h : PBound b p) :
    match p with
    | .a2v k | .a2b k | .b2a k => k < b
    | .tuple es | .zip es | .vector es => ∀ e ∈ es, PNBound b e
    | .named es => ∀ e ∈ es, PNBound b e.2
    | _ => True := by
  cases h with
  | number | unknown => trivial
  | a2v _ h | a2b _ h | b2a _ h => exact h
  | tuple _ h1 h2 | zip _ h1 h2 | vector _ h1 h2 | named _ h1 h2 => exact fun e he => ⟨h1 e he, h2 e he⟩

/-- appending a node whose dependencies exist and returning a proxy object on it; the conclusion has
    the form of the goals of `vget_bound`, whose results are `some (some (p, out.length), out ++ [_])` -/
theorem bound_snoc {out : List Node} (hc : Closed out) (op : Op) {deps : List Nat} (ty : Ty)
    (hd : ∀ d ∈ deps, d < out.length) {p : Proxy} (hp : PBound (out.length + 1) p) :
    Closed (out ++ [mkNode op deps ty]) ∧
      ∀ e, some (p, out.length) = some e → PNBound (out ++ [mkNode op deps ty]).length e := by
  refine ⟨closed_snoc hc hd, fun e he => ?_⟩
  cases he
  rw [List.length_append]
  exact ⟨hp, Nat.lt_succ_self _⟩

theorem vget_bound : ∀ fuel : Nat,
    (∀ out p index idx r out', Closed out → PNBound out.length p → idx < out.length →
      vget fuel out p index idx = some (r, out') →
      Closed out' ∧ ∀ e, r = some e → PNBound out'.length e) ∧
    (∀ out vecs index idx acc r out', Closed out → (∀ v ∈ vecs, PNBound out.length v) →
      (∀ a ∈ acc, PNBound out.length a) → idx < out.length →
      vgetAll fuel out vecs index idx acc = some (r, out') →
      Closed out' ∧ ∀ sl, r = some sl → ∀ e ∈ sl, PNBound out'.length e) := by
  intro fuel
  induction fuel with
  | zero => exact ⟨nofun, nofun⟩
  | succ f ih =>
    constructor
    · intro out p index idx r out' hc hp hidx h
      have hp1 := hp.1
      unfold vget at h
      split at h
      · rename_i es heq
        rw [heq] at hp1
        split at h
        · rename_i e he
          cases h
          refine ⟨hc, fun e' he' => ?_⟩
          cases he'
          exact hp1.inv e (List.mem_of_getElem? he)
        · cases h
      · rename_i arr heq
        rw [heq] at hp1
        split at h
        all_goals
          cases h
          exact bound_snoc hc _ _ (fun d hd => by rw [List.mem_singleton.mp hd]; exact hp1.inv) .unknown
      · cases h
        refine bound_snoc hc _ _ (fun d hd => ?_) .unknown
        rw [List.mem_cons, List.mem_singleton] at hd
        rcases hd with rfl | rfl
        · exact hp.2
        · exact hidx
      · rename_i vecs heq
        rw [heq] at hp1
        split at h
        · cases h
        · rename_i hv1
          cases h
          exact ⟨(ih.2 _ _ _ _ _ _ _ hc hp1.inv (fun _ ha => absurd ha List.not_mem_nil) hidx hv1).1, nofun⟩
        · rename_i sl out1 hv1
          cases h
          obtain ⟨h1, h3⟩ := ih.2 _ _ _ _ _ _ _ hc hp1.inv (fun _ ha => absurd ha List.not_mem_nil) hidx hv1
          have hsl := h3 sl rfl
          refine bound_snoc h1 _ _ (fun d hd => ?_) (.tuple sl (fun e he => (hsl e he).1.mono (Nat.le_succ _))
            fun e he => Nat.lt_succ_of_lt (hsl e he).2)
          obtain ⟨e, he, rfl⟩ := List.mem_map.mp hd
          exact (hsl e he).2
      · cases h
        exact ⟨hc, nofun⟩
    · intro out vecs index idx acc r out' hc hv ha hidx h
      unfold vgetAll at h
      split at h
      · cases h
        exact ⟨hc, fun sl hsl => by cases hsl; exact ha⟩
      · rename_i v vs
        split at h
        · cases h
        · rename_i hv1
          cases h
          exact ⟨(ih.1 _ _ _ _ _ _ hc (hv v List.mem_cons_self) hidx hv1).1, nofun⟩
        · rename_i s out1 hv1
          obtain ⟨h1, h3⟩ := ih.1 _ _ _ _ _ _ hc (hv v List.mem_cons_self) hidx hv1
          have hle := ((vget_ext f).1 _ _ _ _ _ _ hv1).le
          refine ih.2 _ _ _ _ _ _ _ h1 (fun x hx => (hv x (List.mem_cons_of_mem _ hx)).mono hle)
            (fun a haa => ?_) (Nat.lt_of_lt_of_le hidx hle) h
          rcases List.mem_append.mp haa with haa | haa
          · exact (ha a haa).mono hle
          · rw [List.mem_singleton.mp haa]
            exact h3 _ rfl

theorem namedGet_cons (nm a : Nat) (b : PN) (r : List (Nat × PN)) :
    namedGet nm ((a, b) :: r) =
      match namedGet nm r with
      | some x => some x
      | none => if a = nm then some b else none := rfl

theorem namedGet_spec (nm : Nat) : ∀ (es : List (Nat × PN)) (e : PN), namedGet nm es = some e →
    ∃ j : Nat, es[j]? = some (nm, e) := by
  intro es
  induction es with
  | nil => exact nofun
  | cons x r ih =>
    intro e h
    rw [namedGet_cons] at h
    split at h
    · rename_i hx
      cases h
      obtain ⟨j, hj⟩ := ih _ hx
      exact ⟨j + 1, hj⟩
    · split at h
      · rename_i ha
        cases h
        cases ha
        exact ⟨0, rfl⟩
      · cases h

theorem applyMeta_bound {fuel : Nat} {out : List Node} {op : Op} {deps : List PN} {r : Option PN}
    {out' : List Node} (hc : Closed out) (hd : ∀ d ∈ deps, PNBound out.length d)
    (h : applyMeta fuel out op deps = some (r, out')) :
    Closed out' ∧ ∀ e, r = some e → PNBound out'.length e := by
  rcases applyMeta_cases h with ⟨rfl, rfl⟩ | ⟨nm, d, es, e, _, rfl, hes, he, rfl, rfl⟩ |
    ⟨j, d, es, e, _, rfl, hes, he, rfl, rfl⟩ | ⟨v, i, index, _, rfl, _, hv⟩
  · exact ⟨hc, nofun⟩
  · refine ⟨hc, fun e' he' => ?_⟩
    cases he'
    have hb := (hd d List.mem_cons_self).1
    rw [hes] at hb
    obtain ⟨j, hj⟩ := namedGet_spec nm es e he
    exact hb.inv _ (List.mem_of_getElem? hj)
  · refine ⟨hc, fun e' he' => ?_⟩
    cases he'
    have hb := (hd d List.mem_cons_self).1
    rw [hes] at hb
    exact hb.inv e (List.mem_of_getElem? he)
  · exact (vget_bound fuel).1 _ _ _ _ _ _ hc (hd v List.mem_cons_self)
      (hd i (List.mem_cons_of_mem _ List.mem_cons_self)).2 hv

theorem elems_bound (b : Nat) (deps : List Nat) (metaDeps : List (Option PN))
    (hd : ∀ d ∈ deps, d < b) (hm : ∀ p, some p ∈ metaDeps → PNBound b p) :
    ∀ e ∈ elems deps metaDeps, PNBound b e := by
  intro e he
  obtain ⟨⟨d, md⟩, hmem, rfl⟩ := List.mem_map.mp he
  cases md with
  | none => exact ⟨.unknown, hd d (List.of_mem_zip hmem).1⟩
  | some p => exact hm p (List.of_mem_zip hmem).2

theorem metaR_bound {fuel : Nat} {out : List Node} {simple : Nat} {op : Op} {deps : List Nat}
    {mds : List (Option PN)} {mn : Option PN} {out' : List Node} (hc : Closed out)
    (hs : simple < out.length) (hd : ∀ d ∈ deps, d < out.length)
    (hm : ∀ p, some p ∈ mds → PNBound out.length p)
    (h : metaR fuel out simple op deps mds = some (mn, out')) :
    Closed out' ∧ ∀ p, mn = some p → PNBound out'.length p := by
  have same : ∀ p, PNBound out.length p →
      Closed out ∧ ∀ e, some p = some e → PNBound out.length e :=
    fun p hp => ⟨hc, fun e he => by cases he; exact hp⟩
  have hhead : deps.headD 0 < out.length := by
    cases deps with
    | nil => exact Nat.lt_of_le_of_lt (Nat.zero_le _) hs
    | cons x r => exact hd x List.mem_cons_self
  have hel := elems_bound _ deps mds hd hm
  unfold metaR at h
  split at h
  · split at h
    · cases h
      exact same _ ⟨.number _, hs⟩
    · cases h
      exact ⟨hc, nofun⟩
  · cases h
    exact same _ ⟨.a2v _ hhead, hs⟩
  · cases h
    refine same _ ⟨.a2b _ hhead, ?_⟩
    split
    · rename_i hm'
      exact (hm _ (mem_of_headD_eq_some hm')).1.inv
    · exact hs
  · cases h
    refine same _ ⟨.b2a _ hhead, ?_⟩
    split
    · rename_i ar _ hm'
      have har : ar < out.length := (hm _ (mem_of_headD_eq_some hm')).1.inv
      split
      · split
        · exact har
        · exact hs
      · exact hs
    · exact hs
  · cases h
    exact same _ ⟨.named _ (fun e he => (hel _ (List.of_mem_zip he).2).1)
      fun e he => (hel _ (List.of_mem_zip he).2).2, hs⟩
  · cases h
    exact same _ ⟨.tuple _ (fun e he => (hel e he).1) fun e he => (hel e he).2, hs⟩
  · cases h
    exact same _ ⟨.vector _ (fun e he => (hel e he).1) fun e he => (hel e he).2, hs⟩
  · cases h
    exact same _ ⟨.zip _ (fun e he => (hel e he).1) fun e he => (hel e he).2, hs⟩
  · split at h
    · exact applyMeta_bound hc (fun d hd' => hm d (mem_filterMap_id.mp hd')) h
    · cases h
      exact ⟨hc, nofun⟩

structure MInv (st : MSt) : Prop where
  closed : Closed st.out
  mb : ∀ i, i < st.m.length → ∃ k, Maps st.m i k ∧ k < st.out.length
  pb : ∀ (i : Nat) (p : PN), st.px[i]? = some (some p) → PNBound st.out.length p

theorem MInv.nil : MInv ⟨[], [], []⟩ where
  closed := fun _ _ h => by cases h
  mb := fun _ h => absurd h (Nat.not_lt_zero _)
  pb := fun _ _ h => by cases h

theorem MInv.look {st : MSt} (I : MInv st) {d : Nat} (hd : d < st.m.length) :
    Maps st.m d (look st.m d) ∧ look st.m d < st.out.length := by
  obtain ⟨k, hk, hkb⟩ := I.mb d hd
  rw [look_of_maps hk]
  exact ⟨hk, hkb⟩

theorem MInv.lt {st : MSt} (I : MInv st) {i k : Nat} (h : Maps st.m i k) : k < st.out.length :=
  look_of_maps h ▸ (I.look (maps_lt h)).2

theorem metaStep_inv {fuel : Nat} {st st' : MSt} {n : Node} (I : MInv st)
    (hd : ∀ d ∈ n.deps, d < st.m.length) (h : metaStep fuel (some st) n = some st') : MInv st' := by
  obtain ⟨mn, out', k, hR, hk1, hk0, rfl⟩ := metaStep_shape h
  have hle := (metaR_ext hR).le
  rw [List.length_append] at hle
  have hdeps : ∀ d ∈ n.deps.map (Optimizer.look st.m), d < st.out.length := by
    intro d hd'
    obtain ⟨d0, h0, rfl⟩ := List.mem_map.mp hd'
    exact (I.look (hd d0 h0)).2
  obtain ⟨hco, hpn⟩ := metaR_bound (closed_snoc I.closed hdeps)
    (by rw [List.length_append]; exact Nat.lt_succ_self _)
    (fun d hd' => by rw [List.length_append]; exact Nat.lt_succ_of_lt (hdeps d hd'))
    (fun p hp => by
      obtain ⟨d0, _, h1⟩ := List.mem_map.mp hp
      exact (I.pb d0 p (getD_none_eq_some.mp h1)).mono (by rw [List.length_append]; exact Nat.le_succ _))
    hR
  have hk : k < out'.length := by
    cases mn with
    | none =>
      rw [hk0 rfl]
      exact hle
    | some p =>
      rw [hk1 p rfl]
      exact (hpn p rfl).2
  refine ⟨closed_addAnn hco k n.ann, fun i hi => ?_, fun i p hp => ?_⟩
  · rw [addAnn_length]
    rcases Nat.lt_or_ge i st.m.length with h' | h'
    · obtain ⟨k', hk', hkb⟩ := I.mb i h'
      exact ⟨k', maps_append_left hk', by omega⟩
    · rw [List.length_append] at hi
      have : i = st.m.length := Nat.le_antisymm (Nat.le_of_lt_succ hi) h'
      rw [this]
      exact ⟨k, maps_append_new _ _, hk⟩
  · rw [addAnn_length]
    rcases getElem?_snoc_cases hp with hp | ⟨_, hp⟩
    · exact (I.pb i p hp).mono (by omega)
    · exact hpn p hp

theorem metaOps_ind_closed {g g' : Graph} {m : Mapping} (P : List Node → MSt → Prop)
    (hc : Closed g.nodes) (h : metaOps g = some (g', m)) (h0 : P [] ⟨[], [], []⟩)
    (hstep : ∀ pre n rest st st', g.nodes = pre ++ n :: rest → (∀ d ∈ n.deps, d < pre.length) →
      st.m.length = pre.length → st.px.length = pre.length → inputsOf st.out = inputsOf pre →
      MInv st → MInv st' → P pre st → metaStep (metaFuel g) (some st) n = some st' →
      P (pre ++ [n]) st') :
    ∃ st, g' = ⟨st.out, look st.m g.out⟩ ∧ m = st.m ∧ st.m.length = g.nodes.length ∧ MInv st ∧
      P g.nodes st := by
  obtain ⟨st, h1, h2, h3, _, I, hP⟩ := metaOps_ind (fun pre st => MInv st ∧ P pre st) h ⟨.nil, h0⟩
    fun pre n rest st st' hg hm hp hi hP hs =>
      have hd : ∀ d ∈ n.deps, d < pre.length := closed_deps_lt (hg ▸ hc)
      have I' := metaStep_inv hP.1 (hm ▸ hd) hs
      ⟨I', hstep pre n rest st st' hg hd hm hp hi hP.1 I' hP.2 hs⟩
  exact ⟨st, h1, h2, h3, I, hP⟩

theorem metaOps_closed (g g' : Graph) (m : Mapping) (hc : Closed g.nodes)
    (h : metaOps g = some (g', m)) :
    Closed g'.nodes ∧ (∀ i, i < g.nodes.length → ∃ k, Maps m i k ∧ k < g'.nodes.length) ∧
    (g.out < g.nodes.length → g'.out < g'.nodes.length) := by
  obtain ⟨st, rfl, rfl, hl, I, _⟩ := metaOps_ind_closed (fun _ _ => True) hc h trivial
    fun _ _ _ _ _ _ _ _ _ _ _ _ _ _ => trivial
  exact ⟨I.closed, fun i hi => I.mb i (hl ▸ hi), fun ho => (I.look (hl ▸ ho)).2⟩

end CCV.Optimizer
