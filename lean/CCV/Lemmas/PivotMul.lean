import Mathlib.Algebra.Group.Basic
import CCV.Lemmas.PivotCore
/-
  The mask discipline in an arbitrary (NOT necessarily commutative) group — e.g. permutations under
  composition: an opened value is `b · t` where `t` is a fresh uniform group element (the shared random
  permutation π of a shuffle) and `b` (the permutation being hidden) is computed from the secrets and
  from OLDER masks in any way.

  Messages are listed LAST FIRST.  Each message has a pivot that enters it by right multiplication
  (`RShift`: `f x ρ = f x (ρ with the pivot set to 1) · ρ pivot`), and no EARLIER message depends on
  that pivot.  `exists_sim`: for any two secret vectors there are mutually inverse maps of tapes that
  align all messages and move only pivot coordinates (by `PivotCore.exists_sim`: an `RShift` message can
  be solved for its pivot, `RShift.solves`).
-/
namespace CCV.PivotMul
variable {G X : Type}

def upd (ρ : Nat → G) (v : Nat) (a : G) : Nat → G := fun w => if w = v then a else ρ w

@[simp] theorem upd_same (ρ : Nat → G) (v : Nat) (a : G) : upd ρ v a v = a := PivotCore.upd_same ρ v a

theorem upd_other (ρ : Nat → G) {v w : Nat} (a : G) (h : w ≠ v) : upd ρ v a w = ρ w :=
  PivotCore.upd_other ρ a h

theorem upd_comm (ρ : Nat → G) {u v : Nat} (a b : G) (h : u ≠ v) :
    upd (upd ρ u a) v b = upd (upd ρ v b) u a := PivotCore.upd_comm ρ a b h

@[simp] theorem upd_upd (ρ : Nat → G) (v : Nat) (a b : G) : upd (upd ρ v a) v b = upd ρ v b :=
  PivotCore.upd_upd ρ v a b

@[simp] theorem upd_self (ρ : Nat → G) (v : Nat) : upd ρ v (ρ v) = ρ := PivotCore.upd_self ρ v

structure Msg (X G : Type) where
  f : X → (Nat → G) → G
  piv : Nat

def IndepOf (m : Msg X G) (u : Nat) : Prop := ∀ x ρ a, m.f x (upd ρ u a) = m.f x ρ

variable [Group G]

def RShift (m : Msg X G) : Prop := ∀ x ρ, m.f x ρ = m.f x (upd ρ m.piv 1) * ρ m.piv

inductive Disc : List (Msg X G) → Prop
  | nil : Disc []
  | cons (m : Msg X G) (rest : List (Msg X G)) :
      RShift m → (∀ m' ∈ rest, IndepOf m' m.piv ∧ m'.piv ≠ m.piv) → Disc rest → Disc (m :: rest)

structure Sim (msgs : List (Msg X G)) (x x' : X) (σ τ : (Nat → G) → (Nat → G)) : Prop where
  left : ∀ ρ, τ (σ ρ) = ρ
  right : ∀ ρ, σ (τ ρ) = ρ
  align : ∀ ρ, ∀ m ∈ msgs, m.f x ρ = m.f x' (σ ρ)
  fixσ : ∀ ρ v, (∀ m ∈ msgs, v ≠ m.piv) → σ ρ v = ρ v
  fixτ : ∀ ρ v, (∀ m ∈ msgs, v ≠ m.piv) → τ ρ v = ρ v
  commσ : ∀ u, (∀ m ∈ msgs, u ≠ m.piv ∧ IndepOf m u) → ∀ ρ a, σ (upd ρ u a) = upd (σ ρ) u a
  commτ : ∀ u, (∀ m ∈ msgs, u ≠ m.piv ∧ IndepOf m u) → ∀ ρ a, τ (upd ρ u a) = upd (τ ρ) u a

theorem RShift.solves {m : Msg X G} (h : RShift m) :
    PivotCore.Solves Msg.f Msg.piv m (fun x ρ c => (m.f x (upd ρ m.piv 1))⁻¹ * c) where
  blind x ρ a c := by
    show (m.f x (upd (upd ρ m.piv a) m.piv 1))⁻¹ * c = _
    rw [upd_upd]
  hit x ρ c := by
    have := h x (upd ρ m.piv ((m.f x (upd ρ m.piv 1))⁻¹ * c))
    rw [upd_upd, upd_same, mul_inv_cancel_left] at this
    exact this
  back x ρ := by
    show (m.f x (upd ρ m.piv 1))⁻¹ * m.f x ρ = ρ m.piv
    rw [h x ρ, inv_mul_cancel_left]

theorem Disc.pivots {msgs : List (Msg X G)} (h : Disc msgs) :
    (∀ m ∈ msgs, RShift m) ∧
      msgs.Pairwise (fun m m' => m.piv ≠ m'.piv ∧ PivotCore.IndepOf Msg.f m' m.piv) := by
  induction h with
  | nil => exact ⟨fun _ hm => (nomatch hm), .nil⟩
  | cons m rest hs hind _ ih =>
    refine ⟨fun m' hm' => ?_, .cons (fun m' hm' => ⟨fun e => (hind m' hm').2 e.symm, (hind m' hm').1⟩) ih.2⟩
    rcases List.mem_cons.1 hm' with rfl | hm'
    · exact hs
    · exact ih.1 m' hm'

theorem exists_sim : ∀ (msgs : List (Msg X G)), Disc msgs → ∀ x x' : X,
    ∃ σ τ : (Nat → G) → (Nat → G), Sim msgs x x' σ τ := by
  intro msgs h x x'
  obtain ⟨σ, τ, h1, h2⟩ := PivotCore.exists_sim Msg.f Msg.piv (fun _ _ => True) (fun _ => True) msgs
    (fun m hm => ⟨_, (h.pivots.1 m hm).solves, fun _ _ _ _ _ _ _ _ => trivial⟩) h.pivots.2 x x' trivial trivial
  exact ⟨σ, τ, ⟨h1.inv, h2.inv, h1.align, h1.fix, h2.fix, h1.comm, h2.comm⟩⟩

end CCV.PivotMul
