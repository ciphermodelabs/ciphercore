import CCV.Model.Sharing
/-
  Helper lemmas for C14.  Elements: on every scalar type the code computes modulo `2^bits`, and
  `addRes` / `subRes` obey the group laws on residues.  Trees: everything is reduced to one
  element-wise principle: a term built from `gsub` / `gadd` over three trees of one type equals
  `map3` of its element-wise reading (`evalV_eq_map3`), so two such terms are equal as soon as they
  agree element-wise on residues (`tm_ext`).  Tuples: `party_slot` gives every slot of a party's tuple.
-/
namespace CCV.Sharing
open CCV

/- Every scalar type has `2^bits ∣ 2^128`, so decoding (`ext`), the `u128` operation and encoding
  (`reduce`, `low`) compute modulo `2^bits`; nothing else about the 11 types is used. -/

theorem modulus_dvd (st : ST) : 2 ^ st.bits ∣ 2 ^ 128 :=
  Nat.pow_dvd_pow 2 (by cases st <;> decide)

theorem low_reduce (st : ST) (x : Nat) : low st (reduce st x) = x % 2 ^ st.bits := by
  unfold low reduce
  split
  · rfl
  · exact Nat.mod_mod ..

theorem ext_mod (st : ST) (a : Nat) : ext st a % 2 ^ st.bits = a % 2 ^ st.bits := by
  unfold ext
  split
  · obtain ⟨c, hc⟩ := modulus_dvd st
    rw [hc, ← Nat.mul_sub_one, Nat.add_mul_mod_self_left]
  · rfl

theorem ext_le (st : ST) (a : Nat) (ha : a < 2 ^ st.bits) : ext st a ≤ 2 ^ 128 := by
  have := Nat.le_of_dvd (Nat.two_pow_pos 128) (modulus_dvd st)
  unfold ext
  split <;> omega

theorem sub_mod_unique {M a b z : Nat} (hb : b < M) (hz : z < M) (h : (z + b) % M = a) :
    z = (a + M - b) % M := by
  subst h
  by_cases hw : z + b < M
  · rw [Nat.mod_eq_of_lt hw, Nat.add_right_comm, Nat.add_sub_cancel, Nat.add_mod_right,
      Nat.mod_eq_of_lt hz]
  · rw [Nat.mod_eq_sub_mod (Nat.le_of_not_lt hw), Nat.mod_eq_of_lt (show z + b - M < M by omega),
      show z + b - M + M - b = z by omega, Nat.mod_eq_of_lt hz]

/-- `subtract_vectors_u128` followed by encoding subtracts the residues modulo `2^bits`.  The bound on
    `y` keeps the `Nat` subtraction in `wrappingSub` exact; addition (`addRes_eq`) needs none. -/
theorem low_reduce_wrappingSub (st : ST) (x y : Nat) (hy : y ≤ 2 ^ 128) :
    low st (reduce st (wrappingSub x y))
      = (x % 2 ^ st.bits + 2 ^ st.bits - y % 2 ^ st.bits) % 2 ^ st.bits := by
  have hM := Nat.two_pow_pos st.bits
  rw [low_reduce, wrappingSub, Nat.mod_mod_of_dvd _ (modulus_dvd st)]
  apply sub_mod_unique (Nat.mod_lt _ hM) (Nat.mod_lt _ hM)
  rw [← Nat.add_mod, Nat.sub_add_cancel (by omega), Nat.add_mod,
    Nat.mod_eq_zero_of_dvd (modulus_dvd st), Nat.add_zero, Nat.mod_mod]

theorem subRes_eq (st : ST) (a b : Nat) (ha : a < 2 ^ st.bits) (hb : b < 2 ^ st.bits) :
    subRes st a b = (a + 2 ^ st.bits - b) % 2 ^ st.bits := by
  rw [subRes, low_reduce_wrappingSub _ _ _ (ext_le st b hb), ext_mod, ext_mod,
    Nat.mod_eq_of_lt ha, Nat.mod_eq_of_lt hb]

theorem addRes_eq (st : ST) (a b : Nat) : addRes st a b = (a + b) % 2 ^ st.bits := by
  rw [addRes, low_reduce, wrappingAdd, Nat.mod_mod_of_dvd _ (modulus_dvd st), Nat.add_mod,
    ext_mod, ext_mod, ← Nat.add_mod]

theorem subRes_lt (st : ST) (a b : Nat) : subRes st a b < 2 ^ st.bits :=
  Nat.mod_lt _ (Nat.two_pow_pos _)

theorem addRes_lt (st : ST) (a b : Nat) : addRes st a b < 2 ^ st.bits :=
  Nat.mod_lt _ (Nat.two_pow_pos _)

theorem addRes_comm (st : ST) (a b : Nat) : addRes st a b = addRes st b a := by
  rw [addRes_eq, addRes_eq, Nat.add_comm]

theorem addRes_assoc (st : ST) (a b c : Nat) :
    addRes st (addRes st a b) c = addRes st a (addRes st b c) := by
  simp only [addRes_eq, Nat.mod_add_mod, Nat.add_mod_mod, Nat.add_assoc]

section
variable {st : ST} {a b c : Nat} (ha : a < 2 ^ st.bits) (hb : b < 2 ^ st.bits)
  (hc : c < 2 ^ st.bits)

include ha hb in
theorem subRes_addRes_cancel : addRes st (subRes st a b) b = a := by
  rw [addRes_eq, subRes_eq st a b ha hb, Nat.mod_add_mod, Nat.sub_add_cancel (by omega),
    Nat.add_mod_right, Nat.mod_eq_of_lt ha]

include ha hb in
theorem eq_subRes {z : Nat} (hz : z < 2 ^ st.bits) (h : addRes st z b = a) :
    z = subRes st a b := by
  rw [subRes_eq st a b ha hb]
  rw [addRes_eq] at h
  exact sub_mod_unique hb hz h

include ha hb in
theorem addRes_subRes_cancel : addRes st b (subRes st a b) = a := by
  rw [addRes_comm, subRes_addRes_cancel ha hb]

include ha hb in
theorem subRes_subRes_self : subRes st a (subRes st a b) = b :=
  (eq_subRes ha (subRes_lt ..) hb (addRes_subRes_cancel ha hb)).symm

include ha hb hc in
theorem subRes_subRes : subRes st (subRes st a b) c = subRes st a (addRes st b c) := by
  apply eq_subRes ha (addRes_lt ..) (subRes_lt ..)
  rw [addRes_comm st b c, ← addRes_assoc, subRes_addRes_cancel (subRes_lt ..) hc,
    subRes_addRes_cancel ha hb]

include ha hb hc in
theorem subRes_right_comm : subRes st (subRes st a b) c = subRes st (subRes st a c) b := by
  rw [subRes_subRes ha hb hc, addRes_comm, ← subRes_subRes ha hc hb]

end

mutual
/-- the ternary analogue of the model's `map2`.  A leaf zips its three lists by `zipWith` over `zip`,
    so the list facts below go by `List.ext_getElem` and the core `getElem` lemmas. -/
def map3 (f : ST → Nat → Nat → Nat → Nat) : Val → Val → Val → Val
  | .leaf st xs, .leaf _ ys, .leaf _ zs =>
    .leaf st (List.zipWith (fun (p : Nat × Nat) z => f st p.1 p.2 z) (xs.zip ys) zs)
  | .node as, .node bs, .node cs => .node (map3L f as bs cs)
  | _, _, _ => .node []
def map3L (f : ST → Nat → Nat → Nat → Nat) : List Val → List Val → List Val → List Val
  | a :: as, b :: bs, c :: cs => map3 f a b c :: map3L f as bs cs
  | _, _, _ => []
end

/-- expressions in `gsub` / `gadd` over three trees `x`, `y`, `z`, read element-wise (`evalN`) and on
    trees (`evalV`) -/
inductive Tm where
  | x | y | z
  | sub (a b : Tm)
  | add (a b : Tm)

def Tm.evalN : Tm → ST → Nat → Nat → Nat → Nat
  | .x, _, a, _, _ => a
  | .y, _, _, b, _ => b
  | .z, _, _, _, c => c
  | .sub s t, st, a, b, c => subRes st (s.evalN st a b c) (t.evalN st a b c)
  | .add s t, st, a, b, c => addRes st (s.evalN st a b c) (t.evalN st a b c)

def Tm.evalV : Tm → Val → Val → Val → Val
  | .x, a, _, _ => a
  | .y, _, b, _ => b
  | .z, _, _, c => c
  | .sub s t, a, b, c => gsub (s.evalV a b c) (t.evalV a b c)
  | .add s t, a, b, c => gadd (s.evalV a b c) (t.evalV a b c)

abbrev Ok3 (a b c : Val) : Prop :=
  wf a = true ∧ wf b = true ∧ wf c = true ∧ like a b = true ∧ like a c = true

/-- induction over three well-formed trees of one type, the only induction the tree lemmas use:
    a property of three trees, and its list version -/
theorem ok3_induct (P : Val → Val → Val → Prop) (PL : List Val → List Val → List Val → Prop)
    (leaf : ∀ st xs ys zs, xs.length = ys.length → xs.length = zs.length →
      (∀ x ∈ xs, x < 2 ^ st.bits) → (∀ x ∈ ys, x < 2 ^ st.bits) → (∀ x ∈ zs, x < 2 ^ st.bits) →
      P (.leaf st xs) (.leaf st ys) (.leaf st zs))
    (node : ∀ as bs cs, PL as bs cs → P (.node as) (.node bs) (.node cs))
    (nil : PL [] [] [])
    (cons : ∀ a as b bs c cs, P a b c → PL as bs cs → PL (a :: as) (b :: bs) (c :: cs))
    (a b c : Val) (h : Ok3 a b c) : P a b c := by
  revert h
  apply map3.induct
    (motive_1 := fun a b c => Ok3 a b c → P a b c)
    (motive_2 := fun as bs cs => wfL as = true → wfL bs = true → wfL cs = true →
      likeL as bs = true → likeL as cs = true → PL as bs cs)
  · intro st xs st' ys st'' zs h
    simp only [Ok3, wf, like, List.all_eq_true, decide_eq_true_eq, Bool.and_eq_true] at h
    obtain ⟨h1, h2, h3, ⟨rfl, h4⟩, ⟨rfl, h5⟩⟩ := h
    exact leaf st xs ys zs h4 h5 h1 h2 h3
  · intro as bs cs ih h
    simp only [Ok3, wf, like] at h
    exact node as bs cs (ih h.1 h.2.1 h.2.2.1 h.2.2.2.1 h.2.2.2.2)
  -- the catch-all cases of `map3.induct` (here and in the last bullet): an earlier pattern applies
  -- (`h1`, `h2`, `hne`) or `like` is false
  · intro a b c h1 h2 h
    exfalso
    cases a <;> cases b <;> cases c <;>
      first | exact h1 _ _ _ _ _ _ rfl rfl rfl | exact h2 _ _ _ rfl rfl rfl |
        simp only [Ok3, like, Bool.false_eq_true, and_false, false_and] at h
  · intro a as b bs c cs ih1 ih2 h1 h2 h3 h4 h5
    simp only [wfL, likeL, Bool.and_eq_true] at h1 h2 h3 h4 h5
    exact cons a as b bs c cs (ih1 ⟨h1.1, h2.1, h3.1, h4.1, h5.1⟩) (ih2 h1.2 h2.2 h3.2 h4.2 h5.2)
  · intro as bs cs hne h1 h2 h3 h4 h5
    cases as <;> cases bs <;> cases cs <;>
      first | exact nil | exact absurd rfl (hne _ _ _ _ _ _ rfl rfl) | (exfalso; simp only [likeL, Bool.false_eq_true] at h4 h5; done)

theorem map3_comp (f : ST → Nat → Nat → Nat) (g h : ST → Nat → Nat → Nat → Nat) (a b c : Val)
    (ok : Ok3 a b c) :
    map2 f (map3 g a b c) (map3 h a b c)
      = map3 (fun st p q r => f st (g st p q r) (h st p q r)) a b c := by
  apply ok3_induct (fun a b c => map2 f (map3 g a b c) (map3 h a b c)
      = map3 (fun st p q r => f st (g st p q r) (h st p q r)) a b c)
    (fun as bs cs => map2L f (map3L g as bs cs) (map3L h as bs cs)
      = map3L (fun st p q r => f st (g st p q r) (h st p q r)) as bs cs) _ _ _ _ a b c ok
  · intro st xs ys zs _ _ _ _ _
    simp only [map3, map2, Val.leaf.injEq, true_and]
    apply List.ext_getElem <;> simp
  · intro as bs cs ih; simp only [map3, map2, ih]
  · simp only [map3L, map2L]
  · intro a as b bs c cs ih1 ih2; simp only [map3L, map2L, ih1, ih2]

theorem map3_congr (f g : ST → Nat → Nat → Nat → Nat)
    (hfg : ∀ st p q r, p < 2 ^ st.bits → q < 2 ^ st.bits → r < 2 ^ st.bits → f st p q r = g st p q r)
    (a b c : Val) (h : Ok3 a b c) : map3 f a b c = map3 g a b c := by
  apply ok3_induct (fun a b c => map3 f a b c = map3 g a b c)
    (fun as bs cs => map3L f as bs cs = map3L g as bs cs) _ _ _ _ a b c h
  · intro st xs ys zs _ _ h1 h2 h3
    simp only [map3, Val.leaf.injEq, true_and]
    apply List.ext_getElem (by simp)
    intro i _ _
    simp only [List.getElem_zipWith, List.getElem_zip]
    exact hfg st _ _ _ (h1 _ (List.getElem_mem _)) (h2 _ (List.getElem_mem _)) (h3 _ (List.getElem_mem _))
  · intro as bs cs ih; simp only [map3, ih]
  · simp only [map3L]
  · intro a as b bs c cs ih1 ih2; simp only [map3L, ih1, ih2]

/-- the three projections, by one induction -/
theorem map3_proj (a b c : Val) (h : Ok3 a b c) :
    map3 (fun _ p _ _ => p) a b c = a ∧ map3 (fun _ _ q _ => q) a b c = b ∧
      map3 (fun _ _ _ r => r) a b c = c := by
  apply ok3_induct (fun a b c => map3 (fun _ p _ _ => p) a b c = a ∧
      map3 (fun _ _ q _ => q) a b c = b ∧ map3 (fun _ _ _ r => r) a b c = c)
    (fun as bs cs => map3L (fun _ p _ _ => p) as bs cs = as ∧
      map3L (fun _ _ q _ => q) as bs cs = bs ∧ map3L (fun _ _ _ r => r) as bs cs = cs) _ _ _ _ a b c h
  · intro st xs ys zs h1 h2 _ _ _
    simp only [map3, Val.leaf.injEq, true_and]
    refine ⟨?_, ?_, ?_⟩
    all_goals
      apply List.ext_getElem (by simp [← h1, ← h2])
      simp
  · intro as bs cs ih; simp only [map3, ih, and_self]
  · simp only [map3L, and_self]
  · intro a as b bs c cs ih1 ih2; simp only [map3L, ih1, ih2, and_self]

theorem map3_ok (f : ST → Nat → Nat → Nat → Nat)
    (hf : ∀ st p q r, p < 2 ^ st.bits → q < 2 ^ st.bits → r < 2 ^ st.bits → f st p q r < 2 ^ st.bits)
    (a b c : Val) (h : Ok3 a b c) : wf (map3 f a b c) = true ∧ like a (map3 f a b c) = true := by
  apply ok3_induct (fun a b c => wf (map3 f a b c) = true ∧ like a (map3 f a b c) = true)
    (fun as bs cs => wfL (map3L f as bs cs) = true ∧ likeL as (map3L f as bs cs) = true) _ _ _ _ a b c h
  · intro st xs ys zs h1 h2 h3 h4 h5
    simp only [map3, wf, like, List.all_eq_true, decide_eq_true_eq, Bool.and_eq_true, true_and]
    refine ⟨fun x h => ?_, by simp [← h1, ← h2]⟩
    obtain ⟨i, hi, rfl⟩ := List.getElem_of_mem h
    simp only [List.getElem_zipWith, List.getElem_zip]
    exact hf st _ _ _ (h3 _ (List.getElem_mem _)) (h4 _ (List.getElem_mem _)) (h5 _ (List.getElem_mem _))
  · intro as bs cs ih; simpa only [map3, wf, like] using ih
  · simp only [map3L, wfL, likeL, and_self]
  · intro a as b bs c cs ih1 ih2; simp only [map3L, wfL, likeL, ih1, ih2, Bool.and_self, and_self]

theorem Tm.evalN_lt (t : Tm) (st : ST) (p q r : Nat)
    (hp : p < 2 ^ st.bits) (hq : q < 2 ^ st.bits) (hr : r < 2 ^ st.bits) :
    t.evalN st p q r < 2 ^ st.bits := by
  cases t <;> simp [Tm.evalN, subRes_lt, addRes_lt, *]

theorem Tm.evalV_eq_map3 (t : Tm) (a b c : Val) (h : Ok3 a b c) :
    t.evalV a b c = map3 t.evalN a b c := by
  induction t with
  | x => exact (map3_proj a b c h).1.symm
  | y => exact (map3_proj a b c h).2.1.symm
  | z => exact (map3_proj a b c h).2.2.symm
  | sub s t ihs iht => simp only [Tm.evalV, gsub, ihs, iht, map3_comp _ _ _ a b c h]; rfl
  | add s t ihs iht => simp only [Tm.evalV, gadd, ihs, iht, map3_comp _ _ _ a b c h]; rfl

theorem tm_ext (t1 t2 : Tm) (a b c : Val) (h : Ok3 a b c)
    (he : ∀ st p q r, p < 2 ^ st.bits → q < 2 ^ st.bits → r < 2 ^ st.bits →
      t1.evalN st p q r = t2.evalN st p q r) :
    t1.evalV a b c = t2.evalV a b c := by
  rw [Tm.evalV_eq_map3 t1 a b c h, Tm.evalV_eq_map3 t2 a b c h]
  exact map3_congr _ _ he a b c h

theorem tm_ok (t : Tm) (a b c : Val) (h : Ok3 a b c) :
    wf (t.evalV a b c) = true ∧ like a (t.evalV a b c) = true := by
  rw [Tm.evalV_eq_map3 t a b c h]
  exact map3_ok _ (fun st p q r => t.evalN_lt st p q r) a b c h


/-- `(v − a) − ((v − a) − b) = b`: `held` and `unheld` undo each other for party 2, which holds
    `(v2, v0)` -/
theorem gsub_gsub_self (v a b : Val) (h : Ok3 v a b) : gsub (gsub v a) (gsub (gsub v a) b) = b :=
  tm_ext (.sub (.sub .x .y) (.sub (.sub .x .y) .z)) .z v a b h fun st p q _ _ _ hr =>
    subRes_subRes_self (subRes_lt st p q) hr

/-- `unheld` after `held` for party 1: `r0` is recovered from `(v1, v2) = (r1, (v − r0) − r1)` -/
theorem gsub_gsub_left (v a b : Val) (h : Ok3 v a b) : gsub (gsub v b) (gsub (gsub v a) b) = a :=
  tm_ext (.sub (.sub .x .z) (.sub (.sub .x .y) .z)) .y v a b h fun st p q r hp hq hr => by
    show subRes st (subRes st p r) (subRes st (subRes st p q) r) = q
    rw [subRes_right_comm hp hq hr, subRes_subRes_self (subRes_lt ..) hq]

/-- `held` after `unheld` for party 1: the third share of the recovered randomness is `h.2` -/
theorem gsub_gsub_mid (v a b : Val) (h : Ok3 v a b) : gsub (gsub v (gsub (gsub v a) b)) a = b :=
  tm_ext (.sub (.sub .x (.sub (.sub .x .y) .z)) .y) .z v a b h fun st p q r hp hq hr => by
    show subRes st (subRes st p (subRes st (subRes st p q) r)) q = r
    rw [subRes_right_comm hp (subRes_lt ..) hq, subRes_subRes_self (subRes_lt ..) hr]

/-- one element of `share_vector`'s third share is `x − (a + b)` in the sense of
    `generalized_subtract` / `generalized_add`: that the sum is not encoded and decoded again
    in between does not matter modulo `2^bits` -/
theorem shareVector_elem (st : ST) (x a b : Nat) :
    low st (reduce st (wrappingSub (ext st x) (reduce st (wrappingAdd (ext st a) (ext st b)))))
      = subRes st x (addRes st a b) := by
  have hs : reduce st (wrappingAdd (ext st a) (ext st b)) ≤ 2 ^ 128 := by
    have := Nat.mod_lt (ext st a + ext st b) (Nat.two_pow_pos 128)
    have := Nat.mod_le ((ext st a + ext st b) % 2 ^ 128) (2 ^ st.bits)
    unfold reduce wrappingAdd
    split <;> omega
  rw [subRes, low_reduce_wrappingSub _ _ _ hs,
    low_reduce_wrappingSub _ _ _ (ext_le _ _ (addRes_lt ..)), ext_mod st (addRes st a b), addRes,
    low, Nat.mod_mod]

theorem shareVector_eq (st : ST) (xs r0 r1 : List Nat) :
    shareVector st xs r0 r1 = ⟨.leaf st r0, .leaf st r1,
      gsub (.leaf st xs) (gadd (.leaf st r0) (.leaf st r1))⟩ := by
  simp only [shareVector, gsub, gadd, map2, T3.mk.injEq, true_and, Val.leaf.injEq]
  apply List.ext_getElem (by simp only [List.length_zipWith])
  intro i _ _
  simp only [List.getElem_zipWith]
  exact shareVector_elem ..

theorem mod3_cases (i : Nat) :
    (i % 3 = 0 ∧ (i + 1) % 3 = 1) ∨ (i % 3 = 1 ∧ (i + 1) % 3 = 2) ∨ (i % 3 = 2 ∧ (i + 1) % 3 = 0) := by
  have h : i % 3 = 0 ∨ i % 3 = 1 ∨ i % 3 = 2 := by omega
  rcases h with h | h | h <;> simp [Nat.add_mod, h]

/-- all slots of one tuple at once: slot `k` of party `i`'s tuple is share `k` if party `i` holds it
    (`k ≡ i` or `k ≡ i + 1 (mod 3)`, the condition of `pick`) and the garbage value otherwise -/
theorem party_slot (i k : Nat) (s g : T3) :
    (party i s g).slot k = if i % 3 = k % 3 ∨ (i + 1) % 3 = k % 3 then s.slot k else g.slot k := by
  have hk : k % 3 = 0 ∨ k % 3 = 1 ∨ k % 3 = 2 := by omega
  rcases mod3_cases i with ⟨h0, h1⟩ | ⟨h0, h1⟩ | ⟨h0, h1⟩ <;>
    rcases hk with hk | hk | hk <;> simp [party, T3.slot, h0, h1, hk]

end CCV.Sharing
