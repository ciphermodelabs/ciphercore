import CCV.Model.Adder
/-
  Values of little-endian bit strings (`CCV.Model.Adder`): the unsigned reading `val`, the sign bit,
  the two's-complement reading `sval`, and the relation "encodes `z` modulo `2^n`" through which the
  wrap-around operations (negation, increment, addition without the overflow bit) are specified.
-/
namespace CCV.Adder

theorem val_nil : val [] = 0 := rfl
theorem val_cons (b : Bool) (t : List Bool) : val (b :: t) = b.toNat + 2 * val t := rfl

theorem val_lt (l : List Bool) : val l < 2 ^ l.length := by
  induction l with
  | nil => exact Nat.one_pos
  | cons b t ih =>
    simp only [val_cons, List.length_cons, Nat.pow_succ]
    cases b <;> simp only [Bool.toNat_false, Bool.toNat_true] <;> omega

theorem val_append (l1 l2 : List Bool) : val (l1 ++ l2) = val l1 + 2 ^ l1.length * val l2 := by
  induction l1 with
  | nil => simp [val_nil]
  | cons b t ih =>
    simp only [List.cons_append, val_cons, ih, List.length_cons, Nat.pow_succ]
    rw [Nat.mul_add, Nat.mul_comm (2 ^ t.length) 2, Nat.mul_assoc]
    omega

theorem val_replicate_false (n : Nat) : val (List.replicate n false) = 0 := by
  induction n with
  | zero => rfl
  | succ n ih => simp only [List.replicate_succ, val_cons, ih, Bool.toNat_false]

theorem val_take_drop (x : List Bool) (k : Nat) (h : k ≤ x.length) :
    val x = val (x.take k) + 2 ^ k * val (x.drop k) := by
  have := val_append (x.take k) (x.drop k)
  rwa [List.take_append_drop, List.length_take, Nat.min_eq_left h] at this

theorem val_bitsOf (n x : Nat) : val (bitsOf n x) = x % 2 ^ n := by
  induction n generalizing x with
  | zero => simp [bitsOf, val_nil, Nat.mod_one]
  | succ n ih =>
    simp only [bitsOf, val_cons, ih, Nat.pow_succ]
    have : (x % 2 == 1).toNat = x % 2 := by
      rcases Nat.mod_two_eq_zero_or_one x with h | h <;> simp [h]
    rw [this, Nat.mul_comm (2 ^ n) 2, Nat.mod_mul]

@[simp] theorem bitsOf_length (n x : Nat) : (bitsOf n x).length = n := by
  induction n generalizing x with
  | zero => rfl
  | succ n ih => simp [bitsOf, ih]

theorem two_pow_length (x : List Bool) (h : x ≠ []) : 2 ^ x.length = 2 * 2 ^ (x.length - 1) := by
  rw [← Nat.pow_succ']
  congr 1
  have := List.length_pos_iff.mpr h
  omega

theorem dropLast_append_msb (x : List Bool) (h : x ≠ []) : x.dropLast ++ [msb x] = x := by
  have e : msb x = x.getLast h := by
    rw [msb, List.getD_eq_getElem?_getD, List.getLast_eq_getElem,
      List.getElem?_eq_getElem (Nat.sub_lt (List.length_pos_iff.mpr h) Nat.one_pos)]
    rfl
  rw [e, List.dropLast_concat_getLast]

theorem val_msb (x : List Bool) (h : x ≠ []) :
    val x = val x.dropLast + 2 ^ (x.length - 1) * (msb x).toNat := by
  have := val_append x.dropLast [msb x]
  rwa [dropLast_append_msb x h, List.length_dropLast, val_cons, val_nil, Nat.mul_zero, Nat.add_zero] at this

theorem msb_iff (x : List Bool) (h : x ≠ []) : msb x = true ↔ 2 ^ x.length ≤ 2 * val x := by
  have h1 := val_msb x h
  have h2 := val_lt x.dropLast
  have h3 := two_pow_length x h
  rw [List.length_dropLast] at h2
  cases hm : msb x <;> simp only [hm, Bool.toNat_false, Bool.toNat_true, Bool.false_eq_true, false_iff,
    true_iff] at h1 ⊢ <;> omega

theorem val_shift (b : Bool) (x : List Bool) (h : x ≠ []) :
    val (b :: x.dropLast) + 2 ^ x.length * (msb x).toNat = b.toNat + 2 * val x := by
  rw [val_cons, val_msb x h, two_pow_length x h, Nat.mul_assoc]
  omega

theorem sval_neg_iff (x : List Bool) : sval x < 0 ↔ msb x = true := by
  have h := val_lt x
  unfold sval
  cases msb x <;> simp only [Bool.false_eq_true, if_false, if_true, iff_false, iff_true] <;> omega

def Enc (x : List Bool) (z : Int) : Prop := ∃ k : Int, z = val x + k * ((2 ^ x.length : Nat) : Int)

theorem enc_val (x : List Bool) : Enc x (val x) := ⟨0, by omega⟩

theorem enc_sval (x : List Bool) : Enc x (sval x) := by
  unfold sval
  cases msb x
  · exact ⟨0, by simp⟩
  · exact ⟨-1, by simp only [if_true]; omega⟩

theorem Enc.emod {x : List Bool} {z : Int} (h : Enc x z) :
    (val x : Int) = z % ((2 ^ x.length : Nat) : Int) := by
  obtain ⟨k, rfl⟩ := h
  rw [Int.add_mul_emod_self_right, Int.emod_eq_of_lt (Int.natCast_nonneg _) (Int.ofNat_lt.mpr (val_lt x))]

theorem Enc.sval_eq {x : List Bool} {z : Int} (h : Enc x z) (hx : x ≠ [])
    (h0 : -((2 ^ x.length : Nat) : Int) ≤ 2 * z) (h1 : 2 * z < ((2 ^ x.length : Nat) : Int)) : sval x = z := by
  have hm := msb_iff x hx
  have he := h.emod
  by_cases hz : 0 ≤ z
  · rw [Int.emod_eq_of_lt hz (by omega)] at he
    have hf : msb x = false := by
      cases hmx : msb x
      · rfl
      · have := hm.mp hmx
        omega
    simp only [sval, hf, Bool.false_eq_true, if_false, he]
  · -- `z < 0`: `z mod 2^n = z + 2^n`
    rw [← Int.add_mul_emod_self_right z 1, Int.one_mul, Int.emod_eq_of_lt (by omega) (by omega)] at he
    have ht : msb x = true := hm.mpr (by omega)
    simp only [sval, ht, if_true]
    omega

end CCV.Adder
