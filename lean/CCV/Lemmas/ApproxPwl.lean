import CCV.Lemmas.ApproxArith
/-
  C20, piecewise-linear approximation: the bottom-up tree lookup and the bucket selection of
  `pwlEval`, for all widths `s` and all depths `L`.  Core only (no Mathlib).
-/
namespace CCV.Approx

theorem treeLevel_inRange {sg : Bool} {s : Nat} {bit : Bool} (h : 1 ≤ s) :
    ∀ (vals : List Int) (v : Int), v ∈ treeLevel sg s bit vals → InRange sg s v
  | e :: o :: rest, v, hv => by
    simp only [treeLevel, List.mem_cons] at hv
    rcases hv with rfl | hv
    · exact wrap_inRange h
    · exact treeLevel_inRange h rest v hv
  | [], v, hv => by simp [treeLevel] at hv
  | [_], v, hv => by simp [treeLevel] at hv

theorem treeLevel_spec {sg : Bool} {s : Nat} (bit : Bool) (h : 1 ≤ s) :
    ∀ (m : Nat) (vals : List Int), vals.length = 2 * m → (∀ v ∈ vals, InRange sg s v) →
      (treeLevel sg s bit vals).length = m ∧
      ∀ k, k < m → (treeLevel sg s bit vals).getD k 0
        = vals.getD (2 * k + (if bit = true then 1 else 0)) 0
  | 0, vals, hl, _ => by
    have : vals = [] := List.eq_nil_of_length_eq_zero (by omega)
    subst this
    exact ⟨rfl, fun k hk => absurd hk (Nat.not_lt_zero k)⟩
  | m + 1, [], hl, _ => by simp at hl
  | m + 1, [_], hl, _ => by simp at hl; omega
  | m + 1, e :: o :: rest, hl, hr => by
    have ih := treeLevel_spec bit h m rest (by simp at hl; omega)
      (fun v hv => hr v (by simp [hv]))
    have he : InRange sg s e := hr e (by simp)
    have ho : InRange sg s o := hr o (by simp)
    refine ⟨by simp [treeLevel, ih.1], ?_⟩
    intro k hk
    cases k with
    | zero =>
      cases bit
      · simp [treeLevel, add_zero_left h he]
      · simp [treeLevel, add_sub_cancel_wrap e h ho]
    | succ k =>
      have e2 : 2 * (k + 1) + (if bit = true then 1 else 0)
          = (2 * k + (if bit = true then 1 else 0)) + 1 + 1 := by omega
      rw [e2]
      simp only [treeLevel, List.getD_cons_succ]
      exact ih.2 k (by omega)

theorem treeRetrieve_eq {sg : Bool} {s : Nat} (h : 1 ≤ s) :
    ∀ (L idx : Nat) (vals : List Int), vals.length = 2 ^ L → (∀ v ∈ vals, InRange sg s v) →
      treeRetrieve sg s idx L vals = vals.getD (idx % 2 ^ L) 0
  | 0, idx, vals, hl, _ => by
    match vals, hl with
    | [v], _ => simp [treeRetrieve, Nat.mod_one]
  | L + 1, idx, vals, hl, hr => by
    have hl2 : vals.length = 2 * 2 ^ L := by rw [hl, Nat.pow_succ]; omega
    obtain ⟨h1, h2⟩ := treeLevel_spec (idx % 2 == 1) h (2 ^ L) vals hl2 hr
    simp only [treeRetrieve]
    rw [treeRetrieve_eq h L (idx / 2) _ h1 (treeLevel_inRange h _),
      h2 _ (Nat.mod_lt _ (Nat.two_pow_pos L))]
    congr 1
    rw [Nat.pow_succ, Nat.mul_comm (2 ^ L) 2, Nat.mod_mul]
    have : idx % 2 = 0 ∨ idx % 2 = 1 := by omega
    rcases this with h0 | h0 <;> simp [h0] <;> omega

example : treeRetrieve true 64 5 3 [10, 11, 12, 13, 14, 15, 16, 17] = 15 := by decide
example : treeRetrieve true 8 13 3 [-128, 127, -1, 0, 100, -100, 5, 6] = -100 := by decide

theorem headD_eq_getD (l : List Int) : l.headD 0 = l.getD 0 0 := by cases l <;> rfl

theorem getD_inRange {sg : Bool} {s : Nat} {l : List Int} (hr : ∀ v ∈ l, InRange sg s v)
    (k : Nat) : InRange sg s (l.getD k 0) := by
  rw [List.getD_eq_getElem?_getD]
  by_cases hk : k < l.length
  · rw [List.getElem?_eq_getElem hk]; exact hr _ (List.getElem_mem hk)
  · rw [List.getElem?_eq_none (by omega)]; exact inRange_zero sg s

theorem mem_zipWith_exists {f : Int → Int → Int} :
    ∀ (as bs : List Int) (v : Int), v ∈ List.zipWith f as bs → ∃ a b, v = f a b
  | [], _, v, hv => by simp at hv
  | _ :: _, [], v, hv => by simp at hv
  | a :: as, b :: bs, v, hv => by
    simp only [List.zipWith_cons_cons, List.mem_cons] at hv
    rcases hv with rfl | hv
    · exact ⟨a, b, rfl⟩
    · exact mem_zipWith_exists as bs v hv

theorem pwlVals_inRange {sg : Bool} {s : Nat} (t : Pwl) (x : Int) (h : 1 ≤ s) :
    ∀ v ∈ pwlVals sg s t x, InRange sg s v := by
  intro v hv
  obtain ⟨a, b, rfl⟩ := mem_zipWith_exists _ _ v hv
  exact wrap_inRange h

theorem pwlVals_length (sg : Bool) (s : Nat) (t : Pwl) (x : Int)
    (hb : t.betas.length = t.alphas.length) : (pwlVals sg s t x).length = t.alphas.length := by
  simp [pwlVals, List.length_zipWith, hb]

theorem getD_take_drop_one (vals : List Int) {k n : Nat} (hk : k < n) :
    ((vals.drop 1).take n).getD k 0 = vals.getD (k + 1) 0 := by
  simp [List.getD_eq_getElem?_getD, hk]

theorem natCast_two_pow (n : Nat) : ((2 ^ n : Nat) : Int) = (2:Int) ^ n := by
  rw [Int.natCast_pow]; rfl

theorem residue_cast {s : Nat} {sc : Int} (h : 1 ≤ s) (hr : InRange true s sc) :
    (residue s sc : Int) = if 0 ≤ sc then sc else sc + 2 ^ s := by
  have hM := two_pow_pred s h
  have hP := two_pow_pos' (s - 1)
  simp only [InRange, if_true] at hr
  unfold residue
  rw [Int.toNat_of_nonneg (Int.emod_nonneg _ (by omega))]
  split
  · exact Int.emod_eq_of_lt (by omega) (by omega)
  · rw [← Int.add_emod_right]; exact Int.emod_eq_of_lt (by omega) (by omega)

theorem pwlIsLeft_iff {s : Nat} {sc : Int} (h : 1 ≤ s) (hr : InRange true s sc) :
    pwlIsLeft s sc = true ↔ sc < 0 := by
  have hM := two_pow_pred s h
  have hc := residue_cast h hr
  simp only [InRange, if_true] at hr
  unfold pwlIsLeft
  rw [decide_eq_true_iff, ← Int.ofNat_le, natCast_two_pow, hc]
  split <;> omega

theorem pwlIsRight_iff {s : Nat} {sc : Int} (L : Nat) (h : 1 ≤ s) (hr : InRange true s sc) :
    pwlIsRight s L sc = true ↔ 2 ^ L ≤ sc := by
  have hL := two_pow_pos' L
  have hl := pwlIsLeft_iff h hr
  have hc := residue_cast h hr
  unfold pwlIsRight
  by_cases hneg : sc < 0
  · have : pwlIsLeft s sc = true := hl.2 hneg
    simp only [this, Bool.not_true, Bool.and_false, Bool.false_eq_true, false_iff]
    omega
  · have hf : pwlIsLeft s sc = false := Bool.eq_false_iff.mpr fun hb => hneg (hl.1 hb)
    simp only [InRange, if_true] at hr
    rw [if_pos (by omega)] at hc
    have hlt : residue s sc < 2 ^ (s - 1) := by
      rw [← Int.ofNat_lt, natCast_two_pow, hc]; exact hr.2
    rw [hf, Nat.mod_eq_of_lt hlt]
    simp only [Bool.not_false, Bool.and_true, decide_eq_true_iff, ne_eq, Nat.div_eq_zero_iff,
      not_or, Nat.not_lt]
    have hiff : (2:Int) ^ L ≤ sc ↔ (2:Nat) ^ L ≤ residue s sc := by
      rw [← Int.ofNat_le, natCast_two_pow, hc]
    rw [hiff]
    have : (2:Nat) ^ L ≠ 0 := Nat.ne_of_gt (Nat.two_pow_pos L)
    exact ⟨fun h => h.2, fun h => ⟨this, h⟩⟩

/-- index of the table entry selected for scaled argument `sc`: `0` = left outside bucket,
    `2^L + 1` = right outside bucket, `1 + sc` inside. -/
def pwlBucket (L : Nat) (sc : Int) : Nat :=
  if sc < 0 then 0 else if 2 ^ L ≤ sc then 2 ^ L + 1 else 1 + sc.toNat

/-- the masked sum `main·isMain + left·isLeft + right·isRight` is the
    single table value `wrap (alpha_j * x + beta_j)` of the bucket `j = pwlBucket L sc`. -/
theorem pwlEval_eq {s : Nat} {t : Pwl} {x : Int} (h1 : 1 ≤ s)
    (ha : t.alphas.length = 2 ^ t.logBuckets + 2) (hb : t.betas.length = t.alphas.length)
    (hsc : InRange true s (pwlScaled true s t x)) :
    pwlEval true s t x
      = trunc ((pwlVals true s t x).getD (pwlBucket t.logBuckets (pwlScaled true s t x)) 0)
          (2 ^ t.precision) := by
  have hlen := pwlVals_length true s t x hb
  have hin := pwlVals_inRange (sg := true) t x h1
  have hleft := pwlIsLeft_iff h1 hsc
  have hright := pwlIsRight_iff t.logBuckets h1 hsc
  have hc := residue_cast h1 hsc
  have hL := two_pow_pos' t.logBuckets
  unfold pwlEval
  dsimp only
  generalize hV : pwlVals true s t x = V at *
  generalize hS : pwlScaled true s t x = sc at *
  congr 1
  by_cases hneg : sc < 0
  · have e1 : pwlIsLeft s sc = true := hleft.2 hneg
    have e2 : pwlIsRight s t.logBuckets sc = false :=
      Bool.eq_false_iff.mpr fun hb => by have := hright.1 hb; omega
    have e3 : pwlBucket t.logBuckets sc = 0 := by simp [pwlBucket, hneg]
    simp only [e1, e2, e3, Bool.not_true, Bool.not_false, Bool.false_and, if_true,
      Bool.false_eq_true, if_false]
    rw [headD_eq_getD, add_zero_left h1 (getD_inRange hin 0), add_zero_right h1 (getD_inRange hin 0)]
  · have e1 : pwlIsLeft s sc = false := Bool.eq_false_iff.mpr fun hb => hneg (hleft.1 hb)
    by_cases hbig : 2 ^ t.logBuckets ≤ sc
    · have e2 : pwlIsRight s t.logBuckets sc = true := hright.2 hbig
      have e3 : pwlBucket t.logBuckets sc = 2 ^ t.logBuckets + 1 := by
        simp [pwlBucket, hneg, hbig]
      have e4 : t.alphas.length - 1 = 2 ^ t.logBuckets + 1 := by omega
      simp only [e1, e2, e3, e4, Bool.not_true, Bool.not_false, Bool.and_false, if_true,
        Bool.false_eq_true, if_false]
      rw [add_zero_left h1 (inRange_zero true s), add_zero_left h1 (getD_inRange hin _)]
    · have e2 : pwlIsRight s t.logBuckets sc = false :=
        Bool.eq_false_iff.mpr fun hb => hbig (hright.1 hb)
      have e3 : pwlBucket t.logBuckets sc = 1 + sc.toNat := by
        simp [pwlBucket, hneg, hbig]
      rw [if_pos (by omega)] at hc
      have hres : residue s sc = sc.toNat := by omega
      have hlt : sc.toNat < 2 ^ t.logBuckets := by
        rw [← Int.ofNat_lt, natCast_two_pow]; omega
      have hinT : ∀ v ∈ (V.drop 1).take (2 ^ t.logBuckets), InRange true s v :=
        fun v hv => hin v (List.mem_of_mem_drop (List.mem_of_mem_take hv))
      have hlenT : ((V.drop 1).take (2 ^ t.logBuckets)).length = 2 ^ t.logBuckets := by
        simp [List.length_take, hlen, ha]
      simp only [e1, e2, e3, Bool.not_false, Bool.and_true, if_true, Bool.false_eq_true, if_false]
      rw [treeRetrieve_eq h1 _ _ _ hlenT hinT, hres, Nat.mod_mod, Nat.mod_eq_of_lt hlt,
        getD_take_drop_one V hlt, Nat.add_comm 1]
      rw [add_zero_right h1 (getD_inRange hin _), add_zero_right h1 (getD_inRange hin _)]

theorem pwlScaled_inRange {s : Nat} (t : Pwl) (x : Int) (h : 1 ≤ s) (hd : 0 < t.divisor) :
    InRange true s (pwlScaled true s t x) := by
  have hw : InRange true s (sub true s x t.leftFp) := wrap_inRange h
  unfold pwlScaled
  generalize sub true s x t.leftFp = w at hw
  simp only [InRange, if_true] at hw ⊢
  have hP := two_pow_pos' (s - 1)
  by_cases hn : 0 ≤ w
  · rw [trunc_of_nonneg _ hn]
    have := Int.ediv_le_self t.divisor hn
    have := Int.ediv_nonneg hn (Int.le_of_lt hd)
    omega
  · rw [← Int.neg_neg w, trunc_neg, trunc_of_nonneg _ (by omega)]
    have := Int.ediv_le_self t.divisor (a := -w) (by omega)
    have := Int.ediv_nonneg (a := -w) (by omega) (Int.le_of_lt hd)
    omega

/-- a small table: `L = 2` (4 main buckets + 2 outside), width 16, `x ↦ 3x+1 | 2x | x+5 | 7 | -x | 9`. -/
def exPwl : Pwl :=
  { logBuckets := 2, precision := 1, leftFp := -20, divisor := 10,
    alphas := [3, 2, 1, 0, -1, 0], betas := [1, 0, 5, 7, 0, 9] }

example : exPwl.alphas.length = 2 ^ exPwl.logBuckets + 2 ∧ exPwl.betas.length = exPwl.alphas.length
    ∧ exPwl.logBuckets + 1 < 16 ∧ 0 < exPwl.divisor := by decide
-- x = -45: scaled = trunc (-25) 10 = -2 < 0, left outside bucket 0: (3·(-45)+1) / 2 = -67
example : pwlEval true 16 exPwl (-45) = -67 ∧ pwlBucket 2 (pwlScaled true 16 exPwl (-45)) = 0 := by
  decide
-- x = -25: scaled = trunc (-5) 10 = 0 (toward zero), FIRST MAIN bucket 1: (2·(-25)) / 2 = -25
example : pwlEval true 16 exPwl (-25) = -25 ∧ pwlBucket 2 (pwlScaled true 16 exPwl (-25)) = 1 := by
  decide
-- x = 5: scaled = 2, main bucket 3: 7 / 2 = 3
example : pwlEval true 16 exPwl 5 = 3 ∧ pwlBucket 2 (pwlScaled true 16 exPwl 5) = 3 := by decide
-- x = 100: scaled = 12 ≥ 4, right outside bucket 5: 9 / 2 = 4
example : pwlEval true 16 exPwl 100 = 4 ∧ pwlBucket 2 (pwlScaled true 16 exPwl 100) = 5 := by
  decide
example : pwlEval true 16 exPwl 5
    = trunc ((pwlVals true 16 exPwl 5).getD (pwlBucket 2 (pwlScaled true 16 exPwl 5)) 0) (2 ^ 1) :=
  pwlEval_eq (by decide) (by decide) (by decide)
    (pwlScaled_inRange exPwl 5 (by decide) (by decide))

end CCV.Approx
