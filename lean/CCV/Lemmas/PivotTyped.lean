import CCV.Lemmas.Pivot
/-
  The mask discipline with TYPES.

  The nodes of a compiled graph carry values of different types (arrays of different shapes and scalar
  types).  All of them are modelled inside one additive commutative group `R` (think of the product of
  all carrier groups); a type is a predicate on `R` closed under 0, + and − (a subgroup: one factor of
  the product).  A tape variable `v` ranges over its own type `H v` only — the real tape is uniform on
  the TYPED tapes, not on all of `ℕ → R`.

  `exists_sim_typed` strengthens `Pivot.exists_sim`: if every message takes its values in the type of
  its pivot (on typed tapes and admissible secrets), the simulation maps typed tapes to typed tapes, in
  both directions.  Hence it restricts to a bijection of the typed tapes (`Proofs/C03.lean`,
  `typed_discipline_hides`).
-/
set_option linter.unusedSectionVars false
namespace CCV.Pivot
variable {R X : Type} [AddCommGroup R]

structure Types (R : Type) [AddCommGroup R] where
  H : Nat → R → Prop
  zero : ∀ v, H v 0
  add : ∀ v a b, H v a → H v b → H v (a + b)
  neg : ∀ v a, H v a → H v (-a)

theorem Types.sub (T : Types R) (v : Nat) (a b : R) (ha : T.H v a) (hb : T.H v b) : T.H v (a - b) := by
  rw [sub_eq_add_neg]; exact T.add v a (-b) ha (T.neg v b hb)

theorem Types.sg (T : Types R) (v : Nat) (b : Bool) (a : R) (ha : T.H v a) : T.H v (sg b a) := by
  cases b
  · exact ha
  · exact T.neg v a ha

def TypedTape (T : Types R) (ρ : Nat → R) : Prop := ∀ v, T.H v (ρ v)

theorem TypedTape.upd {T : Types R} {ρ : Nat → R} (h : TypedTape T ρ) (v : Nat) (a : R) (ha : T.H v a) :
    TypedTape T (upd ρ v a) := PivotCore.Typed.upd h v a ha

def MsgTyped (T : Types R) (PX : X → Prop) (m : Msg X R) : Prop :=
  ∀ x ρ, PX x → TypedTape T ρ → T.H m.piv (m.f x ρ)

structure SimT (T : Types R) (msgs : List (Msg X R)) (x x' : X) (σ τ : (Nat → R) → (Nat → R)) : Prop
    extends Sim msgs x x' σ τ where
  typedσ : ∀ ρ, TypedTape T ρ → TypedTape T (σ ρ)
  typedτ : ∀ ρ, TypedTape T ρ → TypedTape T (τ ρ)

theorem exists_sim_typed (T : Types R) (PX : X → Prop) : ∀ (msgs : List (Msg X R)), Disc msgs →
    (∀ m ∈ msgs, MsgTyped T PX m) → ∀ x x' : X, PX x → PX x' →
    ∃ σ τ : (Nat → R) → (Nat → R), SimT T msgs x x' σ τ := by
  intro msgs h hty x x' hx hx'
  -- the solution `sg (c − message at pivot 0)` of `Shift.solves` is a difference of two message values
  obtain ⟨σ, τ, h1, h2⟩ := PivotCore.exists_sim Msg.f Msg.piv T.H PX msgs
    (fun m hm => ⟨_, (h.pivots.1 m hm).solves, fun x x' hx hx' ρ ρ' hρ hρ' =>
      T.sg _ _ _ (T.sub _ _ _ (hty m hm x ρ hx hρ) (hty m hm x' _ hx' (hρ'.upd _ 0 (T.zero _))))⟩)
    h.pivots.2 x x' hx hx'
  exact ⟨σ, τ, ⟨⟨h1.inv, h2.inv, h1.align, h1.fix, h2.fix, h1.comm, h2.comm⟩, h1.typed, h2.typed⟩⟩

end CCV.Pivot
