import CCV.Model.InlineFresh
/-
  Helper lemmas for Proofs/C07Fresh.lean: the association-list mappings behave like finite maps,
  one assign / inline / unassign cycle of the inliner appends exactly `copySpec (rename …) body`.
-/
namespace CCV.InlineFresh

theorem lookup_mInsert (m : Mapping) (k : Key) (v : Nat) (k' : Key) :
    (mInsert m k v).lookup k' = if k' = k then some v else m.lookup k' := by
  unfold mInsert
  rw [List.lookup_cons]
  by_cases h : k' = k
  · rw [if_pos h, beq_iff_eq.2 h]
  · rw [if_neg h, beq_eq_false_iff_ne.2 h]

theorem lookup_mRemove (m : Mapping) (k k' : Key) :
    (mRemove m k).lookup k' = if k' = k then none else m.lookup k' := by
  unfold mRemove
  induction m with
  | nil => exact (ite_self none).symm
  | cons e rest ih =>
    rw [List.filter_cons, List.lookup_cons]
    by_cases he : e.1 = k
    · rw [beq_iff_eq.2 he, Bool.not_true, if_neg Bool.false_ne_true, ih]
      by_cases hk : k' = k
      · rw [if_pos hk, if_pos hk]
      · rw [if_neg hk, if_neg hk, beq_eq_false_iff_ne.2 (fun h => hk (h.trans he))]
    · rw [beq_eq_false_iff_ne.2 he, Bool.not_false, if_pos rfl, List.lookup_cons, ih]
      by_cases hk : k' = k
      · rw [if_pos hk, if_pos hk, beq_eq_false_iff_ne.2 (fun h => he (h.symm.trans hk))]
      · rw [if_neg hk, if_neg hk]

theorem getNode_eq (c : ICtx) (k : Key) :
    c.getNode k = match c.eph.lookup k with
      | some v => v
      | none => (c.cm.lookup k).getD 0 := by
  unfold ICtx.getNode mContains mGet
  cases c.eph.lookup k with
  | none => rfl
  | some v => rfl

theorem getNode_of_eph {c : ICtx} {k : Key} {v : Nat} (h : c.eph.lookup k = some v) :
    c.getNode k = v := by rw [getNode_eq, h]

theorem insertNode_eph_ne (c : ICtx) (k : Key) (v : Nat) (k' : Key) (h : k' ≠ k) :
    (c.insertNode k v).eph.lookup k' = c.eph.lookup k' := by
  unfold ICtx.insertNode
  split
  · exact (lookup_mInsert c.eph k v k').trans (if_neg h)
  · rfl

theorem insertNode_getNode (c : ICtx) (k : Key) (v : Nat) (hk : c.eph.lookup k = none) (k' : Key) :
    (c.insertNode k v).getNode k' = if k' = k then v else c.getNode k' := by
  unfold ICtx.insertNode
  by_cases hm : mContains c.cm k = true
  · rw [if_pos hm, getNode_eq, getNode_eq]
    dsimp only
    rw [lookup_mInsert]
    by_cases h : k' = k
    · rw [if_pos h, if_pos h]
    · rw [if_neg h, if_neg h]
  · rw [if_neg hm, getNode_eq, getNode_eq]
    dsimp only
    rw [lookup_mInsert]
    by_cases h : k' = k
    · rw [if_pos h, if_pos h, h, hk]
      rfl
    · rw [if_neg h, if_neg h]

theorem rank_append (a b : List Node) : rank (a ++ b) = rank a + rank b := by
  simp only [rank, List.filter_append, List.length_append]

theorem inCount_append (a b : List Node) : inCount (a ++ b) = inCount a + inCount b := by
  simp only [inCount, List.filter_append, List.length_append]

theorem randomCount_append (a b : List Node) : randomCount (a ++ b) = randomCount a + randomCount b := by
  simp only [randomCount, List.filter_append, List.length_append]

theorem copySpec_append (ρ : Nat → Nat) (a b : List Node) :
    copySpec ρ (a ++ b) = copySpec ρ a ++ copySpec ρ b := by
  simp only [copySpec, List.filter_append, List.map_append]

theorem copySpec_length (ρ : Nat → Nat) (l : List Node) : (copySpec ρ l).length = rank l := by
  simp only [copySpec, rank, List.length_map]

theorem copySpec_cons (ρ : Nat → Nat) (nd : Node) (l : List Node) :
    copySpec ρ (nd :: l) = if nd.tag = .input then copySpec ρ l else ⟨nd.tag, nd.deps.map ρ⟩ :: copySpec ρ l := by
  unfold copySpec
  by_cases h : nd.tag = .input
  · rw [if_pos h, List.filter_cons_of_neg (by simpa using h)]
  · rw [if_neg h, List.filter_cons_of_pos (by simpa using h)]
    rfl

def WF (g : Graph) : Prop := ∀ (k : Nat) (nd : Node), g[k]? = some nd → ∀ d ∈ nd.deps, d < k

theorem wf_of_forall_lt {g : Graph} (h : ∀ k (hk : k < g.length), ∀ d ∈ g[k].deps, d < k) : WF g :=
  fun k _ hk d hd =>
    have ⟨hlt, e⟩ := List.getElem?_eq_some_iff.1 hk
    h k hlt d (e ▸ hd)

theorem inlineNodes_cons (gid : Nat) (nd : Node) (rest : List Node) (i : Nat) (out : Graph) (c : ICtx) :
    inlineNodes gid (nd :: rest) i (out, c) =
      if mContains c.eph (gid, i) then inlineNodes gid rest (i + 1) (out, c)
      else inlineNodes gid rest (i + 1)
        (out ++ [⟨nd.tag, nd.deps.map fun d => c.getNode (gid, d)⟩], c.insertNode (gid, i) out.length) :=
  rfl

/-- Invariant of the copying loop at position `i`: the ephemeral mapping binds, among the nodes
    from `i` on, exactly the Input nodes (to their images); every earlier node is resolved by
    `get_node` to its image (through the ephemeral mapping for Input nodes and from the second copy
    on, through `context_mapping` in the first copy); the output graph has grown by the non-Input
    nodes before `i`. -/
theorem inlineNodes_spec (gid : Nat) (g : Graph) (ρ : Nat → Nat) (base : Nat)
    (hρ : ∀ k nd, g[k]? = some nd → nd.tag ≠ .input → ρ k = base + rank (g.take k))
    (hwf : WF g) :
    ∀ (m i : Nat) (out : Graph) (c : ICtx), i + m = g.length →
      out.length = base + rank (g.take i) →
      (∀ k, i ≤ k → c.eph.lookup (gid, k) =
        g[k]?.bind fun nd => if nd.tag = .input then some (ρ k) else none) →
      (∀ k, k < i → c.getNode (gid, k) = ρ k) →
      ∃ c', inlineNodes gid (g.drop i) i (out, c) = (out ++ copySpec ρ (g.drop i), c') ∧
        (∀ k, g.length ≤ k → c'.eph.lookup (gid, k) = none) ∧
        (∀ k, k < g.length → c'.getNode (gid, k) = ρ k) := by
  intro m
  induction m with
  | zero =>
    intro i out c hi _ he hg
    subst hi
    refine ⟨c, ?_, fun k hk => ?_, hg⟩
    · rw [List.drop_length]
      exact congrArg (·, c) (List.append_nil out).symm
    · rw [he k hk, List.getElem?_eq_none hk]
      rfl
  | succ m ih =>
    intro i out c hi hlen he hg
    have hi' : i + 1 + m = g.length := (Nat.add_right_comm i 1 m).trans hi
    have hlt : i < g.length := Nat.lt_of_lt_of_eq (Nat.lt_add_of_pos_right (Nat.succ_pos m)) hi
    have hgi : g[i]? = some g[i] := List.getElem?_eq_getElem hlt
    have hei := he i (Nat.le_refl i)
    rw [hgi, Option.bind_some] at hei
    have htake : rank (g.take (i + 1)) = rank (g.take i) + rank [g[i]] := by
      rw [List.take_succ_eq_append_getElem hlt, rank_append]
    rw [List.drop_eq_getElem_cons hlt, copySpec_cons, inlineNodes_cons]
    by_cases hin : g[i].tag = .input
    · rw [if_pos hin] at hei ⊢
      have hm : mContains c.eph (gid, i) = true := by rw [mContains, hei]; rfl
      rw [if_pos hm]
      refine ih (i + 1) out c hi' ?_ (fun k hk => he k (Nat.le_of_succ_le hk)) ?_
      · rw [htake, hlen, rank.eq_def [g[i]], List.filter_cons_of_neg (by simpa using hin)]
        rfl
      · intro k hk
        rcases Nat.lt_succ_iff_lt_or_eq.1 hk with h | h
        · exact hg k h
        · rw [h]
          exact getNode_of_eph hei
    · rw [if_neg hin] at hei ⊢
      have hm : ¬ mContains c.eph (gid, i) = true := by rw [mContains, hei]; exact Bool.false_ne_true
      have hdeps : g[i].deps.map (fun d => c.getNode (gid, d)) = g[i].deps.map ρ :=
        List.map_congr_left fun d hd => hg d (hwf i _ hgi d hd)
      rw [if_neg hm, hdeps, List.append_cons out _ (copySpec ρ _)]
      refine ih (i + 1) _ _ hi' ?_ ?_ ?_
      · rw [List.length_append, htake, hlen, rank.eq_def [g[i]], List.filter_cons_of_pos (by simpa using hin)]
        rfl
      · intro k hk
        rw [insertNode_eph_ne _ _ _ _ fun h => Nat.ne_of_gt hk (Prod.mk.inj h).2]
        exact he k (Nat.le_of_succ_le hk)
      · intro k hk
        rw [insertNode_getNode _ _ _ hei]
        rcases Nat.lt_succ_iff_lt_or_eq.1 hk with h | h
        · rw [if_neg fun h' => Nat.ne_of_lt h (Prod.mk.inj h').2]
          exact hg k h
        · rw [h, if_pos rfl, hρ i _ hgi hin, hlen]

theorem inputIdsFrom_cons (nd : Node) (rest : List Node) (i : Nat) :
    inputIdsFrom (nd :: rest) i =
      if nd.tag = .input then i :: inputIdsFrom rest (i + 1) else inputIdsFrom rest (i + 1) := rfl

theorem assignLoop_cons (gid i : Nat) (is : List Nat) (v : Nat) (vs : List Nat) (c : ICtx) :
    assignLoop gid (i :: is) (v :: vs) c = assignLoop gid is vs { c with eph := mInsert c.eph (gid, i) v } :=
  rfl

theorem assignLoop_spec (gid : Nat) :
    ∀ (l : List Node) (i : Nat) (vals : List Nat) (c : ICtx), inCount l ≤ vals.length →
      (assignLoop gid (inputIdsFrom l i) vals c).cm = c.cm ∧
      (∀ key : Key, (key.1 = gid → key.2 < i) →
        (assignLoop gid (inputIdsFrom l i) vals c).eph.lookup key = c.eph.lookup key) ∧
      (∀ j, (assignLoop gid (inputIdsFrom l i) vals c).eph.lookup (gid, i + j) =
        match l[j]? with
        | some nd => if nd.tag = .input then some ((vals[inCount (l.take j)]?).getD 0)
                     else c.eph.lookup (gid, i + j)
        | none => c.eph.lookup (gid, i + j)) := by
  intro l
  induction l with
  | nil => exact fun i vals c _ => ⟨rfl, fun _ _ => rfl, fun _ => rfl⟩
  | cons nd rest ih =>
    intro i vals c hlen
    rw [inputIdsFrom_cons]
    by_cases hin : nd.tag = .input
    · have hc : ∀ l' : List Node, inCount (nd :: l') = inCount l' + 1 := fun l' => by
        rw [inCount, List.filter_cons_of_pos (by simpa using hin)]; rfl
      rw [if_pos hin]
      match vals, hlen with
      | [], hlen => rw [hc] at hlen; cases hlen
      | v :: vs, hlen =>
        rw [assignLoop_cons]
        obtain ⟨h1, h2, h3⟩ := ih (i + 1) vs { c with eph := mInsert c.eph (gid, i) v }
          (by rw [hc] at hlen; exact Nat.le_of_succ_le_succ hlen)
        refine ⟨h1, fun key hkey => ?_, fun j => ?_⟩
        · rw [h2 key (fun h => Nat.lt_succ_of_lt (hkey h))]
          exact (lookup_mInsert _ _ _ _).trans (if_neg fun h => by subst h; exact Nat.lt_irrefl _ (hkey rfl))
        cases j with
        | zero =>
          rw [Nat.add_zero, h2 (gid, i) (fun _ => Nat.lt_succ_self i)]
          dsimp only
          rw [lookup_mInsert, if_pos rfl]
          simp only [List.getElem?_cons_zero, if_pos hin, List.take_zero]
          rfl
        | succ j =>
          rw [← Nat.add_assoc, Nat.add_right_comm, h3 j, List.getElem?_cons_succ, List.take_succ_cons, hc,
            List.getElem?_cons_succ, lookup_mInsert, if_neg fun h =>
              Nat.ne_of_gt (Nat.lt_of_lt_of_le (Nat.lt_succ_self i) (Nat.le_add_right _ j)) (Prod.mk.inj h).2]
    · rw [if_neg hin]
      have hc : ∀ l' : List Node, inCount (nd :: l') = inCount l' := fun l' => by
        rw [inCount, List.filter_cons_of_neg (by simpa using hin)]; rfl
      obtain ⟨h1, h2, h3⟩ := ih (i + 1) vals c (by rw [hc] at hlen; exact hlen)
      refine ⟨h1, fun key hkey => h2 key (fun h => Nat.lt_succ_of_lt (hkey h)), fun j => ?_⟩
      cases j with
      | zero =>
        rw [Nat.add_zero, h2 (gid, i) (fun _ => Nat.lt_succ_self i)]
        simp only [List.getElem?_cons_zero, if_neg hin]
      | succ j =>
        rw [← Nat.add_assoc, Nat.add_right_comm, h3 j, List.getElem?_cons_succ, List.take_succ_cons, hc]

theorem lookup_removeIfPresent (c : ICtx) (k key : Key) :
    (if mContains c.eph k then { c with eph := mRemove c.eph k } else c).eph.lookup key
      = if key = k then none else c.eph.lookup key := by
  by_cases hm : mContains c.eph k = true
  · rw [if_pos hm]
    exact lookup_mRemove c.eph k key
  · rw [if_neg hm]
    by_cases hk : key = k
    · rw [if_pos hk, hk]
      exact Option.not_isSome_iff_eq_none.1 hm
    · rw [if_neg hk]

theorem unassignLoop_cons (gid : Nat) (nd : Node) (rest : List Node) (i : Nat) (c : ICtx) :
    unassignLoop gid (nd :: rest) i c = unassignLoop gid rest (i + 1)
      (if mContains c.eph (gid, i) then { c with eph := mRemove c.eph (gid, i) } else c) := rfl

theorem unassignLoop_spec (gid : Nat) :
    ∀ (l : List Node) (i : Nat) (c : ICtx),
      (unassignLoop gid l i c).cm = c.cm ∧
      (∀ key : Key, (unassignLoop gid l i c).eph.lookup key =
        if key.1 = gid ∧ i ≤ key.2 ∧ key.2 < i + l.length then none else c.eph.lookup key) := by
  intro l
  induction l with
  | nil => exact fun i c => ⟨rfl, fun key => (if_neg fun h => Nat.not_lt.2 h.2.1 h.2.2).symm⟩
  | cons nd rest ih =>
    intro i c
    rw [unassignLoop_cons]
    obtain ⟨h1, h2⟩ := ih (i + 1)
      (if mContains c.eph (gid, i) then { c with eph := mRemove c.eph (gid, i) } else c)
    refine ⟨?_, fun key => ?_⟩
    · rw [h1]
      split
      · rfl
      · rfl
    · rw [h2 key, lookup_removeIfPresent, List.length_cons]
      by_cases hr : key.1 = gid ∧ i ≤ key.2 ∧ key.2 < i + (rest.length + 1)
      · rw [if_pos hr]
        by_cases hi : key.2 = i
        · rw [if_neg (by omega), if_pos (Prod.ext hr.1 hi)]
        · rw [if_pos ⟨hr.1, by omega⟩]
      · rw [if_neg hr, if_neg (fun h => hr ⟨h.1, by omega⟩), 
          if_neg (fun h => hr (by rw [h]; exact ⟨rfl, Nat.le_refl i, by omega⟩))]

/-- holds between copies -/
def Clean (gid : Nat) (c : ICtx) : Prop := ∀ k, c.eph.lookup (gid, k) = none

theorem rename_nonInput {g : Graph} {base : Nat} {vals : List Nat} {k : Nat} {nd : Node}
    (hk : g[k]? = some nd) (hn : nd.tag ≠ .input) : rename g base vals k = base + rank (g.take k) := by
  rw [rename, hk]
  exact if_neg hn

theorem rename_input {g : Graph} {base : Nat} {vals : List Nat} {k : Nat} {nd : Node}
    (hk : g[k]? = some nd) (hn : nd.tag = .input) :
    rename g base vals k = (vals[inCount (g.take k)]?).getD 0 := by
  rw [rename, hk]
  exact if_pos hn

theorem inlineCall_spec (gid : Nat) (g : Graph) (outId : Nat) (vals : List Nat) (s : St)
    (hwf : WF g) (hvals : inCount g ≤ vals.length) (hclean : Clean gid s.2) :
    ∃ c' r, inlineCall gid g outId vals s = ((s.1 ++ copySpec (rename g s.1.length vals) g, c'), r) ∧
      (outId < g.length → r = rename g s.1.length vals outId) ∧ Clean gid c' := by
  obtain ⟨out, c⟩ := s
  have ha : ∀ k, 0 ≤ k → (assignInputNodes gid g vals c).eph.lookup (gid, k) =
      g[k]?.bind fun nd => if nd.tag = .input then some (rename g out.length vals k) else none := by
    intro k _
    have h := (assignLoop_spec gid g 0 vals c hvals).2.2 k
    rw [Nat.zero_add, hclean k] at h
    rw [assignInputNodes, h]
    cases hk : g[k]? with
    | none => rfl
    | some nd =>
      by_cases hin : nd.tag = .input
      · exact (if_pos hin).trans ((congrArg some (rename_input hk hin).symm).trans (if_pos hin).symm)
      · exact (if_neg hin).trans (if_neg hin).symm
  obtain ⟨c', e, t2, t3⟩ := inlineNodes_spec gid g (rename g out.length vals) out.length
    (fun k nd hk hn => rename_nonInput hk hn) hwf g.length 0 out (assignInputNodes gid g vals c)
    (Nat.zero_add _) rfl ha (fun k hk => absurd hk (Nat.not_lt_zero k))
  refine ⟨unassignNodes gid g c', c'.getNode (gid, outId), ?_, t3 outId, fun k => ?_⟩
  · exact congrArg (fun r : St => ((r.1, unassignNodes gid g r.2), r.2.getNode (gid, outId))) e
  · rw [unassignNodes, (unassignLoop_spec gid g 0 c').2]
    by_cases hk : k < g.length
    · exact if_pos ⟨rfl, Nat.zero_le k, by rw [Nat.zero_add]; exact hk⟩
    · rw [if_neg fun h => hk (by rw [Nat.zero_add] at h; exact h.2.2)]
      exact t2 k (Nat.le_of_not_lt hk)

/-- number of nodes one step appends: Constant, VectorGet, the copy, TupleGet(0), TupleGet(1) -/
def stepLen (g : Graph) : Nat := rank g + 4

/-- the state node fed to copy `i`: the initial state, then TupleGet(0) of the previous step -/
def stateAt (g : Graph) (base init : Nat) : Nat → Nat
  | 0 => init
  | i + 1 => base + i * stepLen g + 2 + rank g

/-- renaming of copy `i`: inputs ↦ [state of step i, VectorGet of step i], the r-th non-input node
    ↦ `base + i * stepLen + 2 + r` -/
def stepRename (g : Graph) (base init i : Nat) : Nat → Nat :=
  rename g (base + i * stepLen g + 2) [stateAt g base init i, base + i * stepLen g + 1]

def stepBlock (g : Graph) (outId inp base init i : Nat) : Graph :=
  [⟨.const i, []⟩, ⟨.vectorGet, [inp, base + i * stepLen g]⟩] ++ copySpec (stepRename g base init i) g ++
    [⟨.tupleGet 0, [stepRename g base init i outId]⟩, ⟨.tupleGet 1, [stepRename g base init i outId]⟩]

def stepBlocks (g : Graph) (outId inp base init : Nat) : Nat → Nat → Graph
  | 0, _ => []
  | fuel + 1, i => stepBlock g outId inp base init i ++ stepBlocks g outId inp base init fuel (i + 1)

theorem stepBlocks_succ (g : Graph) (outId inp base init fuel i : Nat) :
    stepBlocks g outId inp base init (fuel + 1) i =
      stepBlock g outId inp base init i ++ stepBlocks g outId inp base init fuel (i + 1) := rfl

theorem stepBlock_length (g : Graph) (outId inp base init i : Nat) :
    (stepBlock g outId inp base init i).length = stepLen g := by
  simp only [stepBlock, List.length_append, copySpec_length, stepLen, List.length_cons, List.length_nil]
  omega

theorem stepBlocks_length (g : Graph) (outId inp base init : Nat) :
    ∀ fuel i, (stepBlocks g outId inp base init fuel i).length = fuel * stepLen g := by
  intro fuel
  induction fuel with
  | zero => exact fun i => (Nat.zero_mul _).symm
  | succ fuel ih =>
    intro i
    rw [stepBlocks_succ, List.length_append, stepBlock_length, ih, Nat.succ_mul, Nat.add_comm]

theorem iterSimpleLoop_succ (gid : Nat) (g : Graph) (outId inp base init : Nat)
    (hwf : WF g) (h2 : inCount g ≤ 2) (ho : outId < g.length)
    (fuel i : Nat) (outs : List Nat) (out : Graph) (c : ICtx)
    (hlen : out.length = base + i * stepLen g) (hclean : Clean gid c) :
    ∃ c', Clean gid c' ∧
      iterSimpleLoop gid g outId inp (fuel + 1) i (stateAt g base init i) outs (out, c) =
        iterSimpleLoop gid g outId inp fuel (i + 1) (stateAt g base init (i + 1))
          (outs ++ [base + i * stepLen g + 3 + rank g]) (out ++ stepBlock g outId inp base init i, c') := by
  rw [iterSimpleLoop]
  simp only [addNode]
  -- the graph after Constant and VectorGet and the id of the VectorGet node get names, so that
  -- `inlineCall_spec` is applied to variables
  generalize hk : (out ++ [Node.mk (.const i) []]).length = k1
  generalize ho2 : out ++ [Node.mk (.const i) []] ++ [Node.mk .vectorGet [inp, out.length]] = out2
  have hk1 : k1 = base + i * stepLen g + 1 := by
    rw [← hk, List.length_append, hlen]
    rfl
  have hl2 : out2.length = base + i * stepLen g + 2 := by
    rw [← ho2, List.length_append, hk, hk1]
    rfl
  obtain ⟨c3, res, e, e2, e3⟩ := inlineCall_spec gid g outId [stateAt g base init i, k1] (out2, c) hwf h2 hclean
  rw [e]
  refine ⟨c3, e3, ?_⟩
  simp only [List.length_append, hl2, copySpec_length, List.length_singleton]
  rw [e2 ho, hl2, hk1, ← ho2, hlen, Nat.add_right_comm _ (rank g) 1]
  simp only [stepBlock, stepRename, List.append_assoc, List.cons_append, List.nil_append]
  rfl

theorem iterSimpleLoop_spec (gid : Nat) (g : Graph) (outId inp base init : Nat)
    (hwf : WF g) (h2 : inCount g ≤ 2) (ho : outId < g.length) :
    ∀ (fuel i : Nat) (outs : List Nat) (out : Graph) (c : ICtx),
      out.length = base + i * stepLen g → Clean gid c →
      ∃ c', Clean gid c' ∧
        iterSimpleLoop gid g outId inp fuel i (stateAt g base init i) outs (out, c) =
          ((out ++ stepBlocks g outId inp base init fuel i, c'), stateAt g base init (i + fuel),
            outs ++ (List.range' i fuel).map (fun j => base + j * stepLen g + 3 + rank g)) := by
  intro fuel
  induction fuel with
  | zero =>
    intro i outs out c _ hc
    refine ⟨c, hc, ?_⟩
    show ((out, c), stateAt g base init i, outs) = ((out ++ [], c), stateAt g base init i, outs ++ [])
    rw [List.append_nil, List.append_nil]
  | succ fuel ih =>
    intro i outs out c hlen hclean
    obtain ⟨c', hc', e⟩ := iterSimpleLoop_succ gid g outId inp base init hwf h2 ho fuel i outs out c hlen hclean
    obtain ⟨c'', hc'', e'⟩ := ih (i + 1) (outs ++ [base + i * stepLen g + 3 + rank g])
      (out ++ stepBlock g outId inp base init i) c'
      (by rw [List.length_append, stepBlock_length, hlen, Nat.succ_mul, Nat.add_assoc]) hc'
    refine ⟨c'', hc'', ?_⟩
    rw [e, e', List.append_assoc, List.append_assoc, Nat.add_assoc, Nat.add_comm 1]
    rfl

theorem split_at {g : Graph} {k : Nat} {nd : Node} (hk : g[k]? = some nd) :
    g = g.take k ++ nd :: g.drop (k + 1) := by
  obtain ⟨hlt, hnd⟩ := List.getElem?_eq_some_iff.1 hk
  rw [← hnd, ← List.drop_eq_getElem_cons hlt, List.take_append_drop]

theorem filter_take_lt {p : Node → Bool} {g : Graph} {k : Nat} {nd : Node} (hk : g[k]? = some nd)
    (hp : p nd = true) : ((g.take k).filter p).length < (g.filter p).length := by
  have h := congrArg (fun l => (l.filter p).length) (split_at hk)
  simp only [List.filter_append, List.length_append, List.filter_cons_of_pos hp, List.length_cons] at h
  omega

theorem rank_take_lt {g : Graph} {k : Nat} {nd : Node} (hk : g[k]? = some nd) (hn : nd.tag ≠ .input) :
    rank (g.take k) < rank g :=
  filter_take_lt hk (decide_eq_true hn)

theorem inCount_take_lt {g : Graph} {k : Nat} {nd : Node} (hk : g[k]? = some nd) (hn : nd.tag = .input) :
    inCount (g.take k) < inCount g :=
  filter_take_lt hk (decide_eq_true hn)

theorem rank_take_strict {g : Graph} {k k' : Nat} {nd : Node} (hk : g[k]? = some nd) (hn : nd.tag ≠ .input)
    (hlt : k < k') : rank (g.take k) < rank (g.take k') := by
  have h := rank_take_lt ((List.getElem?_take_of_lt hlt).trans hk) hn
  rw [List.take_take, Nat.min_eq_left (Nat.le_of_lt hlt)] at h
  exact h

theorem copySpec_get (ρ : Nat → Nat) {g : Graph} {k : Nat} {nd : Node} (hk : g[k]? = some nd)
    (hn : nd.tag ≠ .input) : (copySpec ρ g)[rank (g.take k)]? = some ⟨nd.tag, nd.deps.map ρ⟩ := by
  conv => lhs; arg 1; rw [split_at hk]
  rw [copySpec_append, copySpec_cons, if_neg hn,
    List.getElem?_append_right (Nat.le_of_eq (copySpec_length ρ _)), copySpec_length, Nat.sub_self]
  rfl

theorem stepBlocks_get (g : Graph) (outId inp base init : Nat) :
    ∀ (fuel i0 j off : Nat), j < fuel → off < stepLen g →
      (stepBlocks g outId inp base init fuel i0)[j * stepLen g + off]?
        = (stepBlock g outId inp base init (i0 + j))[off]? := by
  intro fuel
  induction fuel with
  | zero => exact fun i0 j off hj => absurd hj (Nat.not_lt_zero j)
  | succ fuel ih =>
    intro i0 j off hj hoff
    rw [stepBlocks_succ]
    cases j with
    | zero =>
      rw [Nat.zero_mul, Nat.zero_add,
        List.getElem?_append_left (by rw [stepBlock_length]; exact hoff)]
      rfl
    | succ j =>
      rw [Nat.succ_mul, Nat.add_right_comm,
        List.getElem?_append_right (by rw [stepBlock_length]; exact Nat.le_add_left _ _), stepBlock_length,
        Nat.add_sub_cancel, ih (i0 + 1) j off (Nat.lt_of_succ_lt_succ hj) hoff, Nat.add_assoc, Nat.add_comm 1]

theorem stepBlock_get (g : Graph) (outId inp base init i r : Nat) (hr : r < rank g) :
    (stepBlock g outId inp base init i)[2 + r]? = (copySpec (stepRename g base init i) g)[r]? := by
  unfold stepBlock
  rw [List.append_assoc, List.getElem?_append_right (Nat.le_add_right 2 r)]
  show (copySpec _ g ++ _)[2 + r - 2]? = _
  rw [Nat.add_sub_cancel_left, List.getElem?_append_left (by rw [copySpec_length]; exact hr)]

theorem randomCount_cons (nd : Node) (l : List Node) :
    randomCount (nd :: l) = (if nd.tag = .random then 1 else 0) + randomCount l := by
  unfold randomCount
  by_cases h : nd.tag = .random
  · rw [if_pos h, List.filter_cons_of_pos (p := fun nd : Node => decide (nd.tag = .random)) (decide_eq_true h)]
    exact Nat.add_comm _ 1
  · rw [if_neg h, List.filter_cons_of_neg (by simpa using h), Nat.zero_add]

theorem randomCount_copySpec (ρ : Nat → Nat) (l : List Node) :
    randomCount (copySpec ρ l) = randomCount l := by
  induction l with
  | nil => rfl
  | cons nd rest ih =>
    rw [copySpec_cons, randomCount_cons]
    by_cases h : nd.tag = .input
    · rw [if_pos h, ih, h, if_neg (by decide), Nat.zero_add]
    · rw [if_neg h, randomCount_cons, ih]

theorem randomCount_stepBlocks (g : Graph) (outId inp base init : Nat) :
    ∀ fuel i, randomCount (stepBlocks g outId inp base init fuel i) = fuel * randomCount g := by
  intro fuel
  induction fuel with
  | zero => exact fun i => (Nat.zero_mul _).symm
  | succ fuel ih =>
    intro i
    rw [stepBlocks_succ, stepBlock, randomCount_append, randomCount_append, randomCount_append, ih,
      randomCount_copySpec, Nat.succ_mul, Nat.add_comm]
    exact congrArg (fuel * randomCount g + ·) ((Nat.add_zero _).trans (Nat.zero_add _))

def InCopy (g : Graph) (base j x : Nat) : Prop :=
  base + j * stepLen g + 2 ≤ x ∧ x < base + j * stepLen g + 2 + rank g

theorem succ_mul_le {i j : Nat} (h : i < j) (n : Nat) : i * n + n ≤ j * n := by
  rw [← Nat.succ_mul]
  exact Nat.mul_le_mul_right _ h

theorem inCopy_block {g : Graph} {base i j x : Nat} (h1 : base + i * stepLen g ≤ x)
    (h2 : x < base + i * stepLen g + stepLen g) (hj : InCopy g base j x) : j = i := by
  unfold InCopy at hj
  rcases Nat.lt_trichotomy j i with h | h | h
  · have := succ_mul_le h (stepLen g)
    unfold stepLen at *
    omega
  · exact h
  · have := succ_mul_le h (stepLen g)
    omega

theorem inCopy_disjoint {g : Graph} {base i j x : Nat} (hi : InCopy g base i x) (hj : InCopy g base j x) :
    i = j := by
  refine inCopy_block ?_ ?_ hi
  · exact Nat.le_trans (Nat.le_add_right _ 2) hj.1
  · unfold InCopy stepLen at *
    omega

theorem stepRename_inCopy {g : Graph} {base init i k : Nat} {nd : Node} (hk : g[k]? = some nd)
    (hn : nd.tag ≠ .input) : InCopy g base i (stepRename g base init i k) := by
  unfold InCopy stepRename
  rw [rename_nonInput hk hn]
  exact ⟨Nat.le_add_right _ _, Nat.add_lt_add_left (rank_take_lt hk hn) _⟩

theorem stepRename_ne {g : Graph} {base init i j k k' : Nat} {nd nd' : Node} (hij : i ≠ j)
    (hk : g[k]? = some nd) (hn : nd.tag ≠ .input) (hk' : g[k']? = some nd') (hn' : nd'.tag ≠ .input) :
    stepRename g base init i k ≠ stepRename g base init j k' := fun heq =>
  have h : InCopy g base j (stepRename g base init i k) := heq ▸ stepRename_inCopy hk' hn'
  hij (inCopy_disjoint (stepRename_inCopy hk hn) h)

theorem stepRename_input {g : Graph} {base init i k : Nat} {nd : Node} (h2 : inCount g ≤ 2)
    (hk : g[k]? = some nd) (hn : nd.tag = .input) :
    stepRename g base init i k = stateAt g base init i ∨
      stepRename g base init i k = base + i * stepLen g + 1 := by
  unfold stepRename
  rw [rename_input hk hn]
  match inCount (g.take k), inCount_take_lt hk hn with
  | 0, _ => exact Or.inl rfl
  | 1, _ => exact Or.inr rfl
  | n + 2, h => exact absurd (Nat.lt_of_lt_of_le h h2) (Nat.not_lt.2 (Nat.le_add_left 2 n))

theorem vget_not_inCopy {g : Graph} {base : Nat} (i j : Nat) :
    ¬ InCopy g base j (base + i * stepLen g + 1) := fun h => by
  have := inCopy_block (Nat.le_add_right _ 1) (Nat.add_lt_add_left (by unfold stepLen; omega) _) h
  subst this
  exact absurd h.1 (by omega)

theorem stateAt_not_inCopy {g : Graph} {base init : Nat} (hinit : init < base) (i j : Nat) :
    ¬ InCopy g base j (stateAt g base init i) := fun h => by
  cases i with
  | zero =>
    have h1 : base + j * stepLen g + 2 ≤ init := h.1
    omega
  | succ i =>
    have h' : InCopy g base j (base + i * stepLen g + 2 + rank g) := h
    have := inCopy_block (i := i) (by omega) (by unfold stepLen; omega) h'
    subst this
    exact Nat.lt_irrefl _ h'.2

def callSeq (gid : Nat) (g : Graph) (outId : Nat) : List (List Nat) → St → St
  | [], s => s
  | a :: as, s => callSeq gid g outId as (inlineCall gid g outId a s).1

theorem callSeq_cons (gid : Nat) (g : Graph) (outId : Nat) (a : List Nat) (as : List (List Nat)) (s : St) :
    callSeq gid g outId (a :: as) s = callSeq gid g outId as (inlineCall gid g outId a s).1 := rfl

/-- example body: inputs s, x; one Random node used twice (by two operations); new state and
    output both depend on it -/
def exBody : Graph :=
  [⟨.input, []⟩, ⟨.input, []⟩, ⟨.random, []⟩, ⟨.op 0, [0, 2]⟩, ⟨.op 2, [1, 2]⟩, ⟨.createTuple, [3, 4]⟩]

/-- example start state: main graph inputs (state, vector) already copied -/
def exStart : St := ([⟨.input, []⟩, ⟨.input, []⟩], ⟨[((0, 0), 0), ((0, 1), 1)], []⟩)

theorem exBody_wf : WF exBody := wf_of_forall_lt (by decide)

theorem exStart_clean : Clean 1 exStart.2 := by intro k; rfl

end CCV.InlineFresh
