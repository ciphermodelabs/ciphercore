import CCV.Model.InlineBatch
import CCV.Lemmas.Shape
import CCV.Lemmas.OpsPerm
import CCV.Lemmas.OpsStruct
/-
  Array-layout steps of the batched small-state inliner model (`CCV.InlineBatch`): stacking
  (`vectorToArray`), `permuteAxes` with the rotated permutations, `get`.  Every result is described
  entrywise through `flat` positions.  The three permutations of the model all move one block of
  axes past another (`swapPerm`); `permuteAxes_swap` reads such a permuted array once and for all.
-/
namespace CCV.InlineBatch
open CCV CCV.Shape CCV.Ops CCV.Inline

theorem bits_iff_mem (l : List Nat) : (∀ p, l.getD p 0 < 2) ↔ ∀ x ∈ l, x < 2 := by
  constructor
  · intro h x hx
    obtain ⟨i, hi, rfl⟩ := List.getElem_of_mem hx
    have := h i
    rwa [List.getD_eq_getElem?_getD, List.getElem?_eq_getElem hi] at this
  · exact fun h p => getD_bound l p Nat.zero_lt_two h

theorem vectorToArray_length (rows : List (List Nat)) (n : Nat) (h : ∀ r ∈ rows, r.length = n) :
    (vectorToArray rows).length = rows.length * n := by
  unfold vectorToArray
  induction rows with
  | nil => simp
  | cons a l ih =>
    rw [List.flatMap_cons, List.length_append, ih (fun b hb => h b (List.mem_cons_of_mem _ hb)),
      id, h a List.mem_cons_self, List.length_cons, Nat.add_mul, Nat.one_mul, Nat.add_comm]

theorem vectorToArray_getD (rows : List (List Nat)) (n : Nat) (h : ∀ r ∈ rows, r.length = n)
    (t i : Nat) (ht : t < rows.length) (hi : i < n) :
    (vectorToArray rows).getD (t * n + i) 0 = (rows.getD t []).getD i 0 :=
  flatMap_getD_const rows id n h t i ht hi []

theorem vectorToArray_bits (rows : List (List Nat)) (h : ∀ r ∈ rows, ∀ p, r.getD p 0 < 2) :
    ∀ p, (vectorToArray rows).getD p 0 < 2 := by
  rw [bits_iff_mem]
  intro x hx
  obtain ⟨r, hr, hxr⟩ := List.mem_flatMap.mp hx
  exact (bits_iff_mem r).mp (h r hr) x hxr

theorem permuteAxes_bits (values shape perm out : List Nat) (h : ∀ p, values.getD p 0 < 2) :
    ∀ p, (permuteAxes values shape perm out).getD p 0 < 2 := by
  rw [bits_iff_mem]
  exact permuteAxes_forall (· < 2) Nat.zero_lt_two _ _ _ _ h

theorem get_bits (shape xs sub : List Nat) (h : ∀ p, xs.getD p 0 < 2) :
    ∀ p, (get shape xs sub).getD p 0 < 2 := by
  rw [bits_iff_mem] at h ⊢
  intro x hx
  exact h x (List.mem_of_mem_drop (List.mem_of_mem_take hx))

/-- `OpsPerm.permuteAxes_spec` with `Spec.permuteRel` unfolded: `permuteAxes` read entrywise (flat positions) -/
theorem permuteAxes_read (values shape perm I : List Nat) (hlen : values.length = prod shape)
    (hpos : pos shape) (hpl : perm.length = shape.length) (hnd : perm.Nodup)
    (hlt : ∀ j ∈ perm, j < shape.length) (hI : validIdx I shape) :
    (permuteAxes values shape perm (permShape shape perm)).getD
        (flat (perm.map fun j => I.getD j 0) (permShape shape perm)) 0
      = values.getD (flat I shape) 0 :=
  permuteAxes_spec values shape perm hlen hpos hpl hnd hlt I hI

theorem get_block_length (n : Nat) (rest xs : List Nat) (i : Nat) (hi : i < n)
    (hlen : xs.length = n * prod rest) : (get (n :: rest) xs [i]).length = prod rest := by
  unfold Ops.get
  apply slice_length
  show indexToNumber [i] [n] * prod rest + prod rest ≤ xs.length
  rw [indexToNumber_eq_flat (show validIdx [i] [n] from ⟨hi, trivial⟩), hlen]
  show (i * 1 + 0) * prod rest + prod rest ≤ n * prod rest
  rw [Nat.mul_one, Nat.add_zero, ← Nat.succ_mul]
  exact Nat.mul_le_mul_right _ hi

theorem get_block_read (n : Nat) (rest xs : List Nat) (i : Nat) (hi : i < n) (J : List Nat)
    (hJ : validIdx J rest) :
    (get (n :: rest) xs [i]).getD (flat J rest) 0 = xs.getD (flat (i :: J) (n :: rest)) 0 :=
  get_spec (n :: rest) xs [i] J (Nat.le_add_left 1 _) ⟨hi, trivial⟩ hJ

/-- the permutation that turns the axes `P ++ X ++ Y ++ Q` (block lengths `p x y q`) into
    `P ++ Y ++ X ++ Q` -/
def swapPerm (p x y q : Nat) : List Nat :=
  List.range' 0 p ++ (List.range' (p + x) y ++ (List.range' p x ++ List.range' (p + x + y) q))

theorem swapPerm_perm (p x y q : Nat) : (swapPerm p x y q).Perm (List.range (p + (x + (y + q)))) := by
  rw [List.range_eq_range', ← List.range'_append_1, ← List.range'_append_1, ← List.range'_append_1,
    Nat.zero_add]
  exact (List.perm_append_comm_assoc _ _ _).append_left _

theorem swapPerm_map (L1 L2 L3 L4 : List Nat) :
    ((swapPerm L1.length L2.length L3.length L4.length).map fun j => (L1 ++ (L2 ++ (L3 ++ L4))).getD j 0)
      = L1 ++ (L3 ++ (L2 ++ L4)) := by
  have h1 := map_getD_range'_block (S := L1 ++ (L2 ++ (L3 ++ L4))) (A := []) (L := L1) (a := 0) rfl rfl
  have h2 := map_getD_range'_block (S := L1 ++ (L2 ++ (L3 ++ L4))) (A := L1) (L := L2) rfl rfl
  have h3 := map_getD_range'_block (S := L1 ++ (L2 ++ (L3 ++ L4))) (A := L1 ++ L2) (L := L3) (C := L4)
    (List.append_assoc _ _ _).symm List.length_append
  have h4 := map_getD_range'_block (S := L1 ++ (L2 ++ (L3 ++ L4))) (A := L1 ++ (L2 ++ L3)) (L := L4)
    (C := []) (a := L1.length + L2.length + L3.length)
    (by simp only [List.append_assoc, List.append_nil]) (by simp only [List.length_append, Nat.add_assoc])
  unfold swapPerm
  rw [List.map_append, List.map_append, List.map_append, h1, h2, h3, h4]

theorem permShape_swapPerm (P X Y Q : List Nat) :
    permShape (P ++ (X ++ (Y ++ Q))) (swapPerm P.length X.length Y.length Q.length)
      = P ++ (Y ++ (X ++ Q)) :=
  swapPerm_map P X Y Q

theorem permuteAxes_swap (values : List Nat) {P X Y Q iP iX iY iQ : List Nat}
    (hlen : values.length = prod (P ++ (X ++ (Y ++ Q))))
    (hP : validIdx iP P) (hX : validIdx iX X) (hY : validIdx iY Y) (hQ : validIdx iQ Q) :
    (permuteAxes values (P ++ (X ++ (Y ++ Q))) (swapPerm P.length X.length Y.length Q.length)
        (permShape (P ++ (X ++ (Y ++ Q))) (swapPerm P.length X.length Y.length Q.length))).getD
        (flat (iP ++ (iY ++ (iX ++ iQ))) (P ++ (Y ++ (X ++ Q)))) 0
      = values.getD (flat (iP ++ (iX ++ (iY ++ iQ))) (P ++ (X ++ (Y ++ Q)))) 0 := by
  have hI := validIdx_append hP (validIdx_append hX (validIdx_append hY hQ))
  have hσ := swapPerm_perm P.length X.length Y.length Q.length
  have hl : (P ++ (X ++ (Y ++ Q))).length = P.length + (X.length + (Y.length + Q.length)) := by
    simp only [List.length_append]
  have key := permuteAxes_read values _ _ _ hlen (validIdx_pos hI)
    (by rw [hσ.length_eq, List.length_range, hl])
    (hσ.nodup_iff.mpr List.nodup_range)
    (fun j hj => by rw [hl]; exact List.mem_range.mp (hσ.mem_iff.mp hj)) hI
  have hi := swapPerm_map iP iX iY iQ
  rw [validIdx_length hP, validIdx_length hX, validIdx_length hY, validIdx_length hQ] at hi
  rw [hi, permShape_swapPerm] at key
  rw [permShape_swapPerm]
  exact key

theorem rotl_append_left (l1 l2 : List Nat) {k : Nat} (h : l1.length = k) :
    rotl (l1 ++ l2) k = l2 ++ l1 := by
  unfold rotl
  rw [List.drop_left' h, List.take_left' h]

/-- `rotate_left(2)` of the axes of `initial_state_one_hot` (`[1, D] ++ B`) moves `[1, D]` behind `B` -/
theorem permInitial_eq (r : Nat) : rotl (List.range (r + 2)) 2 = swapPerm 0 2 r 0 := by
  rw [List.range_eq_range', Nat.add_comm r 2, ← List.range'_append_1,
    rotl_append_left _ _ List.length_range']
  rfl

theorem permuteInitial_spec (B : List Nat) (K : Nat) (oh : List Nat) (hlen : oh.length = 2 ^ K * prod B) :
    (permuteInitial B K oh).length = prod (B ++ [1, 2 ^ K]) ∧
    ∀ β j, validIdx β B → j < 2 ^ K →
      (permuteInitial B K oh).getD (flat (β ++ [0, j]) (B ++ [1, 2 ^ K])) 0
        = oh.getD (flat (j :: β) (2 ^ K :: B)) 0 := by
  unfold permuteInitial
  constructor
  · rw [permuteAxes_length, hlen, prod_append]
    simp only [prod, Nat.mul_one, Nat.one_mul]
    exact Nat.mul_comm _ _
  · intro β j hβ hj
    have key := permuteAxes_swap oh (P := []) (X := [1, 2 ^ K]) (Y := B) (Q := []) (iP := [])
      (iX := [0, j]) (iQ := [])
      (by simp only [List.nil_append, List.append_nil, List.cons_append, prod, hlen, Nat.one_mul])
      trivial ⟨Nat.zero_lt_one, hj, trivial⟩ hβ trivial
    simp only [List.nil_append, List.append_nil, List.cons_append, List.length_cons,
      List.length_nil] at key
    simp only [List.length_cons]
    rw [permInitial_eq, key]
    simp only [flat, Nat.zero_mul, Nat.zero_add]

theorem swapAt_append_pair (M : List Nat) (x y : Nat) :
    swapAt (M ++ [x, y]) M.length (M.length + 1) = M ++ [y, x] := by
  unfold swapAt
  simp only [List.getD_eq_getElem?_getD, List.getElem?_append_right (Nat.le_refl _),
    List.getElem?_append_right (Nat.le_add_right _ _), List.set_append_right _ _ (Nat.le_refl _),
    List.set_append_right _ _ (Nat.le_add_right _ _), Nat.sub_self, Nat.add_sub_cancel_left]
  rfl

/-- `rotate_left(1)` followed by the swap of the last two axes, as `masks_arr` does: `[D]` moves behind `B`,
    in front of `[K]` -/
theorem permMasks_eq (r : Nat) :
    swapAt (rotl (List.range (r + 2)) 1) ((rotl (List.range (r + 2)) 1).length - 2)
        ((rotl (List.range (r + 2)) 1).length - 1) = swapPerm 0 1 r 1 := by
  have h0 : rotl (List.range (r + 2)) 1 = List.range' 1 r ++ [r + 1, 0] := by
    rw [List.range_eq_range', List.range'_succ]
    show List.range' 1 (r + 1) ++ [0] = _
    rw [List.range'_concat, List.append_assoc, Nat.one_mul, Nat.add_comm 1 r]
    rfl
  have hl : (List.range' 1 r ++ [r + 1, 0]).length = (List.range' 1 r).length + 2 := List.length_append
  rw [h0, hl, Nat.add_sub_cancel]
  show swapAt _ _ ((List.range' 1 r).length + 1) = _
  rw [swapAt_append_pair]
  unfold swapPerm
  rw [Nat.zero_add, Nat.add_comm 1 r]
  rfl

theorem maskConstants_length (B : List Nat) (K : Nat) : (maskConstants B K).length = 2 ^ K := by
  unfold maskConstants
  rw [List.length_map, List.length_range]

theorem maskConstants_lengths (B : List Nat) (K : Nat) :
    ∀ mc ∈ maskConstants B K, mc.length = prod (B ++ [K]) := by
  intro mc h
  obtain ⟨m, _, rfl⟩ := List.mem_map.mp h
  unfold maskToValue
  rw [List.length_map, List.length_range]

theorem masksArr_spec (B : List Nat) (K : Nat) :
    (masksArr B K).length = prod (B ++ [2 ^ K, K]) ∧
    ∀ β m k, validIdx β B → m < 2 ^ K → k < K →
      (masksArr B K).getD (flat (β ++ [m, k]) (B ++ [2 ^ K, K])) 0
        = ((maskConstants B K).getD m []).getD (flat (β ++ [k]) (B ++ [K])) 0 := by
  have hmc := maskConstants_lengths B K
  have hmcl := maskConstants_length B K
  have harr := vectorToArray_length _ _ hmc
  rw [hmcl] at harr
  unfold masksArr
  constructor
  · rw [permuteAxes_length, harr, prod_append, prod_append]
    simp only [prod]
    rw [Nat.mul_left_comm]
  · intro β m k hβ hm hk
    have key := permuteAxes_swap (vectorToArray (maskConstants B K)) (P := []) (X := [2 ^ K]) (Y := B)
      (Q := [K]) (iP := []) (iX := [m]) (iY := β) (iQ := [k]) harr trivial ⟨hm, trivial⟩ hβ ⟨hk, trivial⟩
    simp only [List.nil_append, List.cons_append, List.length_cons, List.length_nil] at key
    simp only [List.length_cons, List.length_append, List.length_nil]
    rw [permMasks_eq, key]
    simp only [flat]
    rw [vectorToArray_getD _ _ hmc m _ (by rw [hmcl]; exact hm)
      (flat_lt (validIdx_append hβ (show validIdx [k] [K] from ⟨hk, trivial⟩)))]

/-- `[0] ++ rotate_left([1, …], 2)` of `create_mappings`: keep the step axis, move `[D, D]` behind `B` -/
theorem permStack_eq (r : Nat) : 0 :: rotl (List.range' 1 (r + 2)) 2 = swapPerm 1 2 r 0 := by
  rw [Nat.add_comm r 2, ← List.range'_append_1, rotl_append_left _ _ List.length_range']
  rfl

theorem vectorToArray_nested (rows : List (List (List Nat))) (a b : Nat)
    (h : ∀ row ∈ rows, row.length = a ∧ ∀ r ∈ row, r.length = b) :
    (vectorToArray (rows.map vectorToArray)).length = rows.length * (a * b) ∧
    ∀ i m q, i < rows.length → m < a → q < b →
      (vectorToArray (rows.map vectorToArray)).getD (i * (a * b) + (m * b + q)) 0
        = ((rows.getD i []).getD m []).getD q 0 := by
  have hinner : ∀ r ∈ rows.map vectorToArray, r.length = a * b := by
    intro r hr
    obtain ⟨row, hrow, rfl⟩ := List.mem_map.mp hr
    rw [vectorToArray_length _ _ (h row hrow).2, (h row hrow).1]
  refine ⟨by rw [vectorToArray_length _ _ hinner, List.length_map], ?_⟩
  intro i m q hi hm hq
  obtain ⟨h1, h2⟩ := h _ (getD_mem rows i hi [])
  have hlt : m * b + q < a * b := by
    have := Nat.mul_le_mul_right b (show m + 1 ≤ a from hm)
    rw [Nat.add_mul] at this
    omega
  have e : (rows.map vectorToArray).getD i [] = vectorToArray (rows.getD i []) := by
    rw [List.getD_eq_getElem?_getD, List.getD_eq_getElem?_getD, List.getElem?_map,
      List.getElem?_eq_getElem hi]
    rfl
  rw [vectorToArray_getD _ _ hinner i _ (by rw [List.length_map]; exact hi) hlt, e,
    vectorToArray_getD _ _ h2 m q (by rw [h1]; exact hm) hq]

theorem stackMappings_spec (B : List Nat) (K : Nat) (ohs : List (List (List Nat)))
    (hrow : ∀ row ∈ ohs, row.length = 2 ^ K ∧ ∀ oh ∈ row, oh.length = 2 ^ K * prod B) :
    (stackMappings B K ohs).length = ohs.length ∧
    ∀ i, i < ohs.length →
      ((stackMappings B K ohs).getD i []).length = prod (B ++ [2 ^ K, 2 ^ K]) ∧
      ∀ β m j, validIdx β B → m < 2 ^ K → j < 2 ^ K →
        ((stackMappings B K ohs).getD i []).getD (flat (β ++ [m, j]) (B ++ [2 ^ K, 2 ^ K])) 0
          = (((ohs.getD i []).getD m []).getD (flat (j :: β) (2 ^ K :: B)) 0) := by
  obtain ⟨harr, hread⟩ := vectorToArray_nested ohs _ _ hrow
  unfold stackMappings
  generalize vectorToArray (ohs.map vectorToArray) = arr at harr hread ⊢
  generalize 2 ^ K = D at harr hread ⊢
  clear hrow
  simp only [List.nil_append, List.cons_append, List.length_cons, Nat.add_sub_cancel]
  rw [permStack_eq]
  have hsh := permShape_swapPerm [ohs.length] [D, D] B []
  simp only [List.nil_append, List.append_nil, List.cons_append, List.length_cons,
    List.length_nil] at hsh
  rw [hsh]
  refine ⟨by rw [List.length_map, List.length_range], fun i hi => ?_⟩
  rw [getD_map_range _ _ _ hi]
  constructor
  · apply get_block_length _ _ _ _ hi
    rw [permuteAxes_length, harr, prod_append]
    simp only [prod, Nat.mul_one]
    rw [Nat.mul_comm (prod B), Nat.mul_assoc]
  · intro β m j hβ hm hj
    have hmj : validIdx [m, j] [D, D] := ⟨hm, hj, trivial⟩
    have key := permuteAxes_swap arr (P := [ohs.length]) (X := [D, D]) (Y := B) (Q := []) (iP := [i])
      (iQ := []) (by rw [List.append_nil]; exact harr) ⟨hi, trivial⟩ hmj hβ trivial
    simp only [List.nil_append, List.append_nil, List.cons_append, List.length_cons,
      List.length_nil, hsh] at key
    rw [get_block_read _ _ _ _ hi _ (validIdx_append hβ hmj), key]
    exact hread i m _ hi hm (flat_lt (show validIdx (j :: β) (D :: B) from ⟨hj, hβ⟩))

/-! ### the results hold bits only: every entry of a result is an entry of an input or 0 -/

theorem maskToValue_bits (shape : List Nat) (numBits mask : Nat) :
    ∀ p, (maskToValue shape numBits mask).getD p 0 < 2 := by
  rw [bits_iff_mem]
  intro x hx
  obtain ⟨i, _, rfl⟩ := List.mem_map.mp hx
  exact Nat.mod_lt _ Nat.zero_lt_two

set_option linter.unusedVariables false in
theorem permuteInitial_bits (B : List Nat) (K : Nat) (oh : List Nat) (hB : pos B)
    (hlen : oh.length = 2 ^ K * prod B) (hbit : ∀ p, oh.getD p 0 < 2) :
    ∀ p, (permuteInitial B K oh).getD p 0 < 2 :=
  permuteAxes_bits _ _ _ _ hbit

set_option linter.unusedVariables false in
theorem masksArr_bits (B : List Nat) (K : Nat) (hB : pos B) (hK : 1 ≤ K) :
    ∀ p, (masksArr B K).getD p 0 < 2 := by
  apply permuteAxes_bits
  apply vectorToArray_bits
  intro mc h
  obtain ⟨m, _, rfl⟩ := List.mem_map.mp h
  exact maskToValue_bits _ _ _

set_option linter.unusedVariables false in
theorem stackMappings_bits (B : List Nat) (K : Nat) (ohs : List (List (List Nat))) (hB : pos B)
    (hrow : ∀ row ∈ ohs, row.length = 2 ^ K ∧ ∀ oh ∈ row, oh.length = 2 ^ K * prod B)
    (hbit : ∀ row ∈ ohs, ∀ oh ∈ row, ∀ p, oh.getD p 0 < 2) :
    ∀ i, i < ohs.length → ∀ p, ((stackMappings B K ohs).getD i []).getD p 0 < 2 := by
  intro i hi
  unfold stackMappings
  rw [getD_map_range _ _ _ hi]
  apply get_bits
  apply permuteAxes_bits
  apply vectorToArray_bits
  intro a ha
  obtain ⟨row, hr, rfl⟩ := List.mem_map.mp ha
  exact vectorToArray_bits row (hbit row hr)

end CCV.InlineBatch
