import CCV.Lemmas.ApproxArith
import Mathlib.Tactic.Linarith
import Mathlib.Tactic.Ring
/-
  C20, what the Newton reciprocal, the inverse square root and Goldschmidt division share: products
  that do not wrap in the 64-bit types, powers of two, and the two abstract steps of a quadratically
  convergent error sequence.  Also the overflow check of FixedMultiply's debug mode.
-/
namespace CCV.Approx

theorem wrap64_nonneg (sg : Bool) {v : Int} (h0 : 0 ≤ v) (h1 : v < 2 ^ 63) : wrap sg 64 v = v := by
  apply wrap_of_inRange (by decide)
  cases sg
  · exact ⟨h0, by omega⟩
  · exact ⟨by omega, h1⟩

theorem wrap64_signed {v : Int} (h0 : -(2 ^ 63) ≤ v) (h1 : v < 2 ^ 63) : wrap true 64 v = v :=
  wrap_of_inRange (by decide) ⟨h0, h1⟩

theorem mul64 (sg : Bool) {a b : Int} (h0 : 0 ≤ a * b) (h1 : a * b < 2 ^ 63) :
    mul sg 64 a b = a * b :=
  wrap64_nonneg sg h0 h1

theorem sub64 (sg : Bool) {a b : Int} (h0 : 0 ≤ a - b) (h1 : a - b < 2 ^ 63) :
    sub sg 64 a b = a - b :=
  wrap64_nonneg sg h0 h1

theorem mulFixed64 (sg : Bool) {a b : Int} (p : Nat) (h0 : 0 ≤ a * b) (h1 : a * b < 2 ^ 63) :
    mulFixed sg 64 a b p = a * b / 2 ^ p := by
  unfold mulFixed
  rw [mul64 sg h0 h1]
  exact trunc_of_nonneg _ h0

theorem lt_two_pow_log2_succ (x : Nat) : x < 2 ^ (Nat.log2 x + 1) := by
  rcases Nat.eq_zero_or_pos x with h | h
  · subst h; exact Nat.two_pow_pos _
  · exact (Nat.log2_lt (Nat.ne_of_gt h)).mp (Nat.lt_succ_self _)

theorem abs_le_flipNeg_succ (a : Int) : -((flipNeg a : Int) + 1) ≤ a ∧ a ≤ (flipNeg a : Int) := by
  unfold flipNeg
  split <;> constructor <;> omega

/-- `|a| ≤ m` and `|b| ≤ n` give `|a·b| ≤ m·n`: `m·n ∓ a·b` is half a sum of two products of
    non-negative factors. -/
theorem abs_mul_le {a b m n : Int} (ha0 : -m ≤ a) (ha1 : a ≤ m) (hb0 : -n ≤ b) (hb1 : b ≤ n) :
    -(m * n) ≤ a * b ∧ a * b ≤ m * n := by
  have ha0 : 0 ≤ m + a := neg_le_iff_add_nonneg'.mp ha0
  have hb0 : 0 ≤ n + b := neg_le_iff_add_nonneg'.mp hb0
  have ha1 : 0 ≤ m - a := Int.sub_nonneg_of_le ha1
  have hb1 : 0 ≤ n - b := Int.sub_nonneg_of_le hb1
  have hpp : 0 ≤ (m + a) * (n + b) := mul_nonneg ha0 hb0
  have hmm : 0 ≤ (m - a) * (n - b) := mul_nonneg ha1 hb1
  have hpm : 0 ≤ (m + a) * (n - b) := mul_nonneg ha0 hb1
  have hmp : 0 ≤ (m - a) * (n + b) := mul_nonneg ha1 hb0
  exact ⟨by linarith only [hpp, hmm], by linarith only [hpm, hmp]⟩

/-- if `is_multiplication_safe_from_overflow` passes and neither operand is `0` or `-1` (flipped
    value `0`: then the check is vacuous — `a = -1, b = i64::MIN` passes although `a·b = 2^63` wraps),
    then `|a·b| ≤ 2^57`: the product does not wrap and stays a factor 64 away from the 64-bit range. -/
theorem mulSafe_sound {a b : Int} (h : mulSafe a b = true) (hx0 : flipNeg a ≠ 0) (hy0 : flipNeg b ≠ 0) :
    -(2 ^ 57) ≤ a * b ∧ a * b ≤ 2 ^ 57 := by
  have ha := abs_le_flipNeg_succ a
  have hb := abs_le_flipNeg_succ b
  have hx := lt_two_pow_log2_succ (flipNeg a)
  have hy := lt_two_pow_log2_succ (flipNeg b)
  unfold mulSafe at h
  simp only [Bool.or_eq_true, beq_iff_eq, decide_eq_true_eq] at h
  have hl : Nat.log2 (flipNeg a) + Nat.log2 (flipNeg b) < 56 := by
    rcases h with (h | h) | h
    · exact absurd h hx0
    · exact absurd h hy0
    · exact h
  have hprod : (flipNeg a + 1) * (flipNeg b + 1) ≤ 2 ^ 57 :=
    calc (flipNeg a + 1) * (flipNeg b + 1)
        ≤ 2 ^ (Nat.log2 (flipNeg a) + 1) * 2 ^ (Nat.log2 (flipNeg b) + 1) := Nat.mul_le_mul hx hy
      _ = 2 ^ (Nat.log2 (flipNeg a) + 1 + (Nat.log2 (flipNeg b) + 1)) := (Nat.pow_add ..).symm
      _ ≤ 2 ^ 57 := Nat.pow_le_pow_right (by decide) (by omega)
  have hprodZ : ((flipNeg a : Int) + 1) * ((flipNeg b : Int) + 1) ≤ 2 ^ 57 := by
    exact_mod_cast hprod
  have := abs_mul_le ha.1 (by omega) hb.1 (by omega)
  omega

theorem two_pow_succ (c : Nat) : (2:Int) ^ (c + 1) = 2 * 2 ^ c := by
  rw [Int.pow_succ, Int.mul_comm]

theorem two_pow_le_two_pow {m n : Nat} (h : m ≤ n) : (2:Int) ^ m ≤ 2 ^ n :=
  pow_le_pow_right₀ (by decide) h

theorem four_le_two_pow {c : Nat} (h : 2 ≤ c) : (4:Int) ≤ 2 ^ c :=
  two_pow_le_two_pow h

theorem four_pow_eq (c : Nat) : (4:Int) ^ c = 2 ^ c * 2 ^ c := by
  rw [show (4:Int) = 2 * 2 by decide, mul_pow]

/-- the error bound `2^(-2^k)` squares from one iteration to the next. -/
theorem two_pow_two_pow_succ (k : Nat) : (2:Int) ^ (2 ^ (k + 1)) = 2 ^ (2 ^ k) * 2 ^ (2 ^ k) := by
  rw [pow_succ, pow_mul, sq]

theorem four_le_two_pow_two_pow {k : Nat} (hk : 1 ≤ k) : (4:Int) ≤ 2 ^ (2 ^ k) :=
  four_le_two_pow (Nat.pow_le_pow_right (by decide) hk : 2 ^ 1 ≤ 2 ^ k)

/-! ### quadratic convergence with a rounding term, abstractly

  `Q` is the scale (`2^c` or `4^c`), `E = Q·e` the scaled error, `R = Q·ρ` the scaled rounding budget
  of one step, `B = 2^(2^k)`. -/

/-- first step `0 ≤ e ≤ 1/2 ⇒ e' ≤ 1/4 + ρ` of a recurrence `e' ≤ e² + ρ`. -/
theorem quad_first_step {Q R E E' : Int} (hQ : 0 < Q) (hE0 : 0 ≤ E) (hE : 2 * E ≤ Q)
    (hrec : Q * E' ≤ E ^ 2 + Q * R) : 4 * E' ≤ Q + 4 * R := by
  have h : 0 ≤ (Q - 2 * E) * (Q + 2 * E) :=
    mul_nonneg (Int.sub_nonneg_of_le hE) (add_nonneg (le_of_lt hQ) (mul_nonneg (by decide) hE0))
  have : Q * (4 * E') ≤ Q * (Q + 4 * R) := by linarith only [h, hrec]
  exact le_of_mul_le_mul_left this hQ

/-- induction step `e ≤ 1/B + 4ρ ⇒ e' ≤ 1/B² + 4ρ` for a recurrence `e' ≤ e² + ρ` with `ρ ≤ 1/16`,
    `B ≥ 4`, `e ≥ -4ρ`:  `(1/B + 4ρ)² + ρ = 1/B² + 8ρ/B + 16ρ² + ρ ≤ 1/B² + 2ρ + ρ + ρ`. -/
theorem quad_inv_step {Q R B E E' : Int} (hQ : 0 < Q) (hR : 0 ≤ R) (h16 : 16 * R ≤ Q) (hB4 : 4 ≤ B)
    (hlo : -(4 * R) ≤ E) (hhi : B * E ≤ Q + 4 * R * B) (hrec : Q * E' ≤ E ^ 2 + Q * R) :
    (B * B) * E' ≤ Q + 4 * R * (B * B) := by
  have hB0 : 0 ≤ B := le_trans (by decide) hB4
  have hRB : 0 ≤ R * B := mul_nonneg hR hB0
  have hBE : 0 ≤ B * (E + 4 * R) := mul_nonneg hB0 (neg_le_iff_add_nonneg.mp hlo)
  have hsq : 0 ≤ (Q + 4 * R * B - B * E) * (Q + 4 * R * B + B * E) :=
    mul_nonneg (by linarith only [hhi]) (by linarith only [hBE, hQ])
  have hr : 0 ≤ (B * B) * (E ^ 2 + Q * R - Q * E') :=
    mul_nonneg (mul_nonneg hB0 hB0) (by linarith only [hrec])
  have ha : 0 ≤ (Q * (R * B)) * (B - 4) := mul_nonneg (mul_nonneg (le_of_lt hQ) hRB) (Int.sub_nonneg_of_le hB4)
  have hb : 0 ≤ (R * B * B) * (Q - 16 * R) := mul_nonneg (mul_nonneg hRB hB0) (Int.sub_nonneg_of_le h16)
  have : Q * (B * B * E') ≤ Q * (Q + 4 * R * (B * B)) := by linarith only [hsq, hr, ha, hb]
  exact le_of_mul_le_mul_left this hQ

end CCV.Approx
