import CCV.Model.Ops
/-
  Kernel lemmas: the modular kernels of bytes.rs (`add_u128`, `multiply_u128`,
  `subtract_vectors_u128`, their u64 variants, and the dot / sum folds) compute integer
  arithmetic modulo `2^w` on the integers denoted by the stored residues.
-/
namespace CCV.Ops
open CCV

theorem bits_le (st : ST) : st.bits ≤ 128 := by cases st <;> decide

theorem pow_bits_dvd (st : ST) : 2 ^ st.bits ∣ 2 ^ 128 := Nat.pow_dvd_pow 2 (bits_le st)

theorem pow_bits_pos (st : ST) : 0 < 2 ^ st.bits := Nat.pow_pos (by decide)

theorem mod128_mod (st : ST) (x : Nat) : x % 2 ^ 128 % 2 ^ st.bits = x % 2 ^ st.bits :=
  Nat.mod_mod_of_dvd x (pow_bits_dvd st)

theorem pow_bits_eq (st : ST) : 2 ^ st.bits = 2 * 2 ^ (st.bits - 1) := by
  cases st <;> rfl

theorem add_signMask_mod (st : ST) (r : Nat) :
    (r + (2 ^ 128 - 2 ^ st.bits)) % 2 ^ st.bits = r % 2 ^ st.bits := by
  obtain ⟨k, hk⟩ := Nat.dvd_sub (pow_bits_dvd st) (Nat.dvd_refl _)
  rw [hk, Nat.add_mul_mod_self_left]

theorem ext_mod (st : ST) (r : Nat) : ext st r % 2 ^ st.bits = r % 2 ^ st.bits := by
  unfold ext
  split
  · exact add_signMask_mod st r
  · rfl

theorem toInt_emod (st : ST) (r : Nat) :
    st.toInt r % ((2 ^ st.bits : Nat) : Int) = ((r % 2 ^ st.bits : Nat) : Int) := by
  have h : ((r % 2 ^ st.bits : Nat) : Int) % ((2 ^ st.bits : Nat) : Int)
      = ((r % 2 ^ st.bits : Nat) : Int) := by
    rw [← Int.natCast_emod, Nat.mod_mod]
  unfold ST.toInt
  split
  · rw [Int.sub_emod_right, h]
  · exact h

theorem ofInt_natCast (st : ST) (n : Nat) : st.ofInt (n : Int) = n % 2 ^ st.bits := by
  unfold ST.ofInt
  rw [← Int.natCast_emod, Int.toNat_natCast]

example : ext .i8 200 = 2 ^ 128 - 56 ∧ ST.i8.toInt 200 = -56 ∧ ST.i8.ofInt (-56) = 200 := by decide

theorem ofInt_congr (st : ST) (x y : Int)
    (h : x % ((2 ^ st.bits : Nat) : Int) = y % ((2 ^ st.bits : Nat) : Int)) :
    st.ofInt x = st.ofInt y := by
  unfold ST.ofInt; rw [h]

theorem low_eq_ofInt (st : ST) (n : Nat) : low st n = st.ofInt (n : Int) :=
  (ofInt_natCast st n).symm

theorem add_congr (W a a' b b' : Int) (ha : a % W = a' % W) (hb : b % W = b' % W) :
    (a + b) % W = (a' + b') % W := by
  rw [Int.add_emod, ha, hb, ← Int.add_emod]

theorem sub_congr (W a a' b b' : Int) (ha : a % W = a' % W) (hb : b % W = b' % W) :
    (a - b) % W = (a' - b') % W := by
  rw [Int.sub_emod, ha, hb, ← Int.sub_emod]

theorem mul_congr (W a a' b b' : Int) (ha : a % W = a' % W) (hb : b % W = b' % W) :
    (a * b) % W = (a' * b') % W := by
  rw [Int.mul_emod, ha, hb, ← Int.mul_emod]

theorem toInt_ext (st : ST) (r : Nat) :
    st.toInt r % ((2 ^ st.bits : Nat) : Int) = ((ext st r : Nat) : Int) % ((2 ^ st.bits : Nat) : Int) := by
  rw [toInt_emod, ← ext_mod, Int.natCast_emod]

theorem toInt_nat (st : ST) (r : Nat) :
    st.toInt r % ((2 ^ st.bits : Nat) : Int) = (r : Int) % ((2 ^ st.bits : Nat) : Int) := by
  rw [toInt_emod, Int.natCast_emod]

theorem bit_toInt (r : Nat) : ST.bit.toInt r = ((r % 2 : Nat) : Int) := by
  simp only [ST.toInt, ST.signed, ST.bits, Bool.false_eq_true, false_and, if_false, Nat.pow_one]

theorem modulus_cases (st : ST) : modulus st = none ∨ modulus st = some (2 ^ st.bits) := by
  unfold modulus; split
  · exact Or.inl rfl
  · exact Or.inr rfl

theorem addU128_mod (st : ST) (x y : Nat) :
    addU128 x y (modulus st) % 2 ^ st.bits = (x + y) % 2 ^ st.bits := by
  rcases modulus_cases st with h | h <;> rw [h] <;> simp only [addU128]
  · exact mod128_mod st _
  · rw [Nat.mod_mod]; exact mod128_mod st _

theorem mulU128_mod (st : ST) (x y : Nat) :
    mulU128 x y (modulus st) % 2 ^ st.bits = (x * y) % 2 ^ st.bits := by
  rcases modulus_cases st with h | h <;> rw [h] <;> simp only [mulU128]
  · exact mod128_mod st _
  · rw [Nat.mod_mod]; exact mod128_mod st _

theorem subU128_mod (st : ST) (x y : Nat) :
    subU128 x y (modulus st) % 2 ^ st.bits = (x + (2 ^ 128 - y % 2 ^ 128)) % 2 ^ st.bits := by
  rcases modulus_cases st with h | h <;> rw [h] <;> simp only [subU128]
  · exact mod128_mod st _
  · rw [Nat.mod_mod]; exact mod128_mod st _

theorem cast_congr (W n k : Nat) (h : n % W = k % W) : (n : Int) % (W : Int) = (k : Int) % (W : Int) := by
  rw [← Int.natCast_emod, ← Int.natCast_emod, h]

theorem addU128_emod (st : ST) (x y : Nat) :
    ((addU128 x y (modulus st) : Nat) : Int) % ((2 ^ st.bits : Nat) : Int)
      = ((x : Int) + y) % ((2 ^ st.bits : Nat) : Int) := by
  rw [cast_congr _ _ _ (addU128_mod st x y), Int.natCast_add]

theorem mulU128_emod (st : ST) (x y : Nat) :
    ((mulU128 x y (modulus st) : Nat) : Int) % ((2 ^ st.bits : Nat) : Int)
      = ((x : Int) * y) % ((2 ^ st.bits : Nat) : Int) := by
  rw [cast_congr _ _ _ (mulU128_mod st x y), Int.natCast_mul]

theorem sub_mod_cast (a b m : Nat) (hm : 0 < m) :
    (((a + (m - b % m)) % m : Nat) : Int) = ((a : Int) - b) % (m : Int) := by
  rw [Int.natCast_emod, Int.natCast_add, Int.ofNat_sub (Nat.le_of_lt (Nat.mod_lt _ hm)),
    Int.natCast_emod]
  have h1 : (m : Int) % (m : Int) = 0 % (m : Int) := by rw [Int.emod_self, Int.zero_emod]
  have h2 : ((b : Int) % (m : Int)) % (m : Int) = (b : Int) % (m : Int) := Int.emod_emod_of_dvd _ (Int.dvd_refl _)
  rw [add_congr _ _ _ _ _ rfl (sub_congr _ _ _ _ _ h1 h2)]
  congr 1; omega

theorem subU128_emod (st : ST) (x y : Nat) :
    ((subU128 x y (modulus st) : Nat) : Int) % ((2 ^ st.bits : Nat) : Int)
      = ((x : Int) - y) % ((2 ^ st.bits : Nat) : Int) := by
  have hd : ((2 ^ st.bits : Nat) : Int) ∣ ((2 ^ 128 : Nat) : Int) :=
    Int.natCast_dvd_natCast.mpr (pow_bits_dvd st)
  rw [cast_congr _ _ _ (subU128_mod st x y), ← Int.emod_emod_of_dvd _ hd, ← Int.natCast_emod,
    sub_mod_cast x y (2 ^ 128) (by decide), Int.emod_emod_of_dvd _ hd]

theorem add_kernel (st : ST) (a b : Nat) :
    low st (addU128 (ext st a) (ext st b) (modulus st)) = st.ofInt (st.toInt a + st.toInt b) := by
  rw [low_eq_ofInt]
  apply ofInt_congr
  rw [addU128_emod]
  exact (add_congr _ _ _ _ _ (toInt_ext st a) (toInt_ext st b)).symm

theorem sub_kernel (st : ST) (a b : Nat) :
    low st (subU128 (ext st a) (ext st b) (modulus st)) = st.ofInt (st.toInt a - st.toInt b) := by
  rw [low_eq_ofInt]
  apply ofInt_congr
  rw [subU128_emod]
  exact (sub_congr _ _ _ _ _ (toInt_ext st a) (toInt_ext st b)).symm

theorem mul_kernel (st : ST) (a b : Nat) :
    low st (mulU128 (ext st a) (ext st b) (modulus st)) = st.ofInt (st.toInt a * st.toInt b) := by
  rw [low_eq_ofInt]
  apply ofInt_congr
  rw [mulU128_emod]
  exact (mul_congr _ _ _ _ _ (toInt_ext st a) (toInt_ext st b)).symm

/-- MixedMultiply: second operand is a bit, not sign-extended -/
theorem mixed_mul_kernel (st : ST) (a b : Nat) :
    low st (mulU128 (ext st a) b (modulus st)) = st.ofInt (st.toInt a * (b : Int)) := by
  rw [low_eq_ofInt]
  apply ofInt_congr
  rw [mulU128_emod]
  exact (mul_congr _ _ _ _ _ (toInt_ext st a) rfl).symm

example : low .i8 (subU128 (ext .i8 3) (ext .i8 5) (modulus .i8)) = 254 := by decide

example : low .u128 (mulU128 (ext .u128 (2 ^ 64 + 3)) (ext .u128 (2 ^ 64 + 5)) (modulus .u128))
    = 8 * 2 ^ 64 + 15 := by decide

example : low .i128 (mulU128 (ext .i128 (2 ^ 128 - 1)) (ext .i128 (2 ^ 128 - 1)) (modulus .i128)) = 1 := by
  decide

example : low .i16 (addU128 (ext .i16 65535) (ext .i16 65535) (modulus .i16)) = 65534 := by decide

example : low .i32 (mulU128 (ext .i32 (2 ^ 32 - 7)) 1 (modulus .i32)) = 2 ^ 32 - 7 := by decide

theorem addU64_some (a b m : Nat) : addU64 a b (some m) = (((a : Int) + b) % m).toNat := by
  simp only [addU64]
  rw [← Int.natCast_add, ← Int.natCast_emod, Int.toNat_natCast]

theorem addU64_none (a b : Nat) :
    addU64 a b none = (((a : Int) + b) % ((2 ^ 64 : Nat) : Int)).toNat := by
  simp only [addU64]
  rw [← Int.natCast_add, ← Int.natCast_emod, Int.toNat_natCast]

theorem mulU64_some (a b m : Nat) : mulU64 a b (some m) = (((a : Int) * b) % m).toNat := by
  simp only [mulU64]
  rw [← Int.natCast_mul, ← Int.natCast_emod, Int.toNat_natCast]

theorem mulU64_none (a b : Nat) :
    mulU64 a b none = (((a : Int) * b) % ((2 ^ 64 : Nat) : Int)).toNat := by
  simp only [mulU64]
  rw [← Int.natCast_mul, ← Int.natCast_emod, Int.toNat_natCast]

/-- the `m - v % m` subtraction is subtraction mod m (also when `v % m = 0`) -/
theorem subU64_some (a b m : Nat) (hm : 0 < m) :
    subU64 a b (some m) = (((a : Int) - b) % m).toNat := by
  simp only [subU64]
  rw [← sub_mod_cast a b m hm, Int.toNat_natCast]

theorem subU64_none (a b : Nat) :
    subU64 a b none = (((a : Int) - b) % ((2 ^ 64 : Nat) : Int)).toNat := by
  simp only [subU64]
  rw [← sub_mod_cast a b (2 ^ 64) (by decide), Int.toNat_natCast]

example : subU64 5 14 (some 7) = 5 := by decide

example : subU64 5 14 none = 2 ^ 64 - 9 := by decide

example : addU64 (2 ^ 64 - 1) 2 none = 1 ∧ addU64 6 5 (some 7) = 4 := by decide

example : mulU64 (2 ^ 63) 2 none = 0 ∧ mulU64 6 5 (some 7) = 2 := by decide

theorem foldl_emod {α : Type} (W : Int) (g : Nat → α → Nat) (v : α → Int)
    (hg : ∀ r a, ((g r a : Nat) : Int) % W = ((r : Int) + v a) % W) (l : List α) (acc : Nat) :
    ((l.foldl g acc : Nat) : Int) % W = ((acc : Int) + (l.map v).sum) % W := by
  induction l generalizing acc with
  | nil => simp only [List.foldl_nil, List.map_nil, List.sum_nil, Int.add_zero]
  | cons a l ih =>
    simp only [List.map_cons, List.foldl_cons, List.sum_cons]
    rw [ih, ← Int.add_assoc]
    exact add_congr _ _ _ _ _ (hg acc a) rfl

theorem low_foldl (st : ST) {α : Type} (g : Nat → α → Nat) (v : α → Int)
    (hg : ∀ r a, ((g r a : Nat) : Int) % ((2 ^ st.bits : Nat) : Int)
      = ((r : Int) + v a) % ((2 ^ st.bits : Nat) : Int)) (l : List α) :
    low st (l.foldl g 0) = st.ofInt ((l.map v).sum) := by
  rw [low_eq_ofInt]
  apply ofInt_congr
  rw [foldl_emod _ g v hg, Int.natCast_zero, Int.zero_add]

theorem dotFold_spec (st : ST) (ps : List (Nat × Nat)) :
    low st (dotFold addU128 mulU128 (modulus st) (ps.map fun p => (ext st p.1, ext st p.2)))
      = st.ofInt ((ps.map fun p => st.toInt p.1 * st.toInt p.2).sum) := by
  unfold dotFold
  rw [List.foldl_map]
  apply low_foldl
  intro r p
  rw [addU128_emod]
  apply add_congr _ _ _ _ _ rfl
  rw [mulU128_emod]
  exact (mul_congr _ _ _ _ _ (toInt_ext st p.1) (toInt_ext st p.2)).symm

theorem sumFold_spec (st : ST) (xs : List Nat) :
    low st ((xs.map (ext st)).foldl (fun res v => addU128 res v (modulus st)) 0)
      = st.ofInt ((xs.map st.toInt).sum) := by
  rw [List.foldl_map]
  apply low_foldl
  intro r x
  rw [addU128_emod]
  exact add_congr _ _ _ _ _ rfl (toInt_ext st x).symm

theorem foldl_lt {α : Type} (f : Nat → α → Nat) (m : Nat) (hf : ∀ r x, f r x < m) (l : List α)
    (acc : Nat) (hacc : acc < m) : l.foldl f acc < m := by
  induction l generalizing acc with
  | nil => exact hacc
  | cons x l ih => exact ih _ (hf _ _)

theorem toNat_emod_of_lt (n m : Nat) (x : Int) (hn : n < m) (h : (n : Int) % (m : Int) = x % (m : Int)) :
    n = (x % (m : Int)).toNat := by
  rw [← h, ← Int.natCast_emod, Int.toNat_natCast, Nat.mod_eq_of_lt hn]

theorem dotU64_fold_some (ps : List (Nat × Nat)) (m : Nat) (hm : 0 < m) :
    dotFold addU64 mulU64 (some m) ps = (((ps.map fun p => (p.1 : Int) * p.2).sum) % m).toNat := by
  unfold dotFold
  apply toNat_emod_of_lt
  · exact foldl_lt _ m (fun r x => Nat.mod_lt _ hm) ps 0 hm
  · rw [foldl_emod (m : Int) _ (fun p => (p.1 : Int) * p.2), Int.natCast_zero, Int.zero_add]
    intro r p
    simp only [addU64, mulU64]
    rw [Int.natCast_emod, Int.emod_emod_of_dvd _ (Int.dvd_refl _), Int.natCast_add]
    apply add_congr _ _ _ _ _ rfl
    rw [Int.natCast_emod, Int.emod_emod_of_dvd _ (Int.dvd_refl _), Int.natCast_mul]

theorem sumU64_some (xs : List Nat) (m : Nat) (hm : 0 < m) :
    sumU64 xs (some m) = (((xs.map fun (x : Nat) => (x : Int)).sum) % m).toNat := by
  unfold sumU64
  apply toNat_emod_of_lt
  · exact foldl_lt _ m (fun r x => Nat.mod_lt _ hm) xs 0 hm
  · rw [foldl_emod (m : Int) _ (fun (x : Nat) => (x : Int)), Int.natCast_zero, Int.zero_add]
    intro r x
    simp only [addU64]
    rw [Int.natCast_emod, Int.emod_emod_of_dvd _ (Int.dvd_refl _), Int.natCast_add]

example : low .i8 (dotFold addU128 mulU128 (modulus .i8)
    ([(255, 2), (3, 252)].map fun p => (ext .i8 p.1, ext .i8 p.2))) = 242 := by decide

example : low .u128 (dotFold addU128 mulU128 (modulus .u128)
    ([(2 ^ 64, 2 ^ 63), (2 ^ 127, 1)].map fun p => (ext .u128 p.1, ext .u128 p.2))) = 0 := by decide

example : low .i16 (([65535, 65535, 5].map (ext .i16)).foldl
    (fun res v => addU128 res v (modulus .i16)) 0) = 3 := by decide

example : dotFold addU64 mulU64 (some 7) [(3, 4), (5, 6)] = 0 := by decide

example : sumU64 [5, 6, 10] (some 7) = 0 := by decide

end CCV.Ops
