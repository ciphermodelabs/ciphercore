import CCV.Model.Instantiate
/-!
  Names of `CCV.Model.Instantiate` (Part 1) can be read back.  A name is the rendering of a list of
  pieces; two instances of one format string are told apart value by value (`render_sep`: digits end
  at a non-digit, `true`/`false` and quoted strings delimit themselves), and the format strings of a
  table are told apart by the literal text they begin with (`formats_prefix_free`).  The library's
  table enters through `shape_opSpec`, one finite check, `formats_ok`, and `opSpec_inj`.  The second half does the
  same for the printing of scalar and array types.
-/
namespace CCV.Instantiate

theorem span_unique {α : Type} {p : α → Bool} {l₁ l₂ x y : List α}
    (h₁ : ∀ a ∈ l₁, p a = true) (h₂ : ∀ a ∈ l₂, p a = true)
    (hx : ∀ c ∈ x.head?, p c = false) (hy : ∀ c ∈ y.head?, p c = false)
    (h : l₁ ++ x = l₂ ++ y) : l₁ = l₂ ∧ x = y := by
  -- one block is the other followed by `c :: a`; `c` is in a block and begins `x` or `y`
  rcases List.append_eq_append_iff.1 h with ⟨a, rfl, rfl⟩ | ⟨a, rfl, rfl⟩
  · cases a with
    | nil => simp
    | cons c a =>
      have := hx c rfl
      rw [h₂ c (by simp)] at this
      cases this
  · cases a with
    | nil => simp
    | cons c a =>
      have := hy c rfl
      rw [h₁ c (by simp)] at this
      cases this

theorem stops_cons {α : Type} {p : α → Bool} {c : α} {z : List α} (h : p c = false) :
    ∀ c' ∈ (c :: z).head?, p c' = false := by
  intro c' hc
  cases hc
  exact h

theorem toDigits_inj {a b : Nat} (h : Nat.toDigits 10 a = Nat.toDigits 10 b) : a = b := by
  have := congrArg (fun l => Nat.ofDigitChars 10 l 0) h
  simpa [Nat.ofDigitChars_ten_toDigits] using this

theorem toDigits_isDigit {n : Nat} {c : Char} (h : c ∈ Nat.toDigits 10 n) : c.isDigit = true :=
  Nat.isDigit_of_mem_toDigits (by decide) (by decide) h

theorem digits_sep {m n : Nat} {x y : List Char}
    (hx : ∀ c ∈ x.head?, c.isDigit = false) (hy : ∀ c ∈ y.head?, c.isDigit = false)
    (h : Nat.toDigits 10 m ++ x = Nat.toDigits 10 n ++ y) : m = n ∧ x = y := by
  have := span_unique (fun _ => toDigits_isDigit) (fun _ => toDigits_isDigit) hx hy h
  exact ⟨toDigits_inj this.1, this.2⟩

theorem showBool_sep {b b' : Bool} {x y : List Char}
    (h : showBool b ++ x = showBool b' ++ y) : b = b' ∧ x = y := by
  cases b <;> cases b' <;> simp [showBool] at h ⊢ <;> exact h

theorem escChar_eq (c : Char) : escChar c = if c = '"' ∨ c = '\\' then ['\\', c] else [c] := by
  unfold escChar
  by_cases h1 : c = '"'
  · subst h1; rfl
  · by_cases h2 : c = '\\'
    · subst h2; rfl
    · simp only [h1, h2, if_false, false_or]

theorem escChar_sep {c c' : Char} {x y : List Char} (h : escChar c ++ x = escChar c' ++ y) :
    c = c' ∧ x = y := by
  rw [escChar_eq, escChar_eq] at h
  by_cases hc : c = '"' ∨ c = '\\' <;> by_cases hc' : c' = '"' ∨ c' = '\\'
  · simp only [if_pos hc, if_pos hc', List.cons_append, List.nil_append, List.cons.injEq, true_and] at h
    exact h
  · simp only [if_pos hc, if_neg hc', List.cons_append, List.nil_append, List.cons.injEq] at h
    exact absurd (.inr h.1.symm) hc'
  · simp only [if_neg hc, if_pos hc', List.cons_append, List.nil_append, List.cons.injEq] at h
    exact absurd (.inr h.1) hc
  · simp only [if_neg hc, if_neg hc', List.cons_append, List.nil_append, List.cons.injEq] at h
    exact h

theorem escChar_ne_quote {c : Char} {x y : List Char} : escChar c ++ x ≠ '"' :: y := by
  rw [escChar_eq]
  intro h
  split at h
  · cases h
  · rename_i hc
    simp only [List.cons_append, List.nil_append, List.cons.injEq] at h
    exact hc (.inl h.1)

theorem escape_sep : ∀ {s s' x y : List Char},
    escape s ++ '"' :: x = escape s' ++ '"' :: y → s = s' ∧ x = y
  | [], [], _, _, h => ⟨rfl, (List.cons.inj h).2⟩
  | [], _ :: _, _, _, h => by
    rw [escape, escape, List.nil_append, List.append_assoc] at h
    exact absurd h.symm escChar_ne_quote
  | _ :: _, [], _, _, h => by
    rw [escape, escape, List.nil_append, List.append_assoc] at h
    exact absurd h escChar_ne_quote
  | c :: s, c' :: s', x, y, h => by
    rw [escape, escape, List.append_assoc, List.append_assoc] at h
    obtain ⟨rfl, h'⟩ := escChar_sep h
    obtain ⟨rfl, rfl⟩ := escape_sep h'
    exact ⟨rfl, rfl⟩

/-- a piece with its value forgotten: what the format string says at this position -/
def Piece.blank : Piece → Piece
  | .lit s => .lit s
  | .nat _ => .nat 0
  | .bool _ => .bool false
  | .str _ => .str []

/-- the format string of a list of pieces -/
def shape (ps : List Piece) : List Piece := ps.map Piece.blank

def nonDigitNext : List Piece → Bool
  | .lit (c :: _) :: _ => !c.isDigit
  | _ => false

def delimited : List Piece → Bool
  | [] => true
  | .nat _ :: ps => nonDigitNext ps && delimited ps
  | _ :: ps => delimited ps

theorem nonDigitNext_render {ps : List Piece} (h : nonDigitNext (shape ps) = true) (x : List Char) :
    ∀ c ∈ (render ps ++ x).head?, c.isDigit = false := by
  match ps, h with
  | .lit (c :: s) :: ps, h =>
    intro c' hc'
    cases hc'
    simpa [shape, Piece.blank, nonDigitNext] using h

theorem render_sep : ∀ {ps qs : List Piece} {x y : List Char}, shape ps = shape qs →
    delimited (shape ps) = true → render ps ++ x = render qs ++ y → ps = qs ∧ x = y
  | [], [], _, _, _, _, h => ⟨rfl, h⟩
  | p :: ps, q :: qs, x, y, hs, hd, h => by
    simp only [shape, List.map_cons, List.cons.injEq] at hs
    obtain ⟨hpq, hs⟩ := hs
    change shape ps = shape qs at hs
    have ih := @render_sep ps qs x y hs
    simp only [render, List.append_assoc] at h
    cases p <;> cases q <;> simp only [Piece.blank, reduceCtorEq, Piece.lit.injEq] at hpq
    · subst hpq
      obtain ⟨rfl, rfl⟩ := ih hd (List.append_cancel_left h)
      exact ⟨rfl, rfl⟩
    · simp only [shape, List.map_cons, Piece.blank, delimited, Bool.and_eq_true] at hd
      obtain ⟨rfl, h'⟩ := digits_sep (nonDigitNext_render hd.1 x)
        (nonDigitNext_render (by rw [← hs]; exact hd.1) y) h
      obtain ⟨rfl, rfl⟩ := ih hd.2 h'
      exact ⟨rfl, rfl⟩
    · obtain ⟨rfl, h'⟩ := showBool_sep h
      obtain ⟨rfl, rfl⟩ := ih hd h'
      exact ⟨rfl, rfl⟩
    · simp only [Piece.render, List.cons_append, List.append_assoc, List.cons.injEq, true_and,
        List.nil_append] at h
      obtain ⟨rfl, h'⟩ := escape_sep h
      obtain ⟨rfl, rfl⟩ := ih hd h'
      exact ⟨rfl, rfl⟩

/-- the beginning of a name that tells the format strings of a table apart: the first literal
    text, with the `:` that follows the name if the literal is all of it (otherwise `Not` would
    begin `NotEqual`) -/
def stem : List Piece → List Char
  | [.lit s] => s ++ [':']
  | .lit s :: _ => s
  | _ => []

theorem stem_prefix : ∀ (ps : List Piece) (r : List Char), stem (shape ps) <+: render ps ++ ':' :: r
  | [], _ => List.nil_prefix
  | [.lit s], r => ⟨r, by simp [shape, Piece.blank, stem, render, Piece.render]⟩
  | .lit s :: p :: ps, r =>
    ⟨render (p :: ps) ++ ':' :: r, by simp [shape, Piece.blank, stem, render, Piece.render]⟩
  | .nat _ :: _, _ => List.nil_prefix
  | .bool _ :: _, _ => List.nil_prefix
  | .str _ :: _, _ => List.nil_prefix

def Apart (f g : List Piece) : Prop := ¬ stem f <+: stem g ∧ ¬ stem g <+: stem f

instance : DecidableRel Apart := fun _ _ => inferInstanceAs (Decidable (_ ∧ _))

/-- **Names built from a table of format strings are uniquely readable before `:`**, if in every
    format string each number is delimited and no stem begins another: a name followed by `:`
    determines the format string (by the stem), then the values and what follows (`render_sep`). -/
theorem formats_prefix_free {F : List (List Piece)} (hd : ∀ f ∈ F, delimited f = true)
    (hF : F.Pairwise Apart) {i j : Nat} {ps qs : List Piece} (hp : F[i]? = some (shape ps))
    (hq : F[j]? = some (shape qs)) {r r' : List Char}
    (h : render ps ++ ':' :: r = render qs ++ ':' :: r') : i = j ∧ ps = qs ∧ r = r' := by
  obtain ⟨hi, hpi⟩ := List.getElem?_eq_some_iff.1 hp
  obtain ⟨hj, hqj⟩ := List.getElem?_eq_some_iff.1 hq
  have apart := List.pairwise_iff_getElem.1 hF
  have stems := List.prefix_or_prefix_of_prefix (stem_prefix ps r) (h ▸ stem_prefix qs r')
  rcases Nat.lt_trichotomy i j with hij | rfl | hij
  · have := apart i j hi hj hij
    rw [hpi, hqj] at this
    exact absurd stems (not_or.2 this)
  · obtain ⟨rfl, h'⟩ := render_sep (hpi.symm.trans hqj) (hd _ (List.mem_of_getElem? hp)) h
    exact ⟨rfl, rfl, (List.cons.inj h').2⟩
  · have := apart j i hj hi hij
    rw [hpi, hqj] at this
    exact absurd stems.symm (not_or.2 this)

/-- one operation of each family, in the order of the constructors -/
def reps : List LibOp :=
  [.not, .or, .binaryAdd false, .aucScore 0 false, .clip2K 0, .greaterThan false, .notEqual,
   .lessThan false, .lessThanEqualTo false, .greaterThanEqualTo false, .equal, .min false,
   .max false, .mux, .longDivision false, .newtonInversion 0 0, .inverseSqrt 0 0,
   .goldschmidtDivision 0 0, .taylorExponent 0 0, .approxExponent 0, .approxGelu 0 0,
   .approxGeluDerivative 0 0, .approxSigmoid 0 0, .fixedMultiply 0 false, .sortByIntegerKey [],
   .lowMC 0 0 false]

def formats : List (List Piece) := reps.map fun op => shape (opSpec op)

theorem shape_opSpec (op : LibOp) : formats[op.ctorIdx]? = some (shape (opSpec op)) := by
  cases op <;> rfl

/-! string literals as character lists (cheap for the kernel: `String.toList_ofList`) -/
theorem lit_0 : "Not".toList = ['N', 'o', 't'] := String.toList_ofList
theorem lit_1 : "Or".toList = ['O', 'r'] := String.toList_ofList
theorem lit_2 : "BinaryAdd(overflow_bit=".toList = ['B', 'i', 'n', 'a', 'r', 'y', 'A', 'd', 'd', '(', 'o', 'v', 'e', 'r', 'f', 'l', 'o', 'w', '_', 'b', 'i', 't', '='] := String.toList_ofList
theorem lit_3 : ")".toList = [')'] := String.toList_ofList
theorem lit_4 : "AucScore(fp=FixedPrecisionConfig { fractional_bits: ".toList = ['A', 'u', 'c', 'S', 'c', 'o', 'r', 'e', '(', 'f', 'p', '=', 'F', 'i', 'x', 'e', 'd', 'P', 'r', 'e', 'c', 'i', 's', 'i', 'o', 'n', 'C', 'o', 'n', 'f', 'i', 'g', ' ', '{', ' ', 'f', 'r', 'a', 'c', 't', 'i', 'o', 'n', 'a', 'l', '_', 'b', 'i', 't', 's', ':', ' '] := String.toList_ofList
theorem lit_5 : ", debug: ".toList = [',', ' ', 'd', 'e', 'b', 'u', 'g', ':', ' '] := String.toList_ofList
theorem lit_6 : " })".toList = [' ', '}', ')'] := String.toList_ofList
theorem lit_7 : "Clip(".toList = ['C', 'l', 'i', 'p', '('] := String.toList_ofList
theorem lit_8 : "GreaterThan(signed_comparison=".toList = ['G', 'r', 'e', 'a', 't', 'e', 'r', 'T', 'h', 'a', 'n', '(', 's', 'i', 'g', 'n', 'e', 'd', '_', 'c', 'o', 'm', 'p', 'a', 'r', 'i', 's', 'o', 'n', '='] := String.toList_ofList
theorem lit_9 : "NotEqual".toList = ['N', 'o', 't', 'E', 'q', 'u', 'a', 'l'] := String.toList_ofList
theorem lit_10 : "LessThan(signed_comparison=".toList = ['L', 'e', 's', 's', 'T', 'h', 'a', 'n', '(', 's', 'i', 'g', 'n', 'e', 'd', '_', 'c', 'o', 'm', 'p', 'a', 'r', 'i', 's', 'o', 'n', '='] := String.toList_ofList
theorem lit_11 : "LessThanEqualTo(signed_comparison=".toList = ['L', 'e', 's', 's', 'T', 'h', 'a', 'n', 'E', 'q', 'u', 'a', 'l', 'T', 'o', '(', 's', 'i', 'g', 'n', 'e', 'd', '_', 'c', 'o', 'm', 'p', 'a', 'r', 'i', 's', 'o', 'n', '='] := String.toList_ofList
theorem lit_12 : "GreaterThanEqualTo(signed_comparison=".toList = ['G', 'r', 'e', 'a', 't', 'e', 'r', 'T', 'h', 'a', 'n', 'E', 'q', 'u', 'a', 'l', 'T', 'o', '(', 's', 'i', 'g', 'n', 'e', 'd', '_', 'c', 'o', 'm', 'p', 'a', 'r', 'i', 's', 'o', 'n', '='] := String.toList_ofList
theorem lit_13 : "Equal".toList = ['E', 'q', 'u', 'a', 'l'] := String.toList_ofList
theorem lit_14 : "Min(signed_comparison=".toList = ['M', 'i', 'n', '(', 's', 'i', 'g', 'n', 'e', 'd', '_', 'c', 'o', 'm', 'p', 'a', 'r', 'i', 's', 'o', 'n', '='] := String.toList_ofList
theorem lit_15 : "Max(signed_comparison=".toList = ['M', 'a', 'x', '(', 's', 'i', 'g', 'n', 'e', 'd', '_', 'c', 'o', 'm', 'p', 'a', 'r', 'i', 's', 'o', 'n', '='] := String.toList_ofList
theorem lit_16 : "Mux".toList = ['M', 'u', 'x'] := String.toList_ofList
theorem lit_17 : "LongDivision(signed=".toList = ['L', 'o', 'n', 'g', 'D', 'i', 'v', 'i', 's', 'i', 'o', 'n', '(', 's', 'i', 'g', 'n', 'e', 'd', '='] := String.toList_ofList
theorem lit_18 : "NewtonDivision(iterations=".toList = ['N', 'e', 'w', 't', 'o', 'n', 'D', 'i', 'v', 'i', 's', 'i', 'o', 'n', '(', 'i', 't', 'e', 'r', 'a', 't', 'i', 'o', 'n', 's', '='] := String.toList_ofList
theorem lit_19 : ", cap=2**".toList = [',', ' ', 'c', 'a', 'p', '=', '2', '*', '*'] := String.toList_ofList
theorem lit_20 : "InverseSqrt(iterations=".toList = ['I', 'n', 'v', 'e', 'r', 's', 'e', 'S', 'q', 'r', 't', '(', 'i', 't', 'e', 'r', 'a', 't', 'i', 'o', 'n', 's', '='] := String.toList_ofList
theorem lit_21 : "GoldshmidtDivision(iterations=".toList = ['G', 'o', 'l', 'd', 's', 'h', 'm', 'i', 'd', 't', 'D', 'i', 'v', 'i', 's', 'i', 'o', 'n', '(', 'i', 't', 'e', 'r', 'a', 't', 'i', 'o', 'n', 's', '='] := String.toList_ofList
theorem lit_22 : "TaylorExponent(taylor_terms=".toList = ['T', 'a', 'y', 'l', 'o', 'r', 'E', 'x', 'p', 'o', 'n', 'e', 'n', 't', '(', 't', 'a', 'y', 'l', 'o', 'r', '_', 't', 'e', 'r', 'm', 's', '='] := String.toList_ofList
theorem lit_23 : ", fixed_precision_denom=2**".toList = [',', ' ', 'f', 'i', 'x', 'e', 'd', '_', 'p', 'r', 'e', 'c', 'i', 's', 'i', 'o', 'n', '_', 'd', 'e', 'n', 'o', 'm', '=', '2', '*', '*'] := String.toList_ofList
theorem lit_24 : "ApproxExponent(scaling_factor=2**".toList = ['A', 'p', 'p', 'r', 'o', 'x', 'E', 'x', 'p', 'o', 'n', 'e', 'n', 't', '(', 's', 'c', 'a', 'l', 'i', 'n', 'g', '_', 'f', 'a', 'c', 't', 'o', 'r', '=', '2', '*', '*'] := String.toList_ofList
theorem lit_25 : "ApproxGelu(scaling_factor=2**".toList = ['A', 'p', 'p', 'r', 'o', 'x', 'G', 'e', 'l', 'u', '(', 's', 'c', 'a', 'l', 'i', 'n', 'g', '_', 'f', 'a', 'c', 't', 'o', 'r', '=', '2', '*', '*'] := String.toList_ofList
theorem lit_26 : ", log_buckets=".toList = [',', ' ', 'l', 'o', 'g', '_', 'b', 'u', 'c', 'k', 'e', 't', 's', '='] := String.toList_ofList
theorem lit_27 : "ApproxGeluDerivative(scaling_factor=2**".toList = ['A', 'p', 'p', 'r', 'o', 'x', 'G', 'e', 'l', 'u', 'D', 'e', 'r', 'i', 'v', 'a', 't', 'i', 'v', 'e', '(', 's', 'c', 'a', 'l', 'i', 'n', 'g', '_', 'f', 'a', 'c', 't', 'o', 'r', '=', '2', '*', '*'] := String.toList_ofList
theorem lit_28 : "ApproxSigmoid(scaling_factor=2**".toList = ['A', 'p', 'p', 'r', 'o', 'x', 'S', 'i', 'g', 'm', 'o', 'i', 'd', '(', 's', 'c', 'a', 'l', 'i', 'n', 'g', '_', 'f', 'a', 'c', 't', 'o', 'r', '=', '2', '*', '*'] := String.toList_ofList
theorem lit_29 : "FixedMultiply(".toList = ['F', 'i', 'x', 'e', 'd', 'M', 'u', 'l', 't', 'i', 'p', 'l', 'y', '('] := String.toList_ofList
theorem lit_30 : ", debug=".toList = [',', ' ', 'd', 'e', 'b', 'u', 'g', '='] := String.toList_ofList
theorem lit_31 : "SortIntegers(key=".toList = ['S', 'o', 'r', 't', 'I', 'n', 't', 'e', 'g', 'e', 'r', 's', '(', 'k', 'e', 'y', '='] := String.toList_ofList
theorem lit_32 : "LowMC(".toList = ['L', 'o', 'w', 'M', 'C', '('] := String.toList_ofList
theorem lit_33 : "-".toList = ['-'] := String.toList_ofList
theorem lit_34 : "-SIZE".toList = ['-', 'S', 'I', 'Z', 'E'] := String.toList_ofList

macro "name_norm" " at " h:ident : tactic => `(tactic|
  simp only [opNameChars, opSpec, render, Piece.render, lit_0, lit_1, lit_2, lit_3, lit_4, lit_5, lit_6, lit_7, lit_8, lit_9, lit_10, lit_11, lit_12, lit_13, lit_14, lit_15, lit_16, lit_17, lit_18, lit_19, lit_20, lit_21, lit_22, lit_23, lit_24, lit_25, lit_26, lit_27, lit_28, lit_29, lit_30, lit_31, lit_32, lit_33, lit_34,
    List.cons_append, List.nil_append, List.append_nil, List.append_assoc] at $h:ident)

theorem formats_ok : (∀ f ∈ formats, delimited f = true) ∧ formats.Pairwise Apart := by
  simp only [formats, reps, List.map_cons, List.map_nil, opSpec, shape, Piece.blank,
    lit_0, lit_1, lit_2, lit_3, lit_4, lit_5, lit_6, lit_7, lit_8, lit_9, lit_10, lit_11, lit_12, lit_13, lit_14, lit_15, lit_16, lit_17, lit_18, lit_19, lit_20, lit_21, lit_22, lit_23, lit_24, lit_25, lit_26, lit_27, lit_28, lit_29, lit_30, lit_31, lit_32, lit_33, lit_34]
  decide +kernel

/-- `hi` follows from `h`; it is a hypothesis so that the cases with different constructors are
    dismissed without looking at the literals.  The one parameter that is not a piece itself is
    the block size of `lowMC`, printed as `if z then 128 else 80`. -/
theorem opSpec_inj {a b : LibOp} (hi : a.ctorIdx = b.ctorIdx) (h : opSpec a = opSpec b) : a = b := by
  cases a <;> cases b <;> cases hi
  case lowMC.lowMC s r z s' r' z' =>
    simp only [opSpec, List.cons.injEq, Piece.nat.injEq, true_and, and_true] at h
    obtain ⟨rfl, rfl, hz⟩ := h
    cases z <;> cases z' <;> first | rfl | exact absurd hz (by decide)
  all_goals
    cases h
    rfl

theorem opNameChars_prefix_free (a b : LibOp) (r r' : List Char)
    (h : opNameChars a ++ ':' :: r = opNameChars b ++ ':' :: r') : a = b ∧ r = r' := by
  obtain ⟨hi, hab, hr⟩ := formats_prefix_free formats_ok.1 formats_ok.2 (shape_opSpec a)
    (shape_opSpec b) h
  exact ⟨opSpec_inj hi hab, hr⟩

example : opNameChars (.clip2K 10) = "Clip(10)".toList := by decide +kernel
example : opNameChars (.lowMC 49 12 true) = "LowMC(49-12-SIZE128)".toList := by decide +kernel
example : opNameChars (.sortByIntegerKey "a\"b".toList) = "SortIntegers(key=\"a\\\"b\")".toList := by decide +kernel
/-- without the separator the names are not prefix-free ("Not" is a prefix of "NotEqual") -/
example : opNameChars .not ++ "Equal".toList = opNameChars .notEqual ++ [] := by decide +kernel

theorem opNameChars_injective {a b : LibOp} (h : opNameChars a = opNameChars b) : a = b :=
  (opNameChars_prefix_free a b [] [] (by rw [h])).1

example : opName (.clip2K 10) = "Clip(10)" := by decide +kernel

theorem lit_uu : "__".toList = ['_', '_'] := String.toList_ofList
theorem lit_ccl : "::<".toList = [':', ':', '<'] := String.toList_ofList

theorem instNameChars_inj {a b : LibOp} {x y : List Char}
    (h : instNameChars (opNameChars a) x = instNameChars (opNameChars b) y) : a = b ∧ x = y := by
  simp only [instNameChars, lit_uu, lit_ccl, List.cons_append, List.nil_append,
    List.append_assoc, List.cons.injEq, true_and] at h
  obtain ⟨hab, h2⟩ := opNameChars_prefix_free _ _ _ _ h
  simp only [List.cons.injEq, true_and] at h2
  exact ⟨hab, List.append_cancel_right h2⟩

example : instNameChars (opNameChars (.min false)) (showTys [.scalar ⟨false, 1⟩, .array [2, 3] ⟨true, 32⟩])
    = "__Min(signed_comparison=false)::<bit, i32[2, 3]>".toList := by decide +kernel

theorem lit_bit : "bit".toList = ['b', 'i', 't'] := String.toList_ofList
theorem lit_cs : ", ".toList = [',', ' '] := String.toList_ofList

/-- what `Display` can tell apart: the bit type is unsigned -/
def ScalarT.ok (st : ScalarT) : Prop := st.bits = 1 → st.signed = false

/-- the scalar types of the library (data_types.rs: BIT, (U)INT8…(U)INT128) -/
def ScalarT.real (st : ScalarT) : Prop :=
  (st.bits = 1 ∧ st.signed = false) ∨ st.bits ∈ [8, 16, 32, 64, 128]

theorem ScalarT.real.ok {st : ScalarT} (h : st.real) : st.ok := by
  intro h1
  rcases h with h | h
  · exact h.2
  · rw [h1] at h; simp at h

theorem showScalar_inj {s s' : ScalarT} (hs : s.ok) (hs' : s'.ok)
    (h : showScalar s = showScalar s') : s = s' := by
  obtain ⟨sg, b⟩ := s
  obtain ⟨sg', b'⟩ := s'
  simp only [showScalar, lit_bit] at h
  simp only [ScalarT.ok] at hs hs'
  by_cases h1 : b = 1 <;> by_cases h2 : b' = 1
  · simp [h1, h2, hs h1, hs' h2]
  · rw [if_pos h1, if_neg h2] at h
    cases sg' <;> simp at h
  · rw [if_neg h1, if_pos h2] at h
    cases sg <;> simp at h
  · rw [if_neg h1, if_neg h2] at h
    simp only [List.cons.injEq] at h
    have := toDigits_inj h.2
    cases sg <;> cases sg' <;> simp_all

theorem digit_ne {c d : Char} (hc : c.isDigit = true) (hd : d.isDigit = false) : c ≠ d := by
  rintro rfl
  rw [hc] at hd
  cases hd

/-- not a character that can follow a scalar type name (which consists of letters and digits) -/
def scalarCh (c : Char) : Bool := c != '[' && c != ','

theorem showScalar_chars (s : ScalarT) : ∀ c ∈ showScalar s, scalarCh c = true := by
  intro c hc
  simp only [showScalar, lit_bit] at hc
  split at hc
  · simp at hc
    rcases hc with rfl | rfl | rfl <;> decide
  · simp only [List.mem_cons] at hc
    rcases hc with rfl | hc
    · split <;> decide
    · have := toDigits_isDigit hc
      simp [scalarCh, digit_ne this]

theorem showScalar_ne_nil (s : ScalarT) : showScalar s ≠ [] := by
  simp only [showScalar, lit_bit]
  split <;> simp

def EndOrComma (x : List Char) : Prop := x = [] ∨ ∃ t, x = ',' :: t

theorem EndOrComma.stops {p : Char → Bool} (hp : p ',' = false) {x : List Char} (hx : EndOrComma x) :
    ∀ c ∈ x.head?, p c = false := by
  rcases hx with rfl | ⟨t, rfl⟩
  · simp
  · intro c hc
    cases hc
    exact hp

/-- lists printed with `, ` between the elements (`showDims`, `showTys`) are read back uniquely
    if an element can be told from what follows it -/
theorem sepList_inj {α : Type} {P : α → Prop} {f : α → List Char} {g : List α → List Char}
    (g_nil : g [] = [])
    (g_cons : ∀ a as, g (a :: as) = f a ++ (if as = [] then [] else ',' :: ' ' :: g as))
    (hne : ∀ a, P a → f a ≠ [])
    (hsep : ∀ a b x y, P a → P b → EndOrComma x → EndOrComma y → f a ++ x = f b ++ y → a = b ∧ x = y) :
    ∀ l l', (∀ a ∈ l, P a) → (∀ a ∈ l', P a) → g l = g l' → l = l'
  | [], [], _, _, _ => rfl
  | [], b :: _, _, h', h => by
    rw [g_nil, g_cons] at h
    exact absurd (List.append_eq_nil_iff.1 h.symm).1 (hne b (h' b (by simp)))
  | a :: _, [], h0, _, h => by
    rw [g_nil, g_cons] at h
    exact absurd (List.append_eq_nil_iff.1 h).1 (hne a (h0 a (by simp)))
  | a :: as, b :: bs, h0, h', h => by
    rw [g_cons, g_cons] at h
    have tl : ∀ l : List α, EndOrComma (if l = [] then [] else ',' :: ' ' :: g l) := by
      intro l
      split
      · exact .inl rfl
      · exact .inr ⟨_, rfl⟩
    obtain ⟨rfl, h2⟩ := hsep a b _ _ (h0 a (by simp)) (h' b (by simp)) (tl as) (tl bs) h
    have ih := sepList_inj g_nil g_cons hne hsep as bs (fun z hz => h0 z (by simp [hz]))
      (fun z hz => h' z (by simp [hz]))
    cases as <;> cases bs <;> simp at h2
    · rfl
    · rw [ih h2]

theorem showDims_cons (d : Nat) (ds : List Nat) :
    showDims (d :: ds) = Nat.toDigits 10 d ++ (if ds = [] then [] else ',' :: ' ' :: showDims ds) := by
  cases ds <;> simp [showDims, lit_cs]

theorem showDims_inj (sh sh' : List Nat) (h : showDims sh = showDims sh') : sh = sh' :=
  sepList_inj (P := fun _ => True) rfl showDims_cons (fun _ _ => Nat.toDigits_ne_nil)
    (fun _ _ _ _ _ _ hx hy => digits_sep (hx.stops rfl) (hy.stops rfl)) sh sh' (fun _ _ => trivial)
    (fun _ _ => trivial) h

/-- not the bracket that closes a dimension list (which consists of digits, commas, spaces) -/
def dimCh (c : Char) : Bool := c != ']'

theorem showDims_chars : ∀ (sh : List Nat), ∀ c ∈ showDims sh, dimCh c = true
  | [], _, hc => by simp [showDims] at hc
  | d :: ds, c, hc => by
    rw [showDims_cons, List.mem_append] at hc
    rcases hc with hc | hc
    · have := toDigits_isDigit hc
      simp [dimCh, digit_ne this]
    · split at hc
      · simp at hc
      · simp only [List.mem_cons] at hc
        rcases hc with rfl | rfl | hc
        · decide
        · decide
        · exact showDims_chars ds c hc

def Ty.flat : Ty → Bool
  | .scalar _ => true
  | .array _ _ => true
  | _ => false

def Ty.okFlat : Ty → Prop
  | .scalar st => st.ok
  | .array _ st => st.ok
  | _ => False

theorem showTy_sep {t t' : Ty} {x y : List Char} (ht : t.okFlat) (ht' : t'.okFlat)
    (hx : EndOrComma x) (hy : EndOrComma y) (h : showTy t ++ x = showTy t' ++ y) : t = t' ∧ x = y := by
  have scalars {s s' : ScalarT} {x y : List Char} := @span_unique _ scalarCh _ _ x y
    (showScalar_chars s) (showScalar_chars s')
  cases t <;> cases t' <;> simp only [Ty.okFlat] at ht ht' <;>
    simp only [showTy, List.append_assoc, List.cons_append, List.nil_append] at h
  · obtain ⟨h1, h2⟩ := scalars (hx.stops rfl) (hy.stops rfl) h
    rw [showScalar_inj ht ht' h1]
    exact ⟨rfl, h2⟩
  · obtain ⟨_, h2⟩ := scalars (hx.stops rfl) (stops_cons rfl) h
    rcases hx with rfl | ⟨t', rfl⟩ <;> simp at h2
  · obtain ⟨_, h2⟩ := scalars (stops_cons rfl) (hy.stops rfl) h
    rcases hy with rfl | ⟨t', rfl⟩ <;> simp at h2
  · obtain ⟨h1, h2⟩ := scalars (stops_cons rfl) (stops_cons rfl) h
    simp only [List.cons.injEq, true_and] at h2
    obtain ⟨h3, h4⟩ := span_unique (showDims_chars _) (showDims_chars _) (stops_cons rfl)
      (stops_cons rfl) h2
    simp only [List.cons.injEq, true_and] at h4
    rw [showScalar_inj ht ht' h1, showDims_inj _ _ h3]
    exact ⟨rfl, h4⟩

theorem showTys_cons (t : Ty) (ts : List Ty) :
    showTys (t :: ts) = showTy t ++ (if ts = [] then [] else ',' :: ' ' :: showTys ts) := by
  cases ts <;> simp [showTys, lit_cs]

theorem showTy_ne_nil {t : Ty} (ht : t.okFlat) : showTy t ≠ [] := by
  cases t <;> simp only [Ty.okFlat] at ht <;> simp [showTy, showScalar_ne_nil]

theorem showTys_inj_flat (ts ts' : List Ty) : (∀ t ∈ ts, t.okFlat) → (∀ t ∈ ts', t.okFlat) →
    showTys ts = showTys ts' → ts = ts' :=
  sepList_inj (by simp [showTys]) showTys_cons (fun _ => showTy_ne_nil)
    (fun _ _ _ _ => showTy_sep) ts ts'

def Ty.realFlat : Ty → Prop
  | .scalar st => st.real
  | .array _ st => st.real
  | _ => False

theorem Ty.realFlat.okFlat {t : Ty} (h : t.realFlat) : t.okFlat := by
  cases t <;> simp only [Ty.realFlat] at h <;> simp only [Ty.okFlat] <;> exact h.ok

theorem Ty.okFlat.flat {t : Ty} (h : t.okFlat) : t.flat = true := by
  cases t <;> simp only [Ty.okFlat] at h <;> rfl

example : showTys [.scalar ⟨false, 1⟩, .array [2, 3] ⟨true, 32⟩, .array [] ⟨false, 64⟩]
    = "bit, i32[2, 3], u64[]".toList := by decide +kernel
example : (Ty.array [2, 3] ⟨true, 32⟩).realFlat := by simp [Ty.realFlat, ScalarT.real]
/-- `ScalarT.ok` is needed: `Display` prints every one-bit type as `bit` -/
example : showScalar ⟨true, 1⟩ = showScalar ⟨false, 1⟩ := by decide +kernel

end CCV.Instantiate
