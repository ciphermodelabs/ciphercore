import CCV.Model.OpsExt
/-!
  Zip / Repeat / tuple plumbing of the evaluator as value-level identities.
-/
namespace CCV.Ops
open CCV

theorem mapM_option_spec {α β : Type} (g : α → Option β) (l : List α) (h : ∀ a ∈ l, (g a).isSome) :
    ∃ r, l.mapM g = some r ∧ r.length = l.length ∧ ∀ (k : Nat) (a : α), l[k]? = some a → r[k]? = g a := by
  induction l with
  | nil => exact ⟨[], rfl, rfl, fun k a hk => by simp at hk⟩
  | cons a l ih =>
    obtain ⟨r, hr, hl, hv⟩ := ih (fun b hb => h b (List.mem_cons_of_mem _ hb))
    obtain ⟨y, hy⟩ := Option.isSome_iff_exists.mp (h a List.mem_cons_self)
    refine ⟨y :: r, by rw [List.mapM_cons, hy, hr]; rfl, by rw [List.length_cons, List.length_cons, hl], ?_⟩
    intro k b hk
    cases k with
    | zero =>
      rw [List.getElem?_cons_zero, Option.some.injEq] at hk
      rw [List.getElem?_cons_zero, ← hk, hy]
    | succ k => exact hv k b hk

theorem zipRow_spec {α : Type} (values : List (List α)) (n index : Nat) (hl : ∀ v ∈ values, v.length = n)
    (hi : index < n) :
    ∃ row, zipRow values index = some row ∧ row.length = values.length ∧
      ∀ (k : Nat) (v : List α), values[k]? = some v → row[k]? = v[index]? :=
  mapM_option_spec (fun v : List α => v[index]?) values (fun v hv => by
    show (v[index]?).isSome = true
    rw [List.getElem?_eq_getElem (hl v hv ▸ hi)]
    rfl)

theorem zipLoop_spec {α : Type} (values : List (List α)) (n : Nat) (hl : ∀ v ∈ values, v.length = n) :
    ∀ fuel index, index + fuel = n →
      (zipLoop values fuel index).length = fuel ∧
      ∀ j, j < fuel → (zipLoop values fuel index)[j]? = zipRow values (index + j) := by
  intro fuel
  induction fuel with
  | zero => intro index _; exact ⟨rfl, fun j hj => absurd hj (Nat.not_lt_zero j)⟩
  | succ fuel ih =>
    intro index hn
    obtain ⟨row, hrow, _, _⟩ := zipRow_spec values n index hl (by omega)
    obtain ⟨hlen, hval⟩ := ih (index + 1) (by omega)
    have e : zipLoop values (fuel + 1) index = row :: zipLoop values fuel (index + 1) := by
      rw [zipLoop, hrow]
    rw [e]
    refine ⟨by simp [hlen], ?_⟩
    intro j hj
    cases j with
    | zero => simp [hrow]
    | succ j =>
      rw [List.getElem?_cons_succ, hval j (by omega)]
      congr 1
      omega

example : zip [[1, 2, 3], [4, 5, 6]] = [[1, 4], [2, 5], [3, 6]] := by decide

theorem repeat_spec {α : Type} (n : Nat) (v : α) :
    (repeatV n v).length = n ∧ ∀ i, i < n → (repeatV n v)[i]? = some v := by
  refine ⟨by simp [repeatV], ?_⟩
  intro i hi
  simp [repeatV, hi]

theorem tuple_get_spec {α : Type} (vs : List α) (id : Nat) :
    tupleGet (createTuple vs) id = vs[id]? ∧
    (∀ v, vs[id]? = some v → vectorGet (createTuple vs) id = .ok v) ∧
    (vs.length ≤ id → ∃ e, vectorGet (createTuple vs) id = .error e) := by
  refine ⟨rfl, ?_, ?_⟩
  · intro v hv
    simp [vectorGet, createTuple, hv]
  · intro h
    refine ⟨"Index out of range", ?_⟩
    simp [vectorGet, createTuple, List.getElem?_eq_none h]

theorem namedTupleGet_spec {α : Type} (names : List String) (vs : List α) (name : String) (id : Nat)
    (h : names.findIdx? (· == name) = some id) : namedTupleGet names vs name = vs[id]? := by
  simp [namedTupleGet, h]

example : namedTupleGet ["a", "b", "c"] [10, 20, 30] "b" = some 20 := by decide

end CCV.Ops
