import CCV.Model.Ops
import CCV.Model.Spec
import CCV.Lemmas.Shape
import CCV.Lemmas.Kernels
import CCV.Lemmas.OpsPerm
import CCV.Lemmas.OpsMat
/-
  Reductions.  Sum over a subset of the axes: the multi-indices of a shape are `number_to_index` of
  `0..Π-1`.  CumSum: a generic in-place sequential loop with its invariant; lowering one digit of
  an index lowers its row-major position.
-/
namespace CCV.Ops
open CCV CCV.Shape

theorem range_mul_flatMap (d P : Nat) :
    List.range (d * P) = (List.range d).flatMap fun x => (List.range P).map fun i => x * P + i := by
  induction d with
  | zero => simp
  | succ d ih =>
    rw [Nat.succ_mul, List.range_add, ih, List.range_succ, List.flatMap_append]
    simp

theorem allIdx_eq_map (shape : List Nat) (hpos : pos shape) :
    Spec.allIdx shape = (List.range (prod shape)).map fun i => numberToIndex i shape := by
  induction shape with
  | nil => rfl
  | cons d ds ih =>
    have ⟨hd, hds⟩ := pos_cons hpos
    simp only [Spec.allIdx, prod]
    rw [ih hds, range_mul_flatMap, List.map_flatMap]
    congr 1
    funext x
    rw [List.map_map, List.map_map]
    apply List.map_congr_left
    intro i hi
    have hi := List.mem_range.mp hi
    simp only [Function.comp]
    rw [numberToIndex_cons hd]
    obtain ⟨h1, h2⟩ := block_div_mod (x := x) hi
    rw [h1, h2]

example : Spec.allIdx [2, 3] = [[0, 0], [0, 1], [0, 2], [1, 0], [1, 1], [1, 2]] := by decide

theorem sumFold_idx (st : ST) (xs : List Nat) (L : List Nat) :
    low st (L.foldl (fun acc i => addU128 acc ((xs.map (ext st)).getD i 0) (modulus st)) 0)
      = st.ofInt ((L.map fun i => st.toInt (xs.getD i 0)).sum) := by
  apply low_foldl
  intro r i
  rw [addU128_emod, getD_map_ext]
  exact add_congr _ _ _ _ _ rfl (toInt_ext st _).symm

example : sum .u8 [2, 3] [1, 2, 3, 4, 5, 250] [0] (some [3]) = [5, 7, 253] := by decide

example : sum .i8 [2, 3] [1, 2, 3, 4, 5, 250] [1] (some [2]) = [6, 3] := by decide

def inplaceStep (c : Nat → Bool) (pr : Nat → Nat) (add : Nat → Nat → Nat) (out : List Nat) (i : Nat) :
    List Nat :=
  if c i then out.set i (add (out.getD i 0) (out.getD (pr i) 0)) else out

theorem inplaceStep_length (c : Nat → Bool) (pr : Nat → Nat) (add : Nat → Nat → Nat) (out : List Nat)
    (i : Nat) : (inplaceStep c pr add out i).length = out.length := by
  unfold inplaceStep; split
  · simp
  · rfl

theorem foldl_inplace_length (c : Nat → Bool) (pr : Nat → Nat) (add : Nat → Nat → Nat) (l : List Nat)
    (init : List Nat) : (l.foldl (inplaceStep c pr add) init).length = init.length :=
  foldl_length_inv _ (inplaceStep_length c pr add) l init

/-- invariant of a sequential in-place loop whose step `i` reads an already final cell `pr i < i`
    and the still untouched cell `i`: after `t` steps the cells below `t` satisfy `Q`, the others
    still hold the input -/
theorem foldl_inplace_inv (c : Nat → Bool) (pr : Nat → Nat) (add : Nat → Nat → Nat) (inp : List Nat)
    (Q : Nat → Nat → Prop)
    (hpr : ∀ i, i < inp.length → c i = true → pr i < i)
    (hbase : ∀ i, i < inp.length → c i = false → Q i (inp.getD i 0))
    (hstep : ∀ i, i < inp.length → c i = true → ∀ v, Q (pr i) v → Q i (add (inp.getD i 0) v))
    (t : Nat) (ht : t ≤ inp.length) :
    ∀ i, (i < t → Q i (((List.range t).foldl (inplaceStep c pr add) inp).getD i 0)) ∧
      (t ≤ i → ((List.range t).foldl (inplaceStep c pr add) inp).getD i 0 = inp.getD i 0) := by
  induction t with
  | zero => intro i; exact ⟨fun h => absurd h (Nat.not_lt_zero _), fun _ => rfl⟩
  | succ t ih =>
    have ih := ih (by omega)
    have hl := foldl_inplace_length c pr add (List.range t) inp
    rw [List.range_succ, List.foldl_append]
    simp only [List.foldl_cons, List.foldl_nil]
    intro i
    cases hc : c t with
    | false =>
      simp only [inplaceStep, hc, Bool.false_eq_true, if_false]
      refine ⟨fun hi => ?_, fun hi => (ih i).2 (by omega)⟩
      by_cases e : i = t
      · subst e
        rw [(ih i).2 (Nat.le_refl _)]
        exact hbase i (by omega) hc
      · exact (ih i).1 (by omega)
    | true =>
      simp only [inplaceStep, hc, if_true]
      refine ⟨fun hi => ?_, fun hi => ?_⟩
      · by_cases e : i = t
        · subst e
          rw [getD_set_self _ _ _ (by rw [hl]; omega), (ih i).2 (Nat.le_refl _)]
          exact hstep i (by omega) hc _ ((ih (pr i)).1 (hpr i (by omega) hc))
        · rw [getD_set_ne _ _ _ _ (fun h => e h.symm)]
          exact (ih i).1 (by omega)
      · rw [getD_set_ne _ _ _ _ (by omega)]
        exact (ih i).2 (by omega)

theorem validIdx_set {I shape : List Nat} (h : validIdx I shape) (a v : Nat) (ha : a < shape.length)
    (hv : v < shape.getD a 0) : validIdx (I.set a v) shape := by
  have ⟨hl, hd⟩ := (validIdx_iff_getD I shape).mp h
  rw [validIdx_iff_getD]
  refine ⟨by simpa using hl, fun k hk => ?_⟩
  rw [getD_set_idx _ _ _ _ (by omega)]
  split
  · rename_i e; rw [e]; exact hv
  · exact hd k hk

theorem flat_set_lt {I shape : List Nat} (h : validIdx I shape) (a v : Nat) (ha : a < shape.length)
    (hv : v < I.getD a 0) : flat (I.set a v) shape < flat I shape := by
  induction shape generalizing I a with
  | nil => simp at ha
  | cons d ds ih =>
    cases I with
    | nil => simp [validIdx] at h
    | cons x xs =>
      simp only [validIdx] at h
      cases a with
      | zero =>
        simp only [List.set_cons_zero, flat]
        have hx : v < x := by simpa using hv
        have hP := prod_pos (validIdx_pos h.2)
        have := Nat.mul_lt_mul_of_lt_of_le hx (Nat.le_refl (prod ds)) hP
        omega
      | succ a =>
        simp only [List.set_cons_succ, flat]
        have := ih h.2 a (by simpa using ha) (by simpa using hv)
        omega

theorem sumTo_succ (K : Nat) (f : Nat → Int) : Spec.sumTo (K + 1) f = Spec.sumTo K f + f K := by
  simp [Spec.sumTo, List.range_succ]

theorem emod_of_low_eq (st : ST) (v : Nat) (s : Int) (h : low st v = st.ofInt s) :
    (v : Int) % ((2 ^ st.bits : Nat) : Int) = s % ((2 ^ st.bits : Nat) : Int) := by
  have hW : (0 : Int) < ((2 ^ st.bits : Nat) : Int) := Int.natCast_pos.mpr (pow_bits_pos st)
  have h1 : ((low st v : Nat) : Int) = (v : Int) % ((2 ^ st.bits : Nat) : Int) := by
    simp only [low, Int.natCast_emod]
  have h2 : ((st.ofInt s : Nat) : Int) = s % ((2 ^ st.bits : Nat) : Int) := by
    unfold ST.ofInt
    exact Int.toNat_of_nonneg (Int.emod_nonneg _ (Int.ne_of_gt hW))
  rw [← h1, h, h2]

theorem cumSum_eq (st : ST) (shape xs : List Nat) (axis : Nat) :
    cumSum st shape xs axis
      = ((List.range (xs.map (ext st)).length).foldl
          (inplaceStep (fun i => decide (0 < (numberToIndex i shape).getD axis 0))
            (fun i => indexToNumber ((numberToIndex i shape).set axis ((numberToIndex i shape).getD axis 0 - 1)) shape)
            (fun a b => addU128 a b (modulus st))) (xs.map (ext st))).map (low st) := by
  unfold cumSum inplaceStep
  simp only [decide_eq_true_eq]

example : cumSum .i8 [2, 2] [1, 2, 3, 4] 1 = [1, 3, 3, 7] := by decide

example : cumSum .i8 [2, 3] [1, 2, 3, 4, 5, 250] 0 = [1, 2, 3, 5, 7, 253] := by decide

example : cumSum .u8 [3] [100, 100, 100] 0 = [100, 200, 44] := by decide

end CCV.Ops
