import CCV.Lemmas.SortRadix
/-
  Bit-string keys (C18): comparing chunk values is comparing chunks, so one step of the radix loop
  refines the order by the next chunk; the loop.
-/
namespace CCV.Sort

def cv : List Nat → Nat
  | [] => 0
  | b :: bs => b * 2 ^ bs.length + cv bs

theorem cv_nil : cv [] = 0 := rfl

theorem cv_cons (b : Nat) (bs : List Nat) : cv (b :: bs) = b * 2 ^ bs.length + cv bs := rfl

theorem foldl_cv (a : List Nat) (acc : Nat) :
    a.foldl (fun acc b => 2 * acc + b) acc = acc * 2 ^ a.length + cv a := by
  induction a generalizing acc with
  | nil => simp [cv_nil]
  | cons x xs ih =>
    simp only [List.foldl_cons, ih, cv_cons, List.length_cons, Nat.pow_succ]
    rw [Nat.add_mul, Nat.add_assoc]
    congr 1
    rw [Nat.mul_comm 2 acc, Nat.mul_assoc, Nat.mul_comm 2]

-- `cv` recurses on the string, most significant bit first; `chunkVal` (the model) folds from the left
theorem chunkVal_eq_cv (a : List Nat) : chunkVal a = cv a := by
  simp [chunkVal, foldl_cv]

def IsBits (a : List Nat) : Prop := ∀ x ∈ a, x < 2

theorem cv_lt (a : List Nat) (h : IsBits a) : cv a < 2 ^ a.length := by
  induction a with
  | nil => exact Nat.one_pos
  | cons x xs ih =>
    have hx := h x List.mem_cons_self
    have := ih (fun y hy => h y (List.mem_cons_of_mem _ hy))
    simp only [cv_cons, List.length_cons, Nat.pow_succ]
    have : x = 0 ∨ x = 1 := by omega
    rcases this with rfl | rfl <;> omega

theorem cv_append_single (A : List Nat) (x : Nat) : cv (A ++ [x]) = 2 * cv A + x := by
  induction A with
  | nil => simp [cv_nil, cv_cons]
  | cons a A ih =>
    simp only [List.cons_append, cv_cons, ih, List.length_append, List.length_cons, List.length_nil,
      Nat.pow_succ, Nat.zero_add]
    rw [Nat.mul_add, ← Nat.mul_assoc, Nat.mul_comm 2 (a * 2 ^ A.length), Nat.add_assoc]

theorem lexLt_iff_cv : ∀ (a b : List Nat), a.length = b.length → IsBits a → IsBits b →
    (lexLt a b = true ↔ cv a < cv b) ∧ (a = b ↔ cv a = cv b)
  | [], [], _, _, _ => ⟨iff_of_false Bool.false_ne_true (Nat.lt_irrefl 0), iff_of_true rfl rfl⟩
  | [], _ :: _, hl, _, _ => by simp at hl
  | _ :: _, [], hl, _, _ => by simp at hl
  | x :: xs, y :: ys, hl, ha, hb => by
    have hl' : xs.length = ys.length := by simpa using hl
    have hxs : IsBits xs := fun z hz => ha z (List.mem_cons_of_mem _ hz)
    have hys : IsBits ys := fun z hz => hb z (List.mem_cons_of_mem _ hz)
    obtain ⟨ih1, ih2⟩ := lexLt_iff_cv xs ys hl' hxs hys
    have b1 := cv_lt xs hxs
    have b2 := cv_lt ys hys
    have hx := ha x List.mem_cons_self
    have hy := hb y List.mem_cons_self
    rw [hl'] at b1
    rw [lexLt_cons, ih1, List.cons.injEq, ih2, cv_cons, cv_cons, hl']
    generalize 2 ^ ys.length = P at *
    -- the leading bits are 0 or 1, which makes the products linear
    have hx' : x = 0 ∨ x = 1 := by omega
    have hy' : y = 0 ∨ y = 1 := by omega
    rcases hx' with rfl | rfl <;> rcases hy' with rfl | rfl <;> omega

theorem cv_lex (a a' : List Nat) (hl : a.length = a'.length) (ha : IsBits a) (ha' : IsBits a')
    (tie : Bool) :
    (decide (cv a < cv a') || (cv a == cv a' && tie)) = (lexLt a a' || (a == a' && tie)) := by
  obtain ⟨c1, c2⟩ := lexLt_iff_cv a a' hl ha ha'
  rw [Bool.eq_iff_iff]
  simp only [Bool.or_eq_true, Bool.and_eq_true, decide_eq_true_eq, beq_iff_eq, c1, c2]

theorem lexLt_append_tie (a a' x y : List Nat) (hl : a.length = a'.length) (tie : Bool) :
    (lexLt (a ++ x) (a' ++ y) || (a ++ x == a' ++ y && tie)) =
      (lexLt a a' || (a == a' && (lexLt x y || (x == y && tie)))) := by
  induction a generalizing a' with
  | nil =>
    cases a' with
    | nil => simp [show lexLt [] [] = false from rfl]
    | cons _ _ => simp at hl
  | cons u us ih =>
    cases a' with
    | nil => simp at hl
    | cons v vs =>
      have ih := ih vs (Nat.succ.inj hl)
      simp only [List.cons_append, lexLt_cons_cons, List.cons_beq_cons] 
      rcases Nat.lt_trichotomy u v with h | rfl | h
      · simp [h]
      · simpa using ih
      · have h1 : ¬ u < v := by omega
        have h2 : (u == v) = false := by simp; omega
        simp [h, h1, h2]

theorem isBits_take {a : List Nat} (h : IsBits a) (n : Nat) : IsBits (a.take n) :=
  fun x hx => h x (List.mem_of_mem_take hx)

theorem isBits_drop {a : List Nat} (h : IsBits a) (n : Nat) : IsBits (a.drop n) :=
  fun x hx => h x (List.mem_of_mem_drop hx)

def KeysOk (b : Nat) (keys : List (List Nat)) : Prop := ∀ r ∈ keys, r.length = b ∧ IsBits r

def sufKey (keys : List (List Nat)) (t k : Nat) : List Nat := (keys.getD k []).drop t

theorem getD_map_rows (keys : List (List Nat)) (f : List Nat → Nat) (k : Nat) (hk : k < keys.length) :
    (keys.map f).getD k 0 = f (keys.getD k []) := by
  simp [List.getD_eq_getElem?_getD, List.getElem?_map, List.getElem?_eq_getElem hk]

theorem getD_mem (keys : List (List Nat)) (k : Nat) (hk : k < keys.length) : keys.getD k [] ∈ keys := by
  simp [List.getD_eq_getElem?_getD, List.getElem?_eq_getElem hk]

theorem step_congr {b : Nat} {keys : List (List Nat)} (hw : KeysOk b keys) (chunk t : Nat) :
    rankOf (lexStep ((keys.map fun r => chunkVal ((r.drop t).take chunk)).getD · 0)
      (keyLt (sufKey keys (t + chunk)))) keys.length = rankOf (keyLt (sufKey keys t)) keys.length := by
  apply rankOf_congr
  intro k i hk hi
  obtain ⟨l1, b1⟩ := hw _ (getD_mem keys k hk)
  obtain ⟨l2, b2⟩ := hw _ (getD_mem keys i hi)
  have hl : (((keys.getD k []).drop t).take chunk).length = (((keys.getD i []).drop t).take chunk).length := by
    rw [List.length_take, List.length_take, List.length_drop, List.length_drop, l1, l2]
  rw [lexStep, getD_map_rows _ _ _ hk, getD_map_rows _ _ _ hi, chunkVal_eq_cv, chunkVal_eq_cv,
    cv_lex _ _ hl (isBits_take (isBits_drop b1 t) chunk) (isBits_take (isBits_drop b2 t) chunk),
    keyLt, keyLt, sufKey, sufKey, sufKey, sufKey, ← lexLt_append_tie _ _ _ _ hl, ← List.drop_drop,
    ← List.drop_drop, List.take_append_drop, List.take_append_drop]

theorem radixLoop_cons (chunk : Nat) (keys : List (List Nat)) (c : Nat) (cs : List Nat)
    (pis : List (List Nat)) (sigma : List Nat) :
    radixLoop chunk keys (c :: cs) pis sigma =
      match radixRound (pis.headD (List.range keys.length)) sigma
        (keys.map fun r => chunkVal ((r.drop (c * chunk)).take chunk)) with
      | some s => radixLoop chunk keys cs pis.tail s
      | none => none := rfl

theorem radixLoop_spec {b : Nat} {keys : List (List Nat)} (hw : KeysOk b keys) (chunk m : Nat)
    (pis : List (List Nat)) (hpis : ∀ pi ∈ pis, pi.Perm (List.range keys.length)) :
    radixLoop chunk keys (List.range m).reverse pis (rankOf (keyLt (sufKey keys (m * chunk))) keys.length) =
      some (rankOf (keyLt (sufKey keys 0)) keys.length) := by
  induction m generalizing pis with
  | zero => rw [Nat.zero_mul]; rfl
  | succ m ih =>
    rw [List.range_succ, List.reverse_append, List.reverse_singleton, List.singleton_append,
      radixLoop_cons]
    have hpi : (pis.headD (List.range keys.length)).Perm (List.range keys.length) := by
      cases pis with
      | nil => exact List.Perm.refl _
      | cons p ps => exact hpis p List.mem_cons_self
    rw [radixRound_spec (keyLt_sto _) hpi (by simp)]
    have : (m + 1) * chunk = m * chunk + chunk := by rw [Nat.add_mul, Nat.one_mul]
    rw [this, step_congr hw chunk (m * chunk)]
    exact ih pis.tail (fun pi hpi => hpis pi (List.mem_of_mem_tail hpi))

theorem sigma0_congr {b : Nat} {keys : List (List Nat)} (hw : KeysOk b keys) (t : Nat) :
    countingRank (keys.map fun r => chunkVal (r.drop t)) = rankOf (keyLt (sufKey keys t)) keys.length := by
  rw [countingRank_eq, List.length_map]
  apply rankOf_congr
  intro k i hk hi
  obtain ⟨l1, b1⟩ := hw _ (getD_mem keys k hk)
  obtain ⟨l2, b2⟩ := hw _ (getD_mem keys i hi)
  rw [lexStep, getD_map_rows _ _ _ hk, getD_map_rows _ _ _ hi, chunkVal_eq_cv, chunkVal_eq_cv]
  exact cv_lex _ _ (by rw [List.length_drop, List.length_drop, l1, l2]) (isBits_drop b1 t)
    (isBits_drop b2 t) _

theorem step0_div (chunk b : Nat) : (b - step0Size chunk b) / chunk * chunk = b - step0Size chunk b := by
  apply Nat.div_mul_cancel
  unfold step0Size
  split
  · rename_i h
    exact Nat.dvd_sub (Nat.dvd_of_mod_eq_zero h) (Nat.dvd_refl _)
  · exact Nat.dvd_sub_mod b

end CCV.Sort
