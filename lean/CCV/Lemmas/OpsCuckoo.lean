import CCV.Model.OpsExt
import CCV.Lemmas.OpsPerm
import CCV.Lemmas.Blocks
/-!
  `CuckooHash` (`evaluate_cuckoo`): placement invariant of the insertion loop with evictions.
  On success every inserted string index sits in exactly one cell of the window of its set in the
  flat table, that cell is one of its hash positions (the one of the recorded hash function), and every other cell holds
  the sentinel `CUCKOO_DUMMY_ELEMENT`.
-/
namespace CCV.Ops
open CCV

theorem getD_replicate_dummy (T c : Nat) : c < T → (List.replicate T cuckooDummy).getD c 0 = cuckooDummy := by
  intro hc
  simp [List.getD_eq_getElem?_getD, hc]

theorem foldlM_range_succ_some {σ : Type} (f : σ → Nat → Option σ) (init r : σ) (k : Nat)
    (h : (List.range (k + 1)).foldlM f init = some r) :
    ∃ s, (List.range k).foldlM f init = some s ∧ f s k = some r := by
  rw [List.range_succ, List.foldlM_append] at h
  cases hs : (List.range k).foldlM f init with
  | none => rw [hs] at h; simp at h
  | some s =>
    rw [hs] at h
    refine ⟨s, rfl, ?_⟩
    simpa [List.foldlM_cons, List.foldlM_nil] using h

theorem hashBit_lt (hm : List Nat) (off : Nat) (str : List Nat) (cols : Nat) (hs : ∀ x ∈ str, x < 2) :
    hashBit hm off str cols < 2 := by
  unfold hashBit
  apply foldl_inv (fun b => b < 2)
  · decide
  · intro b c _ hb
    have h1 : hm.getD (off + c) 0 &&& str.getD c 0 < 2 :=
      Nat.lt_of_le_of_lt Nat.and_le_right (getD_bound str c Nat.zero_lt_two hs)
    exact Nat.xor_lt_two_pow (n := 1) hb h1

theorem hashIndex_lt (hm : List Nat) (rows cols f : Nat) (str : List Nat) (hs : ∀ x ∈ str, x < 2) :
    hashIndex hm rows cols f str < 2 ^ rows := by
  unfold hashIndex
  apply foldl_inv (fun b => b < 2 ^ rows)
  · exact Nat.pow_pos (by decide)
  · intro b row hrow hb
    have hr : row < rows := List.mem_range.mp hrow
    have h1 := hashBit_lt hm (rows * cols * f + row * cols) str cols hs
    have h2 : hashBit hm (rows * cols * f + row * cols) str cols <<< row < 2 ^ rows := by
      rw [Nat.shiftLeft_eq]
      have hp : 2 ^ (row + 1) ≤ 2 ^ rows := Nat.pow_le_pow_right (by decide) hr
      have : hashBit hm (rows * cols * f + row * cols) str cols * 2 ^ row ≤ 1 * 2 ^ row :=
        Nat.mul_le_mul_right _ (by omega)
      rw [Nat.pow_succ] at hp
      omega
    exact Nat.xor_lt_two_pow hb h2

theorem slice_lt_two (l : List Nat) (a n : Nat) (hl : ∀ x ∈ l, x < 2) : ∀ x ∈ slice l a n, x < 2 := by
  intro x hx
  exact hl x (List.mem_of_mem_drop (List.mem_of_mem_take hx))

/-- the window of set `s` in the flat table -/
def win (T s : Nat) (c : Nat) : Prop := s * T ≤ c ∧ c < s * T + T

theorem win_lt (T numSets s c : Nat) (hs : s < numSets) (hc : win T s c) : c < numSets * T :=
  Nat.lt_of_lt_of_le hc.2 (block_le T hs)

theorem win_disjoint (T s s' c : Nat) (hss : s < s') (hc : win T s c) : ¬ win T s' c :=
  fun hc' => Nat.lt_irrefl c (Nat.lt_of_lt_of_le hc.2 (Nat.le_trans (block_le T hss) hc'.1))

/-- placement invariant of the window `W` (the cells of one set) of the flat table of `L` cells:
    `S` = the set of string indices that are in the window; `hashAt f i` = cell of string `i` under `f` -/
structure CuckooInv (hashAt : Nat → Nat → Nat) (h : Nat) (W : Nat → Prop) (L : Nat) (S : Nat → Prop) (table used : List Nat) : Prop where
  lenT : table.length = L
  lenU : used.length = L
  win : ∀ c, W c → c < L
  cell : ∀ c, W c → table.getD c 0 ≠ cuckooDummy →
    S (table.getD c 0) ∧ used.getD c 0 < h ∧ hashAt (used.getD c 0) (table.getD c 0) = c
  mem : ∀ i, S i → ∃ c, W c ∧ table.getD c 0 = i
  inj : ∀ c c', W c → W c' → table.getD c 0 = table.getD c' 0 → table.getD c 0 ≠ cuckooDummy → c = c'

theorem CuckooInv.congr {hashAt : Nat → Nat → Nat} {h : Nat} {W : Nat → Prop} {L : Nat} {S S' : Nat → Prop} {table used : List Nat}
    (hi : CuckooInv hashAt h W L S table used) (hS : ∀ i, S i ↔ S' i) : CuckooInv hashAt h W L S' table used :=
  ⟨hi.lenT, hi.lenU, hi.win, fun c hc hd => ⟨(hS _).mp (hi.cell c hc hd).1, (hi.cell c hc hd).2⟩,
    fun i hi' => hi.mem i ((hS i).mpr hi'), hi.inj⟩

theorem CuckooInv.frame {hashAt : Nat → Nat → Nat} {h : Nat} {W : Nat → Prop} {L : Nat} {S : Nat → Prop}
    {table used table' used' : List Nat} (hi : CuckooInv hashAt h W L S table used)
    (hlT : table'.length = L) (hlU : used'.length = L)
    (hag : ∀ c, W c → table'.getD c 0 = table.getD c 0 ∧ used'.getD c 0 = used.getD c 0) :
    CuckooInv hashAt h W L S table' used' := by
  refine ⟨hlT, hlU, hi.win, ?_, ?_, ?_⟩
  · intro c hc hd
    rw [(hag c hc).1] at hd ⊢
    rw [(hag c hc).2]
    exact hi.cell c hc hd
  · intro i hSi
    obtain ⟨c, hc, hci⟩ := hi.mem i hSi
    exact ⟨c, hc, by rw [(hag c hc).1, hci]⟩
  · intro c c' hc hc' heq hd
    rw [(hag c hc).1] at heq hd
    rw [(hag c' hc').1] at heq
    exact hi.inj c c' hc hc' heq hd

/-- writing the floating element `cur` (not in the table) into its hash cell `ri`:
    the invariant holds for everything that was in the table or is `cur`, except the evicted
    occupant of the cell -/
theorem cuckoo_write (hashAt : Nat → Nat → Nat) (h : Nat) (W : Nat → Prop) (L : Nat) (S : Nat → Prop) (table used : List Nat)
    (cur f : Nat) (hSd : ∀ i, S i → i ≠ cuckooDummy) (hcur : S cur) (hf : f < h) (hri : W (hashAt f cur))
    (hinv : CuckooInv hashAt h W L (fun i => S i ∧ i ≠ cur) table used) :
    CuckooInv hashAt h W L (fun i => S i ∧ (table.getD (hashAt f cur) 0 = cuckooDummy ∨ i ≠ table.getD (hashAt f cur) 0))
      (table.set (hashAt f cur) cur) (used.set (hashAt f cur) f) := by
  have hcd : cur ≠ cuckooDummy := hSd cur hcur
  generalize hr : hashAt f cur = ri at hri ⊢
  have hrT : ri < table.length := by rw [hinv.lenT]; exact hinv.win ri hri
  have hrU : ri < used.length := by rw [hinv.lenU]; exact hinv.win ri hri
  have hself : (table.set ri cur).getD ri 0 = cur := getD_set_self table ri cur hrT
  have hne : ∀ c, c ≠ ri → (table.set ri cur).getD c 0 = table.getD c 0 :=
    fun c hc => getD_set_ne table ri c cur (fun e => hc e.symm)
  have huself : (used.set ri f).getD ri 0 = f := getD_set_self used ri f hrU
  have hune : ∀ c, c ≠ ri → (used.set ri f).getD c 0 = used.getD c 0 :=
    fun c hc => getD_set_ne used ri c f (fun e => hc e.symm)
  refine ⟨by rw [List.length_set]; exact hinv.lenT, by rw [List.length_set]; exact hinv.lenU, hinv.win, ?_, ?_, ?_⟩
  · intro c hc hd
    by_cases hcr : c = ri
    · subst hcr
      rw [hself, huself]
      refine ⟨⟨hcur, ?_⟩, hf, hr⟩
      by_cases hdum : table.getD c 0 = cuckooDummy
      · exact Or.inl hdum
      · exact Or.inr (fun e => (hinv.cell c hc hdum).1.2 e.symm)
    · rw [hne c hcr] at hd ⊢
      rw [hune c hcr]
      have hcell := hinv.cell c hc hd
      refine ⟨⟨hcell.1.1, ?_⟩, hcell.2⟩
      by_cases hdum : table.getD ri 0 = cuckooDummy
      · exact Or.inl hdum
      · exact Or.inr (fun e => hcr (hinv.inj c ri hc hri e hd))
  · intro i ⟨hSi, hio⟩
    by_cases hic : i = cur
    · exact ⟨ri, hri, by rw [hself, hic]⟩
    · obtain ⟨c, hc, hci⟩ := hinv.mem i ⟨hSi, hic⟩
      have hcr : c ≠ ri := by
        intro e
        subst e
        rcases hio with hd | hn
        · exact hSd i hSi (by rw [← hci, hd])
        · exact hn hci.symm
      exact ⟨c, hc, by rw [hne c hcr, hci]⟩
  · intro c c' hc hc' heq hd
    by_cases hcr : c = ri
    · by_cases hcr' : c' = ri
      · rw [hcr, hcr']
      · subst hcr
        rw [hself, hne c' hcr'] at heq
        have := hinv.cell c' hc' (by rw [← heq]; exact hcd)
        exact absurd heq.symm this.1.2
    · by_cases hcr' : c' = ri
      · subst hcr'
        rw [hself, hne c hcr] at heq
        have := hinv.cell c hc (by rw [heq]; exact hcd)
        exact absurd heq this.1.2
      · rw [hne c hcr] at heq hd
        rw [hne c' hcr'] at heq
        exact hinv.inj c c' hc hc' heq hd

theorem cuckooInsert_inv (hashAt : Nat → Nat → Nat) (h : Nat) (W : Nat → Prop) (L : Nat) (hh : 0 < h) (hT : ∀ f i, W (hashAt f i))
    (S : Nat → Prop) (hSd : ∀ i, S i → i ≠ cuckooDummy) (fuel : Nat) :
    ∀ (cur f : Nat) (table used table' used' : List Nat), S cur → f < h →
      CuckooInv hashAt h W L (fun i => S i ∧ i ≠ cur) table used →
      cuckooInsert hashAt h fuel cur f (table, used) = some (table', used') →
      CuckooInv hashAt h W L S table' used' := by
  induction fuel with
  | zero => intro cur f table used table' used' _ _ _ hres; simp [cuckooInsert] at hres
  | succ fuel ih =>
    intro cur f table used table' used' hcur hf hinv hres
    have hw := cuckoo_write hashAt h W L S table used cur f hSd hcur hf (hT f cur) hinv
    unfold cuckooInsert at hres
    simp only [] at hres
    by_cases hd : table.getD (hashAt f cur) 0 = cuckooDummy
    · rw [if_pos hd] at hres
      simp only [Option.some.injEq, Prod.mk.injEq] at hres
      rw [← hres.1, ← hres.2]
      exact hw.congr (fun i => ⟨fun hi => hi.1, fun hi => ⟨hi, Or.inl hd⟩⟩)
    · rw [if_neg hd] at hres
      have hcell := hinv.cell _ (hT f cur) hd
      refine ih (table.getD (hashAt f cur) 0) ((used.getD (hashAt f cur) 0 + 1) % h) _ _ table' used'
        hcell.1.1 (Nat.mod_lt _ hh) ?_ hres
      exact hw.congr (fun i => ⟨fun hi => ⟨hi.1, hi.2.resolve_left hd⟩, fun hi => ⟨hi.1, Or.inr hi.2⟩⟩)

theorem cuckooInsert_frame (hashAt : Nat → Nat → Nat) (h : Nat) (P : Nat → Prop) (hP : ∀ f i, P (hashAt f i))
    (fuel : Nat) : ∀ (cur f : Nat) (table used table' used' : List Nat),
      cuckooInsert hashAt h fuel cur f (table, used) = some (table', used') →
      table'.length = table.length ∧ used'.length = used.length ∧
      ∀ c, ¬ P c → table'.getD c 0 = table.getD c 0 ∧ used'.getD c 0 = used.getD c 0 := by
  induction fuel with
  | zero => intro cur f table used table' used' hres; simp [cuckooInsert] at hres
  | succ fuel ih =>
    intro cur f table used table' used' hres
    have hset : ∀ c, ¬ P c → (table.set (hashAt f cur) cur).getD c 0 = table.getD c 0 ∧
        (used.set (hashAt f cur) f).getD c 0 = used.getD c 0 := by
      intro c hc
      have hne : hashAt f cur ≠ c := fun e => hc (e ▸ hP f cur)
      exact ⟨getD_set_ne table _ c cur hne, getD_set_ne used _ c f hne⟩
    unfold cuckooInsert at hres
    simp only [] at hres
    by_cases hd : table.getD (hashAt f cur) 0 = cuckooDummy
    · rw [if_pos hd] at hres
      simp only [Option.some.injEq, Prod.mk.injEq] at hres
      rw [← hres.1, ← hres.2]
      exact ⟨List.length_set, List.length_set, hset⟩
    · rw [if_neg hd] at hres
      obtain ⟨h1, h2, h3⟩ := ih _ _ _ _ table' used' hres
      refine ⟨by rw [h1, List.length_set], by rw [h2, List.length_set], ?_⟩
      intro c hc
      exact ⟨by rw [(h3 c hc).1, (hset c hc).1], by rw [(h3 c hc).2, (hset c hc).2]⟩

/-- `k ≤ cuckooDummy` because a string index must differ from the sentinel -/
theorem cuckooWindow_prefix (hashAt : Nat → Nat → Nat) (h : Nat) (W : Nat → Prop) (L : Nat) (hh : 0 < h)
    (hT : ∀ f i, W (hashAt f i)) (hW : ∀ c, W c → c < L) (t0 u0 : List Nat) (hl0 : t0.length = L)
    (hu0 : u0.length = L) (hempty : ∀ c, W c → t0.getD c 0 = cuckooDummy)
    (fuel f0 : Nat) (hf0 : f0 < h) (k : Nat) (hk : k ≤ cuckooDummy) (table used : List Nat)
    (hres : (List.range k).foldlM (fun s i => cuckooInsert hashAt h fuel i f0 s) (t0, u0) = some (table, used)) :
    CuckooInv hashAt h W L (· < k) table used ∧
    ∀ c, ¬ W c → table.getD c 0 = t0.getD c 0 ∧ used.getD c 0 = u0.getD c 0 := by
  induction k generalizing table used with
  | zero =>
    simp only [List.range_zero, List.foldlM_nil] at hres
    have hres' := Option.some.inj hres
    simp only [Prod.mk.injEq] at hres'
    rw [← hres'.1, ← hres'.2]
    refine ⟨⟨hl0, hu0, hW, ?_, ?_, ?_⟩, fun c _ => ⟨rfl, rfl⟩⟩
    · intro c hc hd; exact absurd (hempty c hc) hd
    · intro i hi; omega
    · intro c c' hc _ _ hd; exact absurd (hempty c hc) hd
  | succ k ih =>
    obtain ⟨⟨t1, u1⟩, hs, hstep⟩ := foldlM_range_succ_some _ _ _ k hres
    obtain ⟨hprev, hfr⟩ := ih (by omega) t1 u1 hs
    refine ⟨?_, ?_⟩
    · refine cuckooInsert_inv hashAt h W L hh hT (· < k + 1) (fun i hi => by omega) fuel k f0 t1 u1 table used
        (Nat.lt_succ_self k) hf0 ?_ hstep
      exact hprev.congr (fun i => by constructor <;> intro hi <;> omega)
    · intro c hc
      obtain ⟨_, _, h3⟩ := cuckooInsert_frame hashAt h W hT fuel k f0 t1 u1 table used hstep
      exact ⟨by rw [(h3 c hc).1, (hfr c hc).1], by rw [(h3 c hc).2, (hfr c hc).2]⟩

theorem cuckooSets_prefix (hashOf : Nat → Nat → Nat → Nat) (h T numSets n : Nat) (hh : 0 < h)
    (hT : ∀ s f i, hashOf s f i < T) (hn : n ≤ cuckooDummy) (k : Nat) (hk : k ≤ numSets)
    (table used : List Nat)
    (hres : (List.range k).foldlM (fun st s =>
        (List.range n).foldlM (fun st i => cuckooInsert (fun f j => s * T + hashOf s f j) h 100 i 0 st) st)
        (List.replicate (numSets * T) cuckooDummy, List.replicate (numSets * T) cuckooDummy) = some (table, used)) :
    table.length = numSets * T ∧ used.length = numSets * T ∧
    (∀ s, s < k → CuckooInv (fun f j => s * T + hashOf s f j) h (win T s) (numSets * T) (· < n) table used) ∧
    (∀ c, k * T ≤ c → c < numSets * T → table.getD c 0 = cuckooDummy) := by
  induction k generalizing table used with
  | zero =>
    simp only [List.range_zero, List.foldlM_nil] at hres
    have hres' := Option.some.inj hres
    simp only [Prod.mk.injEq] at hres'
    rw [← hres'.1, ← hres'.2]
    refine ⟨by simp, by simp, fun s hs => absurd hs (Nat.not_lt_zero s), ?_⟩
    intro c _ hc
    exact getD_replicate_dummy _ c hc
  | succ k ih =>
    obtain ⟨⟨t1, u1⟩, hs, hstep⟩ := foldlM_range_succ_some _ _ _ k hres
    obtain ⟨hl1, hu1, hinv1, hd1⟩ := ih (by omega) t1 u1 hs
    have hklt : k < numSets := by omega
    obtain ⟨hnew, hfr⟩ := cuckooWindow_prefix (fun f j => k * T + hashOf k f j) h (win T k) (numSets * T) hh
      (fun f i => ⟨Nat.le_add_right _ _, Nat.add_lt_add_left (hT k f i) _⟩)
      (fun c hc => win_lt T numSets k c hklt hc) t1 u1 hl1 hu1 (fun c hc => hd1 c hc.1 (win_lt T numSets k c hklt hc)) 100 0 hh n hn table used hstep
    refine ⟨hnew.lenT, hnew.lenU, ?_, ?_⟩
    · intro s hs'
      by_cases hsk : s = k
      · subst hsk; exact hnew
      · have hslt : s < k := by omega
        exact (hinv1 s hslt).frame hnew.lenT hnew.lenU (fun c hc => hfr c (win_disjoint T s k c hslt hc))
    · intro c hc hcl
      have hnw : ¬ win T k c := by
        intro hw
        have := hw.2
        rw [Nat.succ_mul] at hc
        omega
      rw [(hfr c hnw).1]
      apply hd1 c _ hcl
      rw [Nat.succ_mul] at hc
      omega

theorem cuckooHash_inv (inputBits hm : List Nat) (numSets n b h rows cols : Nat) (hh : 0 < h)
    (hbits : ∀ x ∈ inputBits, x < 2) (hn : n < 2 ^ 64) (r : List Nat)
    (hres : cuckooHash inputBits hm numSets n b h rows cols = .ok r) :
    r.length = numSets * 2 ^ rows ∧ ∀ s, s < numSets → ∃ used,
      CuckooInv (fun f j => s * 2 ^ rows + cuckooHashAt inputBits hm n b rows cols s f j) h (win (2 ^ rows) s)
        (numSets * 2 ^ rows) (· < n) r used := by
  unfold cuckooHash at hres
  split at hres
  · cases hres
  · rename_i table used heq
    have hr : r = table := by cases hres; rfl
    subst hr
    obtain ⟨hl, _, hinv, _⟩ := cuckooSets_prefix (fun s f j => cuckooHashAt inputBits hm n b rows cols s f j) h (2 ^ rows)
      numSets n hh (fun s f i => hashIndex_lt hm rows cols f _ (slice_lt_two inputBits _ _ hbits))
      (by unfold cuckooDummy; omega) numSets (Nat.le_refl _) r used heq
    exact ⟨hl, fun s hs => ⟨used, hinv s hs⟩⟩

example : cuckooHash [0, 1, 1, 0, 1, 1] [1, 0, 0, 1, 1, 1, 0, 1, 1, 1, 1, 0] 1 3 2 3 2 2
    = .ok [2 ^ 64 - 1, 1, 0, 2] := by rfl

end CCV.Ops
