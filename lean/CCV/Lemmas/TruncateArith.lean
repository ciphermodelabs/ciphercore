import CCV.Model.Truncate
/-
  Helper lemmas for C05 that need core Lean only: the readings `sint` / `ofInt` and the plaintext
  `truncPlain` of the model, then the bit and div/mod arithmetic behind `TruncateMPC2K`, then the
  `tdiv` arithmetic behind the general divisor.
-/
namespace CCV.Truncate

theorem two_pow_pred (s : Nat) (hs : 1 ≤ s) : 2 ^ s = 2 * 2 ^ (s - 1) := by
  rw [← Nat.pow_succ', Nat.succ_eq_add_one, Nat.sub_add_cancel hs]

theorem sint_of_lt (s v : Nat) (h : v < 2 ^ (s - 1)) : sint s v = (v : Int) := by
  unfold sint; rw [if_neg (by omega)]

theorem sint_of_ge (s v : Nat) (h : 2 ^ (s - 1) ≤ v) : sint s v = (v : Int) - ((2 ^ s : Nat) : Int) := by
  unfold sint; rw [if_pos h]

theorem sint_bounds (s v : Nat) (hs : 1 ≤ s) (hv : v < 2 ^ s) :
    -((2 ^ (s - 1) : Nat) : Int) ≤ sint s v ∧ sint s v < ((2 ^ (s - 1) : Nat) : Int) := by
  have h2 := two_pow_pred s hs
  unfold sint; split <;> omega

theorem ofInt_natCast (s n : Nat) : ofInt s (n : Int) = n % 2 ^ s := by
  rw [ofInt, ← Int.natCast_emod, Int.toNat_natCast]

theorem ofInt_sint (s v : Nat) (hs : 1 ≤ s) (hv : v < 2 ^ s) : ofInt s (sint s v) = v := by
  unfold ofInt sint
  have hM : (0 : Int) < ((2 ^ s : Nat) : Int) := by have := Nat.two_pow_pos s; omega
  split
  · rw [Int.sub_emod_right, Int.emod_eq_of_lt (by omega) (by omega)]; omega
  · rw [Int.emod_eq_of_lt (by omega) (by omega)]; omega

theorem sint_ofInt (s : Nat) (q : Int) (hs : 1 ≤ s) (hlo : -((2 ^ (s - 1) : Nat) : Int) ≤ q)
    (hhi : q < ((2 ^ (s - 1) : Nat) : Int)) : sint s (ofInt s q) = q := by
  have h2 := two_pow_pred s hs
  unfold sint ofInt
  by_cases hneg : q < 0
  · rw [← Int.add_emod_right, Int.emod_eq_of_lt (by omega) (by omega)]
    split <;> omega
  · rw [Int.emod_eq_of_lt (by omega) (by omega)]
    split <;> omega

theorem sint_eq_bmod (s v : Nat) (hs : 1 ≤ s) (hv : v < 2 ^ s) :
    sint s v = Int.bmod v (2 ^ s) := by
  have h2 := two_pow_pred s hs
  rw [Int.bmod_eq_emod, Int.emod_eq_of_lt (by omega) (by omega)]
  unfold sint
  split <;> split <;> omega

theorem truncPlain_unsigned (s d v : Nat) : truncPlain s false d v = v / d := by
  simp [truncPlain]

theorem truncPlain_small (s : Nat) (signed : Bool) (d v : Nat) (hv : v < 2 ^ (s - 1)) :
    truncPlain s signed d v = v / d := by
  cases signed
  · exact truncPlain_unsigned s d v
  · simp only [truncPlain, if_true]
    rw [sint_of_lt s v hv, Int.tdiv_eq_ediv_of_nonneg (by omega)]
    have : ¬ ((v : Int) / (d : Int) < 0) := by
      have : (0 : Int) ≤ (v : Int) / (d : Int) := Int.ediv_nonneg (by omega) (by omega)
      omega
    rw [if_neg this]
    have : (v : Int) / (d : Int) = ((v / d : Nat) : Int) := by simp
    rw [this]; exact Int.toNat_natCast _

theorem tdiv_between (z d : Int) (hd : 0 < d) :
    (0 ≤ z → 0 ≤ z.tdiv d ∧ z.tdiv d ≤ z) ∧ (z ≤ 0 → z ≤ z.tdiv d ∧ z.tdiv d ≤ 0) := by
  have pos : ∀ y : Int, 0 ≤ y → 0 ≤ y.tdiv d ∧ y.tdiv d ≤ y := fun y hy =>
    ⟨Int.tdiv_nonneg hy (Int.le_of_lt hd), by
      rw [Int.tdiv_eq_ediv_of_nonneg hy]; exact Int.ediv_le_self _ hy⟩
  refine ⟨pos z, fun hz => ?_⟩
  have := pos (-z) (by omega)
  rw [Int.neg_tdiv] at this
  omega

/-- signed plaintext truncation: Rust `/` = `Int.tdiv` (rounds toward zero) on the two's
    complement readings, result reduced modulo `2^s`. -/
theorem truncPlain_signed (s d v : Nat) (hs : 1 ≤ s) (hv : v < 2 ^ s) (hd : 1 ≤ d) :
    truncPlain s true d v = ofInt s (Int.tdiv (sint s v) (d : Int)) := by
  obtain ⟨hlo, hhi⟩ := sint_bounds s v hs hv
  have h2 := two_pow_pred s hs
  have hq := tdiv_between (sint s v) d (by omega)
  simp only [truncPlain, if_true, ofInt]
  generalize (sint s v).tdiv (d : Int) = q at *
  by_cases hneg : q < 0
  · rw [if_pos hneg, ← Int.add_emod_right, Int.emod_eq_of_lt (by omega) (by omega)]
  · rw [if_neg hneg, Int.emod_eq_of_lt (by omega) (by omega)]

theorem and_range_mask (r k h : Nat) (hkh : k ≤ h) :
    r &&& (2 ^ h - 2 ^ k) = r % 2 ^ h / 2 ^ k * 2 ^ k := by
  have e : 2 ^ h - 2 ^ k = (2 ^ (h - k) - 1) * 2 ^ k := by
    rw [Nat.sub_mul, ← Nat.pow_add, Nat.sub_add_cancel hkh, Nat.one_mul]
  rw [e]
  apply Nat.eq_of_testBit_eq
  intro i
  rw [Nat.testBit_and, Nat.testBit_mul_two_pow, Nat.testBit_mul_two_pow, Nat.testBit_two_pow_sub_one,
    Nat.testBit_div_two_pow, Nat.testBit_mod_two_pow]
  by_cases hi : k ≤ i
  · have hik : i - k + k = i := by omega
    simp only [hi, hik, decide_true, Bool.true_and]
    by_cases h2 : i < h
    · have : i - k < h - k := by omega
      simp [h2, this]
    · have : ¬ (i - k < h - k) := by omega
      simp [h2, this]
  · simp [hi]

theorem and_bit_div (r i : Nat) : (r &&& 2 ^ i) / 2 ^ i = r / 2 ^ i % 2 := by
  have e : 2 ^ (i + 1) - 2 ^ i = 2 ^ i := by rw [Nat.pow_succ]; omega
  have h := and_range_mask r i (i + 1) (by omega)
  rw [e] at h
  rw [h, Nat.mul_div_cancel _ (Nat.two_pow_pos i), Nat.pow_succ, Nat.mod_mul_right_div_self]

/-- the arithmetic heart of steps 8–11: with `H = K·P = 2^(s-1)`, `X < H` (the shifted input),
    `r < 2H` (the mask), `c = (X + r) mod 2H`: `(r_msb xor c_msb)·P + (c/K mod P) = (X + r mod H)/K`,
    the xor written as `a + b − 2ab` without subtraction. -/
theorem core_arith (K P X r : Nat) (hK : 0 < K) (hX : X < K * P) (hr : r < 2 * (K * P)) :
    (r / (K * P) + (X + r) % (2 * (K * P)) / (K * P)) * P + (X + r) % (2 * (K * P)) / K % P
      = (X + r % (K * P)) / K + 2 * (r / (K * P)) * ((X + r) % (2 * (K * P)) / (K * P)) * P := by
  have hH : 0 < K * P := by omega
  have hl := Nat.mod_lt r hH
  -- the MSB of `c` is the xor of the MSB of `r` and the carry `t` of `X + r mod H` into position `H`
  have hmsb : (X + r) % (2 * (K * P)) / (K * P) = (r / (K * P) + (X + r % (K * P)) / (K * P)) % 2 := by
    rw [Nat.mul_comm 2, Nat.mod_mul_right_div_self, Nat.add_comm (r / _),
      ← Nat.add_mul_div_left _ _ hH, Nat.add_assoc, Nat.mod_add_div]
  -- the bits of `c` between `K` and `H` are those of `X + r mod H`
  have hlow : (X + r) % (2 * (K * P)) / K % P = (X + r % (K * P)) % (K * P) / K := by
    rw [← Nat.mod_mul_right_div_self, Nat.mod_mod_of_dvd _ (Nat.dvd_mul_left _ 2), Nat.add_mod_mod]
  have hrhs : (X + r % (K * P)) / K
      = (X + r % (K * P)) / (K * P) * P + (X + r % (K * P)) % (K * P) / K := by
    conv => lhs; rw [← Nat.div_add_mod (X + r % (K * P)) (K * P), Nat.mul_assoc, Nat.mul_add_div hK]
    rw [Nat.mul_comm P]
  rw [hmsb, hlow, hrhs]
  clear hmsb hlow hrhs
  have hrm : r / (K * P) < 2 := Nat.div_lt_of_lt_mul (by omega)
  have htm : (X + r % (K * P)) / (K * P) < 2 := Nat.div_lt_of_lt_mul (by omega)
  generalize r / (K * P) = rm at *
  generalize (X + r % (K * P)) / (K * P) = tm at *
  have h1 : rm = 0 ∨ rm = 1 := by omega
  have h2 : tm = 0 ∨ tm = 1 := by omega
  rcases h1 with rfl | rfl <;> rcases h2 with rfl | rfl <;> omega

theorem bmod_of_small (y : Int) (H : Nat) (h1 : -(2 * H : Nat) ≤ y) (h2 : y < (2 * H : Nat)) :
    Int.bmod y (2 * H)
      = if y < -(H : Int) then y + (2 * H : Nat) else if y < H then y else y - (2 * H : Nat) := by
  split
  · rw [← Int.add_bmod_right, Int.bmod_eq_of_le (by omega) (by omega)]
  · split
    · exact Int.bmod_eq_of_le (by omega) (by omega)
    · rw [← Int.sub_bmod_right, Int.bmod_eq_of_le (by omega) (by omega)]

theorem tmod_bounds (z d : Int) (hd : 0 < d) :
    -d < z.tmod d ∧ z.tmod d < d ∧ (0 ≤ z → 0 ≤ z.tmod d) ∧ (z ≤ 0 → z.tmod d ≤ 0) := by
  have h1 := Int.tmod_lt_of_pos z hd
  have h2 := Int.tmod_lt_of_pos (-z) hd
  have h3 : 0 ≤ z → 0 ≤ z.tmod d := Int.tmod_nonneg d
  have h4 : 0 ≤ -z → 0 ≤ (-z).tmod d := Int.tmod_nonneg d
  rw [Int.neg_tmod] at h2 h4
  omega

theorem tdiv_add_bound (a b d : Int) (hd : 0 < d) :
    Int.tdiv a d + Int.tdiv b d - Int.tdiv (a + b) d ≤ 1 ∧
    -1 ≤ Int.tdiv a d + Int.tdiv b d - Int.tdiv (a + b) d := by
  -- the quotients' defect times `d` is a combination of the three remainders, and the signs of the
  -- remainders bound that combination by `2d`
  have hmul : (a.tdiv d + b.tdiv d - (a + b).tdiv d) * d = (a + b).tmod d - a.tmod d - b.tmod d := by
    have ea := Int.tdiv_mul_add_tmod a d
    have eb := Int.tdiv_mul_add_tmod b d
    have es := Int.tdiv_mul_add_tmod (a + b) d
    rw [Int.sub_mul, Int.add_mul]
    omega
  have hlt : -2 * d < (a.tdiv d + b.tdiv d - (a + b).tdiv d) * d ∧
      (a.tdiv d + b.tdiv d - (a + b).tdiv d) * d < 2 * d := by
    have ha := tmod_bounds a d hd
    have hb := tmod_bounds b d hd
    have hs := tmod_bounds (a + b) d hd
    rw [hmul]
    omega
  have h1 := Int.lt_of_mul_lt_mul_right hlt.1 (Int.le_of_lt hd)
  have h2 := Int.lt_of_mul_lt_mul_right hlt.2 (Int.le_of_lt hd)
  omega

end CCV.Truncate
