import CCV.Lemmas.Division
/-
  long_division.rs, signed mode: `abs` yields sign and magnitude, `adjust_negative` turns quotient and
  remainder of the magnitudes into strings that encode the floored quotient (modulo `2^n`) and the
  floored remainder.
-/
namespace CCV.Division
open CCV.Adder CCV.Mux CCV.Clip

theorem isZero_iff (x : List Bool) : isZero x = true ↔ val x = 0 := by
  induction x with
  | nil => exact ⟨fun _ => rfl, fun _ => rfl⟩
  | cons b t ih =>
    have e : isZero (b :: t) = ((b == false) && isZero t) := rfl
    rw [e, val_cons]
    cases b
    · simp only [beq_self_eq_true, Bool.true_and, Bool.toNat_false, ih]
      omega
    · simp

theorem enc_muxBits (f : Bool) {c1 c0 : List Bool} {z1 z0 : Int} (h : c1.length = c0.length)
    (h1 : Enc c1 z1) (h0 : Enc c0 z0) : Enc (muxBits f c1 c0) (if f then z1 else z0) := by
  rw [muxBits_eq f c1 c0 h]
  cases f
  · exact h0
  · exact h1

theorem abs_spec (m : Nat) (x : List Bool) (h : x.length = 2 ^ m) :
    (Division.abs true x).1 = msb x ∧ (Division.abs true x).2.length = 2 ^ m ∧
    sval x = (if msb x then -(val (Division.abs true x).2 : Int) else val (Division.abs true x).2) ∧
    2 * val (Division.abs true x).2 ≤ 2 ^ (2 ^ m) := by
  have hne : x ≠ [] := by
    intro e
    have := Nat.two_pow_pos m
    simp [e] at h
    omega
  have hm := msb_iff x hne
  have hlt := val_lt x
  have hn := (enc_negative m h (enc_sval x)).emod
  have e : (Division.abs true x).2 = if msb x then negative x else x :=
    muxBits_eq _ _ _ (by rw [negative_length m x h, h])
  rw [negative_length m x h] at hn
  rw [h] at hm hlt
  refine ⟨rfl, ?_⟩
  rw [e]
  unfold sval at hn ⊢
  cases hmx : msb x
  · have : ¬ 2 ^ 2 ^ m ≤ 2 * val x := fun c => by simp [hm.mpr c] at hmx
    simp only [Bool.false_eq_true, if_false, true_and]
    exact ⟨h, by omega⟩
  · have := hm.mp hmx
    simp only [hmx, if_true, h] at hn ⊢
    rw [Int.emod_eq_of_lt (by omega) (by omega)] at hn
    exact ⟨negative_length m x h, by omega, by omega⟩

/-- the code's `positive_remainder`: the remainder `R` of the magnitudes (`z`: it is zero) turned into
    the floored remainder for a positive divisor `D` (`neg`: the signs of the operands differ). -/
def posRem (z neg : Bool) (D R : Int) : Int := if z then R else if neg then D - R else R

/-- `adjust_negative` on values: from quotient and remainder of the magnitudes to strings that encode
    the floored quotient and remainder (the formulas are those of the code, `isZero r` being its
    `remainder_is_zero`). -/
theorem adjustNegative_spec (ma md : Nat) (q r dd : List Bool) (na nd : Bool)
    (hq : q.length = 2 ^ ma) (hr : r.length = 2 ^ md) (hdd : dd.length = 2 ^ md) :
    (adjustNegative q r dd na nd).1.length = 2 ^ ma ∧ (adjustNegative q r dd na nd).2.length = 2 ^ md ∧
    Enc (adjustNegative q r dd na nd).1
      (if xor na nd then (if isZero r then -(val q : Int) else -(val q : Int) - 1) else val q) ∧
    Enc (adjustNegative q r dd na nd).2
      (if nd then -posRem (isZero r) (xor na nd) (val dd) (val r)
       else posRem (isZero r) (xor na nd) (val dd) (val r)) := by
  have li : (invertBits q).length = 2 ^ ma := by rw [invertBits_length, hq]
  have la := addOne_length ma _ li
  have lq := muxBits_length (isZero r) la li
  have ln := negative_length md r hr
  have ls := addCore_length false dd (negative r) md hdd ln
  have l1 := muxBits_length (xor na nd) ls hr
  have lp := muxBits_length (isZero r) hr l1
  have lnp := negative_length md _ lp
  have ep := enc_muxBits (isZero r) (hr.trans l1.symm) (enc_val r)
    (enc_muxBits (xor na nd) (ls.trans hr.symm)
      (enc_addCore false md hdd ln (enc_val dd) (enc_negative md hr (enc_val r))) (enc_val r))
  exact ⟨muxBits_length _ lq hq, muxBits_length _ lnp lp,
    enc_muxBits (xor na nd) (lq.trans hq.symm)
      (enc_muxBits (isZero r) (la.trans li.symm) (enc_negative ma hq (enc_val q)) (enc_invertBits (enc_val q)))
      (enc_val q),
    enc_muxBits nd (lnp.trans lp.symm) (enc_negative md lp ep) ep⟩

theorem longDivisionCore_signed (a d : List Bool) :
    longDivisionCore true a d = adjustNegative
      (iterateBits (negative (Division.abs true d).2) (List.replicate d.length false)
        (Division.abs true a).2.reverse).2.reverse
      (iterateBits (negative (Division.abs true d).2) (List.replicate d.length false)
        (Division.abs true a).2.reverse).1
      (Division.abs true d).2 (msb a) (msb d) := rfl

theorem flooredDiv_of_abs (A D Q R : Nat) (h : A = Q * D + R) (h1 : R < D) (na nd z : Bool)
    (hz : z = true ↔ R = 0) :
    FlooredDiv (if na then -(A : Int) else A) (if nd then -(D : Int) else D)
      (if xor na nd then (if z then -(Q : Int) else -(Q : Int) - 1) else Q)
      (if nd then -posRem z (xor na nd) D R else posRem z (xor na nd) D R) := by
  have h' : (A : Int) = Q * D + R := by exact_mod_cast h
  generalize (A : Int) = A' at h' ⊢
  subst h'
  unfold FlooredDiv posRem
  cases z <;> simp only [Bool.false_eq_true, false_iff, true_iff] at hz <;> cases na <;> cases nd <;>
    simp only [↓reduceIte, Bool.xor_false, Bool.xor_true, Bool.not_false, Bool.not_true,
      Bool.false_eq_true, Int.neg_mul, Int.mul_neg, Int.sub_mul, Int.one_mul, true_and] <;>
    omega

theorem adjustNegative_floored (ma md : Nat) (a d aa dd q r : List Bool)
    (hq : q.length = 2 ^ ma) (hr : r.length = 2 ^ md) (hdd : dd.length = 2 ^ md)
    (ha : sval a = if msb a then -(val aa : Int) else val aa)
    (hd : sval d = if msb d then -(val dd : Int) else val dd)
    (hd2 : 2 * val dd ≤ 2 ^ (2 ^ md)) (h0 : 0 < val dd)
    (hqv : val q = val aa / val dd) (hrv : val r = val aa % val dd) :
    ∃ qz, (adjustNegative q r dd (msb a) (msb d)).1.length = 2 ^ ma ∧
      (adjustNegative q r dd (msb a) (msb d)).2.length = 2 ^ md ∧
      FlooredDiv (sval a) (sval d) qz (sval (adjustNegative q r dd (msb a) (msb d)).2) ∧
      (val (adjustNegative q r dd (msb a) (msb d)).1 : Int) = qz % ((2 ^ 2 ^ ma : Nat) : Int) := by
  have hR : val r < val dd := by rw [hrv]; exact Nat.mod_lt _ h0
  have hdm : val aa = val q * val dd + val r := by
    rw [hqv, hrv, Nat.mul_comm]
    exact (Nat.div_add_mod _ _).symm
  obtain ⟨j1, j2, j3, j4⟩ := adjustNegative_spec ma md q r dd (msb a) (msb d) hq hr hdd
  have hf := flooredDiv_of_abs _ _ _ _ hdm hR (msb a) (msb d) _ (isZero_iff r)
  rw [← ha, ← hd] at hf
  have hsd : -(val dd : Int) ≤ sval d ∧ sval d ≤ val dd := by
    rw [hd]
    split <;> omega
  -- name the two integers the outputs encode: `qz` (quotient) and `rz` (remainder)
  generalize (if xor (msb a) (msb d) then _ else _ : Int) = qz at j3 hf
  generalize (if msb d then _ else _ : Int) = rz at j4 hf
  have hne : (adjustNegative q r dd (msb a) (msb d)).2 ≠ [] := by
    intro e
    have := Nat.two_pow_pos md
    rw [e] at j2
    simp at j2
    omega
  -- `|rz| < |d| ≤ 2^(n-1)`: the string that encodes `rz` modulo `2^n` has `rz` as its signed reading;
  -- the quotient stays modulo `2^n`
  have hb : -(val dd : Int) < rz ∧ rz < val dd := by
    have := hf.2
    omega
  have hs := j4.sval_eq hne (by rw [j2]; omega) (by rw [j2]; omega)
  rw [← hs] at hf
  have hq' := j3.emod
  rw [j1] at hq'
  exact ⟨qz, j1, j2, hf, hq'⟩

end CCV.Division
