import CCV.Lemmas.Sort
import Batteries.Data.List.Perm
/-
  `gather`, permutations of `0..n-1` with their inversion and application (`InvRel`,
  `gather_perm_spec`, `invApply_spec`, `ext_perm`), and the validity tests of `InversePermutation` /
  `ApplyPermutation` (C18).
-/
namespace CCV.Sort

theorem allSome_some_cons {α : Type} (x : α) (t : List (Option α)) :
    allSome (some x :: t) = (allSome t).map (x :: ·) := rfl

theorem allSome_eq_some {α : Type} (l : List (Option α)) (r : List α) :
    allSome l = some r ↔ l = r.map some := by
  induction l generalizing r with
  | nil =>
    show some [] = some r ↔ _
    cases r <;> simp
  | cons x t ih =>
    cases x with
    | none =>
      show none = some r ↔ _
      cases r <;> simp
    | some x =>
      rw [allSome_some_cons]
      cases r with
      | nil => simp
      | cons y ys =>
        simp only [Option.map_eq_some_iff, ih, List.map_cons, List.cons.injEq, Option.some.injEq]
        exact ⟨fun ⟨a, h1, h2, h3⟩ => ⟨h2, h3 ▸ h1⟩, fun ⟨h1, h2⟩ => ⟨ys, h2, h1, rfl⟩⟩

theorem gather_eq_some {α : Type} (a : List α) (idx : List Nat) (r : List α) :
    gather a idx = some r ↔ idx.map (a[·]?) = r.map some := allSome_eq_some _ _

theorem gather_eq_map {α : Type} {a : List α} {idx : List Nat} {r : List α}
    (h : gather a idx = some r) (d : α) : r = idx.map (a.getD · d) := by
  have := congrArg (List.map (·.getD d)) ((gather_eq_some a idx r).mp h)
  simpa [Function.comp_def] using this.symm

theorem gather_length {α : Type} {a : List α} {idx : List Nat} {r : List α}
    (h : gather a idx = some r) : r.length = idx.length := by
  have := congrArg List.length ((gather_eq_some a idx r).mp h)
  simpa using this.symm

theorem gather_get {α : Type} {a : List α} {idx : List Nat} {r : List α}
    (h : gather a idx = some r) (j i : Nat) (hj : idx[j]? = some i) : r[j]? = a[i]? ∧ i < a.length := by
  have := congrArg (·[j]?) ((gather_eq_some a idx r).mp h)
  simp only [List.getElem?_map, hj, Option.map_some] at this
  cases hr : r[j]? with
  | none => rw [hr] at this; cases this
  | some v =>
    rw [hr, Option.map_some, Option.some.injEq] at this
    exact ⟨this.symm, (List.getElem?_eq_some_iff.mp this).1⟩

theorem gather_exists {α : Type} (a : List α) (idx : List Nat) (h : ∀ i ∈ idx, i < a.length) :
    ∃ r, gather a idx = some r := by
  induction idx with
  | nil => exact ⟨[], rfl⟩
  | cons i is ih =>
    obtain ⟨r, hr⟩ := ih (fun j hj => h j (List.mem_cons_of_mem _ hj))
    have hi := h i List.mem_cons_self
    refine ⟨a[i] :: r, ?_⟩
    rw [gather_eq_some] at hr ⊢
    simp [hr, List.getElem?_eq_getElem hi]

theorem gather_none {α : Type} (a : List α) (idx : List Nat) (i : Nat) (hi : i ∈ idx)
    (h : a.length ≤ i) : gather a idx = none := by
  cases hg : gather a idx with
  | none => rfl
  | some r =>
    obtain ⟨j, hj, e⟩ := List.mem_iff_getElem.mp hi
    have := (gather_get hg j i (by rw [List.getElem?_eq_getElem hj, e])).2
    omega

theorem perm_range_of_nodup (n : Nat) (l : List Nat) (hn : l.Nodup) (hl : ∀ x ∈ l, x < n)
    (hlen : l.length = n) : l.Perm (List.range n) := by
  apply (List.subperm_of_subset hn ?_).perm_of_length_le (by simp [hlen])
  intro x hx
  exact List.mem_range.mpr (hl x hx)

theorem perm_range_nodup {n : Nat} {l : List Nat} (h : l.Perm (List.range n)) : l.Nodup :=
  h.nodup_iff.mpr List.nodup_range

theorem perm_range_lt {n : Nat} {l : List Nat} (h : l.Perm (List.range n)) (x : Nat) (hx : x ∈ l) :
    x < n := List.mem_range.mp (h.mem_iff.mp hx)

theorem perm_range_length {n : Nat} {l : List Nat} (h : l.Perm (List.range n)) : l.length = n := by
  simpa using h.length_eq

theorem perm_range_get_lt {n : Nat} {l : List Nat} (h : l.Perm (List.range n)) (k v : Nat)
    (hk : l[k]? = some v) : v < n := perm_range_lt h v (List.mem_of_getElem? hk)

theorem perm_range_getD_lt {n : Nat} {p : List Nat} (hp : p.Perm (List.range n)) {j : Nat} (hj : j < n) :
    p.getD j 0 < n := by
  rw [← perm_range_length hp] at hj
  exact perm_range_get_lt hp j _ (by rw [List.getD_eq_getElem?_getD, List.getElem?_eq_getElem hj]; rfl)

theorem perm_range_surj {n : Nat} {l : List Nat} (h : l.Perm (List.range n)) (v : Nat) (hv : v < n) :
    ∃ k, k < n ∧ l[k]? = some v := by
  have : v ∈ l := h.mem_iff.mpr (List.mem_range.mpr hv)
  obtain ⟨k, hk, e⟩ := List.mem_iff_getElem.mp this
  exact ⟨k, by rw [← perm_range_length h]; exact hk, by rw [List.getElem?_eq_getElem hk, e]⟩

theorem nodup_get_inj {l : List Nat} (h : l.Nodup) (i j v : Nat) (hi : l[i]? = some v)
    (hj : l[j]? = some v) : i = j := by
  obtain ⟨hi', e1⟩ := List.getElem?_eq_some_iff.mp hi
  obtain ⟨hj', e2⟩ := List.getElem?_eq_some_iff.mp hj
  have h1 := h.idxOf_getElem i hi'
  have h2 := h.idxOf_getElem j hj'
  rw [e1] at h1
  rw [e2] at h2
  omega

theorem ext_lt {α : Type} {n : Nat} {b c : List α} (hb : b.length = n) (hc : c.length = n)
    (h : ∀ v, v < n → b[v]? = c[v]?) : b = c := by
  apply List.ext_getElem?
  intro v
  by_cases hv : v < n
  · exact h v hv
  · rw [List.getElem?_eq_none (by omega), List.getElem?_eq_none (by omega)]

theorem ext_perm {α : Type} {n : Nat} {p : List Nat} (hp : p.Perm (List.range n)) {b c : List α}
    (hb : b.length = n) (hc : c.length = n) (h : ∀ k v : Nat, p[k]? = some v → b[v]? = c[v]?) :
    b = c :=
  ext_lt hb hc fun v hv => by
    obtain ⟨k, _, hk⟩ := perm_range_surj hp v hv
    exact h k v hk

theorem gather_perm_spec {α : Type} {n : Nat} {p : List Nat} {a : List α} (hp : p.Perm (List.range n))
    (ha : a.length = n) :
    ∃ b, gather a p = some b ∧ b.length = n ∧ ∀ k v : Nat, p[k]? = some v → b[k]? = a[v]? := by
  obtain ⟨b, hb⟩ := gather_exists a p (fun i hi => ha ▸ perm_range_lt hp i hi)
  exact ⟨b, hb, by rw [gather_length hb, perm_range_length hp], fun k v hk => (gather_get hb k v hk).1⟩

theorem perm_of_gather {n : Nat} {sigma pi r : List Nat} (hs : sigma.Perm (List.range n))
    (hpi : pi.Perm (List.range n)) (h : gather sigma pi = some r) : r.Perm (List.range n) := by
  have e2 : (List.range n).map (sigma.getD · 0) = sigma := by
    apply List.ext_getElem (by simp [perm_range_length hs])
    intro i h1 h2
    simp [List.getElem?_eq_getElem h2]
  rw [gather_eq_map h 0]
  refine (hpi.map _).trans ?_
  rw [e2]
  exact hs

def InvRel (p q : List Nat) : Prop := ∀ k v : Nat, p[k]? = some v → q[v]? = some k

theorem invLoop_cons (v : Nat) (vs : List Nat) (i : Nat) (res : List Nat) :
    invLoop (v :: vs) i res = if v < res.length then invLoop vs (i + 1) (res.set v i) else none := rfl

/-- The loop from position `i` on: entry `vs[k]` of the result is `i + k` (`InvRel` with the offset
    `i`) when `vs` has no repetition.  The third part (entries outside `vs` keep their value) is there
    for the induction. -/
theorem invLoop_spec (vs : List Nat) (i : Nat) (res out : List Nat) (h : invLoop vs i res = some out) :
    out.length = res.length ∧ (∀ v ∈ vs, v < res.length) ∧ (∀ j, j ∉ vs → out[j]? = res[j]?) ∧
    (vs.Nodup → ∀ k v, vs[k]? = some v → out[v]? = some (i + k)) := by
  induction vs generalizing i res with
  | nil =>
    cases h
    simp
  | cons v vs ih =>
    rw [invLoop_cons] at h
    split at h
    · rename_i hv
      obtain ⟨h1, h2, h3, h4⟩ := ih (i + 1) (res.set v i) h
      simp only [List.length_set] at h1 h2
      refine ⟨h1, ?_, ?_, ?_⟩
      · intro w hw
        rcases List.mem_cons.mp hw with rfl | hw
        · exact hv
        · exact h2 w hw
      · intro j hj
        simp only [List.mem_cons, not_or] at hj
        rw [h3 j hj.2, List.getElem?_set]
        simp [Ne.symm hj.1]
      · intro hnd k w hk
        have hnd' := List.nodup_cons.mp hnd
        cases k with
        | zero =>
          simp only [List.getElem?_cons_zero, Option.some.injEq] at hk
          subst hk
          rw [h3 v hnd'.1, List.getElem?_set]
          simp [hv]
        | succ k =>
          simp only [List.getElem?_cons_succ] at hk
          rw [h4 hnd'.2 k w hk]
          congr 1; omega
    · cases h

theorem invLoop_exists (vs : List Nat) (i : Nat) (res : List Nat) (h : ∀ v ∈ vs, v < res.length) :
    ∃ out, invLoop vs i res = some out := by
  induction vs generalizing i res with
  | nil => exact ⟨res, rfl⟩
  | cons v vs ih =>
    rw [invLoop_cons, if_pos (h v List.mem_cons_self)]
    exact ih _ _ (fun w hw => by simpa using h w (List.mem_cons_of_mem _ hw))

theorem executeInverse_spec (p q : List Nat) (h : executeInverse p = some q) :
    q.length = p.length ∧ (∀ v ∈ p, v < p.length) ∧ (p.Nodup → InvRel p q) := by
  obtain ⟨h1, h2, _, h4⟩ := invLoop_spec p 0 _ q h
  simp only [List.length_replicate] at h1 h2
  refine ⟨h1, h2, fun hn k v hk => ?_⟩
  simpa using h4 hn k v hk

theorem executeInverse_exists (p : List Nat) (h : ∀ v ∈ p, v < p.length) :
    ∃ q, executeInverse p = some q :=
  invLoop_exists p 0 _ (by simpa using h)

theorem invRel_perm {n : Nat} {p q : List Nat} (hp : p.Perm (List.range n)) (hq : q.length = n)
    (h : InvRel p q) : q.Perm (List.range n) ∧ InvRel q p := by
  have hconv : InvRel q p := by
    intro v k hv
    have hvn : v < n := by
      have := (List.getElem?_eq_some_iff.mp hv).1; omega
    obtain ⟨k', _, hk'⟩ := perm_range_surj hp v hvn
    have := h k' v hk'
    rw [hv] at this
    cases this
    exact hk'
  -- every `k < n` is an entry of `q` (at `p[k]`), and `q` has only `n` entries
  refine ⟨((List.subperm_of_subset List.nodup_range fun k hk => ?_).perm_of_length_le
    (by rw [hq, List.length_range]; exact Nat.le_refl n)).symm, hconv⟩
  have hk' : k < p.length := by rw [perm_range_length hp]; exact List.mem_range.mp hk
  exact List.mem_of_getElem? (h k p[k] (List.getElem?_eq_getElem hk'))

theorem sortNat_perm (p : List Nat) : (sortNat p).Perm p := isort_perm _ _

theorem sortNat_sorted (p : List Nat) : (sortNat p).Pairwise (· ≤ ·) := by
  apply isort_pairwise (R := (· ≤ ·)) _ (fun a b c => Nat.le_trans)
  · intro x _ y _ h
    exact Nat.le_of_lt (of_decide_eq_true h)
  · exact List.pairwise_of_forall (fun x y h => Nat.le_of_not_lt (of_decide_eq_false h))

theorem dedupAdj_cons_cons (x y : Nat) (r : List Nat) :
    dedupAdj (x :: y :: r) = if x = y then dedupAdj (y :: r) else x :: dedupAdj (y :: r) := rfl

theorem dedupAdj_length_le (s : List Nat) : (dedupAdj s).length ≤ s.length := by
  induction s with
  | nil => exact Nat.le_refl 0
  | cons x t ih =>
    cases t with
    | nil => exact Nat.le_refl 1
    | cons y r =>
      rw [dedupAdj_cons_cons]
      split
      · simp only [List.length_cons] at ih ⊢; omega
      · simp only [List.length_cons] at ih ⊢; omega

theorem dedupAdj_length_eq_iff (s : List Nat) (h : s.Pairwise (· ≤ ·)) :
    (dedupAdj s).length = s.length ↔ s.Nodup := by
  induction s with
  | nil => exact iff_of_true rfl List.nodup_nil
  | cons x t ih =>
    cases t with
    | nil => exact iff_of_true rfl (List.pairwise_singleton _ x)
    | cons y r =>
      have hx := List.pairwise_cons.mp h
      have hy := List.pairwise_cons.mp hx.2
      have ih := ih hx.2
      have hle := dedupAdj_length_le (y :: r)
      rw [dedupAdj_cons_cons]
      split
      · rename_i e
        subst e
        simp only [List.length_cons] at hle ⊢
        constructor
        · intro h'; omega
        · intro h'; simp at h'
      · rename_i ne
        -- `x ≤ y ≤` every element of `r` and `x ≠ y`, so `x` does not occur again
        have hnot : x ∉ y :: r := fun hm => by
          rcases List.mem_cons.mp hm with e | hm
          · exact ne e
          · have h1 := hx.1 y List.mem_cons_self
            have h2 := hy.1 x hm
            omega
        rw [List.nodup_cons, ← ih, List.length_cons, List.length_cons (a := x), Nat.add_right_cancel_iff]
        exact ⟨fun h' => ⟨hnot, h'⟩, fun h' => h'.2⟩

theorem noDupTest_iff (p : List Nat) : noDupTest p = true ↔ p.Nodup := by
  unfold noDupTest
  rw [beq_iff_eq, ← (sortNat_perm p).length_eq, dedupAdj_length_eq_iff _ (sortNat_sorted p)]
  exact (sortNat_perm p).nodup_iff

theorem inversePerm_spec {n : Nat} {p : List Nat} (hp : p.Perm (List.range n)) :
    ∃ q, inversePerm p = some q ∧ q.Perm (List.range n) ∧ InvRel p q ∧ InvRel q p := by
  have hlen := perm_range_length hp
  obtain ⟨q, hq⟩ := executeInverse_exists p (fun v hv => by rw [hlen]; exact perm_range_lt hp v hv)
  obtain ⟨h1, _, h3⟩ := executeInverse_spec p q hq
  have hrel := h3 (perm_range_nodup hp)
  obtain ⟨h4, h5⟩ := invRel_perm hp (by omega) hrel
  refine ⟨q, ?_, h4, hrel, h5⟩
  rw [inversePerm, (noDupTest_iff p).mpr (perm_range_nodup hp), if_pos rfl, hq]

theorem inversePerm_some {p q : List Nat} (h : inversePerm p = some q) :
    p.Perm (List.range p.length) := by
  unfold inversePerm at h
  split at h
  · rename_i hd
    obtain ⟨_, h2, _⟩ := executeInverse_spec p q h
    exact perm_range_of_nodup _ p ((noDupTest_iff p).mp hd) h2 rfl
  · cases h

theorem inversePerm_eq_of_invRel {n : Nat} {p q : List Nat} (hp : p.Perm (List.range n))
    (hq : q.Perm (List.range n)) (h : InvRel q p) : inversePerm p = some q := by
  obtain ⟨r, hr, hrp, h1, _⟩ := inversePerm_spec hp
  have h2 := (invRel_perm hq (perm_range_length hp) h).2
  rw [hr, ext_perm hp (perm_range_length hq) (perm_range_length hrp) fun k v hk => by
    rw [h2 k v hk, h1 k v hk]]

theorem invApply_spec {α : Type} {n : Nat} {p : List Nat} {a : List α} (hp : p.Perm (List.range n))
    (ha : a.length = n) :
    ∃ b, (inversePerm p).bind (gather a) = some b ∧ b.length = n ∧
      ∀ k v : Nat, p[k]? = some v → b[v]? = a[k]? := by
  obtain ⟨q, hq, hqp, h1, _⟩ := inversePerm_spec hp
  obtain ⟨b, hb, hbl, hb2⟩ := gather_perm_spec hqp ha
  exact ⟨b, by rw [hq, Option.bind_some, hb], hbl, fun k v hk => hb2 v k (h1 k v hk)⟩

theorem distinctCount_cons (x : Nat) (xs : List Nat) :
    distinctCount (x :: xs) = if x ∈ xs then distinctCount xs else distinctCount xs + 1 := rfl

theorem distinctCount_le (l : List Nat) : distinctCount l ≤ l.length := by
  induction l with
  | nil => exact Nat.le_refl 0
  | cons x xs ih =>
    rw [distinctCount_cons]
    split <;> simp only [List.length_cons] <;> omega

theorem distinctCount_eq_iff (l : List Nat) : distinctCount l = l.length ↔ l.Nodup := by
  induction l with
  | nil => exact iff_of_true rfl List.nodup_nil
  | cons x xs ih =>
    have hle := distinctCount_le xs
    simp only [distinctCount_cons, List.nodup_cons, List.length_cons]
    split
    · rename_i hm
      constructor
      · intro h; omega
      · intro h; exact absurd hm h.1
    · rename_i hm
      rw [Nat.add_right_cancel_iff, ih]
      exact ⟨fun h => ⟨hm, h⟩, fun h => h.2⟩

theorem isPermApply_iff (n : Nat) (p : List Nat) (hl : p.length = n) :
    isPermApply n p = true ↔ p.Perm (List.range n) := by
  rw [isPermApply, beq_iff_eq]
  constructor
  · intro h
    -- `n` distinct entries among those `< n` of a list of length `n`: none was filtered out
    have h1 := distinctCount_le (p.filter (· < n))
    have h2 := List.length_filter_le (fun x => decide (x < n)) p
    have h4 := List.length_filter_eq_length_iff.mp (show (p.filter (· < n)).length = p.length by omega)
    rw [List.filter_eq_self.mpr h4] at h
    exact perm_range_of_nodup n p ((distinctCount_eq_iff p).mp (h.trans hl.symm))
      (fun x hx => of_decide_eq_true (h4 x hx)) hl
  · intro h
    rw [List.filter_eq_self.mpr fun x hx => decide_eq_true (perm_range_lt h x hx),
      (distinctCount_eq_iff p).mpr (perm_range_nodup h), hl]

theorem applyPermOp_eq {α : Type} {p : List Nat} {a : List α} (hp : p.Perm (List.range a.length))
    (inv : Bool) :
    applyPermOp inv a p = if inv then (inversePerm p).bind (gather a) else gather a p := by
  rw [applyPermOp, (isPermApply_iff _ p (perm_range_length hp)).mpr hp, if_pos rfl, inversePerm,
    (noDupTest_iff p).mpr (perm_range_nodup hp), if_pos rfl]

theorem applyPermOp_some {α : Type} {inv : Bool} {p : List Nat} {a b : List α}
    (hl : p.length = a.length) (h : applyPermOp inv a p = some b) : p.Perm (List.range a.length) := by
  unfold applyPermOp at h
  split at h
  · rename_i hv
    exact (isPermApply_iff _ p hl).mp hv
  · cases h

end CCV.Sort
