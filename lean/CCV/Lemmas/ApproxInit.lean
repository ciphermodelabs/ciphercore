import CCV.Model.Approx
/-
  C20: the bit-derived initial approximations of ops/utils.rs (`inverse_initial_approximation`,
  `inverse_sqrt_initial_approximation`) as exact powers of two, for every cap `c` and every divisor of
  the domain; the brackets `2^(c-1) ≤ g·d < 2^c` and `4^(c-1) ≤ g²·d < 4^c` follow.  Core only.
  The width hypothesis `s ≤ 128` is there only so that the 128 doublings of the model's
  `next_power_of_two` reach `c` (resp. `2c`).
-/
namespace CCV.Approx

theorem nextPow2Aux_ge (n : Nat) :
    ∀ (fuel p : Nat), n ≤ p * 2 ^ fuel → n ≤ nextPow2Aux n fuel p
  | 0, p, h => by simpa [nextPow2Aux] using h
  | fuel + 1, p, h => by
    unfold nextPow2Aux
    split
    · assumption
    · apply nextPow2Aux_ge n fuel (2 * p)
      have e : 2 * p * 2 ^ fuel = p * 2 ^ (fuel + 1) := by
        rw [Nat.pow_succ, Nat.mul_comm 2 p, Nat.mul_assoc, Nat.mul_comm 2]
      omega

theorem nextPow2_ge {n : Nat} (h : n ≤ 2 ^ 128) : n ≤ nextPow2 n := by
  unfold nextPow2
  exact nextPow2Aux_ge n 128 1 (by omega)

example : nextPow2 10 = 16 := by decide
example : nextPow2 64 = 64 := by decide

theorem cumOr_eq {u c pow2 j : Nat} (hu : u < 2 ^ c) (hc : c ≤ j + pow2) :
    cumOr u pow2 j = decide (2 ^ j ≤ u) := by
  unfold cumOr
  have h1 : u < 2 ^ j * 2 ^ pow2 := by
    rw [← Nat.pow_add]
    exact Nat.lt_of_lt_of_le hu (Nat.pow_le_pow_right (by omega) hc)
  have h2 : u / 2 ^ j < 2 ^ pow2 := Nat.div_lt_of_lt_mul h1
  rw [Nat.mod_eq_of_lt h2]
  have hpos : 0 < 2 ^ j := Nat.two_pow_pos j
  rw [decide_eq_decide, Ne, Nat.div_eq_zero_iff]
  omega

theorem hob_eq {u c pow2 j : Nat} (hu : u < 2 ^ c) (hc : c ≤ j + pow2) :
    hob u pow2 j = decide (2 ^ j ≤ u ∧ u < 2 ^ (j + 1)) := by
  unfold hob
  rw [cumOr_eq hu hc, cumOr_eq hu (by omega : c ≤ j + 1 + pow2)]
  have hlt : 2 ^ j < 2 ^ (j + 1) := Nat.pow_lt_pow_right (by omega) (by omega)
  by_cases h1 : 2 ^ j ≤ u <;> by_cases h2 : 2 ^ (j + 1) ≤ u <;> simp [h1, h2] <;> omega

example : hob 5 4 2 = true ∧ hob 5 4 1 = false ∧ hob 5 4 0 = false := by decide

/-- `highest_one_bit_binary` marks the position `log2 u` of the highest set bit. -/
theorem hob_eq_log2 {u c pow2 j : Nat} (h0 : u ≠ 0) (hu : u < 2 ^ c) (hc : c ≤ j + pow2) :
    hob u pow2 j = decide (j = Nat.log2 u) := by
  rw [hob_eq hu hc, decide_eq_decide, ← Nat.le_log2 h0, ← Nat.log2_lt h0]
  omega

theorem hob_zero (pow2 j : Nat) : hob 0 pow2 j = false := by simp [hob, cumOr]

/-- the sum reads the indicator from position `c-1` downwards: a single mark at `j` gives
    `2^(c-1-j)`. -/
theorem initSum_onehot {h : Nat → Bool} {c j : Nat} (hh : ∀ i, i < c → h i = decide (i = j)) :
    ∀ n, n ≤ c → initSum h c n = if c - n ≤ j ∧ j < c then 2 ^ (c - 1 - j) else 0
  | 0, _ => by rw [if_neg (by omega)]; rfl
  | n + 1, hn => by
    have ih := initSum_onehot hh n (by omega)
    have hb := hh (c - 1 - n) (by omega)
    simp only [initSum, ih, hb, decide_eq_true_eq]
    by_cases hj : c - 1 - n = j
    · rw [if_pos hj, if_neg (by omega), if_pos (by omega), Nat.zero_add, ← hj]
      congr 1; omega
    · rw [if_neg hj, Nat.add_zero]
      have e : (c - n ≤ j ∧ j < c) ↔ (c - (n + 1) ≤ j ∧ j < c) := by omega
      simp only [e]

theorem initSum_false {h : Nat → Bool} (hh : ∀ i, h i = false) (c : Nat) : ∀ n, initSum h c n = 0
  | 0 => rfl
  | n + 1 => by simp [initSum, initSum_false hh c n, hh]

theorem initSqrtSum_eq_initSum (h : Nat → Bool) (c : Nat) :
    ∀ n, n ≤ c → initSqrtSum h c n = initSum (fun k => h (2 * k + 1) != h (2 * k)) c n
  | 0, _ => rfl
  | n + 1, hn => by
    have e1 : 2 * c - 2 * n - 1 = 2 * (c - 1 - n) + 1 := by omega
    have e2 : 2 * c - 2 * n - 2 = 2 * (c - 1 - n) := by omega
    simp only [initSqrtSum, initSum, initSqrtSum_eq_initSum h c n (by omega), e1, e2]

example : initSum (hob 3 16) 10 10 = 256 := by decide
example : initSqrtSum (hob 17 32) 10 10 = 128 := by decide

theorem residue_natCast {s u : Nat} (h : u < 2 ^ s) : residue s (u : Int) = u := by
  unfold residue
  have h' : (u : Int) < 2 ^ s := by exact_mod_cast h
  rw [Int.emod_eq_of_lt (Int.natCast_nonneg u) h']
  exact Int.toNat_natCast u

/-- `inverse_initial_approximation` is `2^(c-1-h)` for the highest set bit `h` of the divisor. -/
theorem initInv_eq {s c u : Nat} (hcs : c ≤ s) (hs : s ≤ 128) (h0 : u ≠ 0) (hu : u < 2 ^ c) :
    initInv s c (u : Int) = ((2 ^ (c - 1 - Nat.log2 u) : Nat) : Int) := by
  have hus : u < 2 ^ s := Nat.lt_of_lt_of_le hu (Nat.pow_le_pow_right (by omega) hcs)
  have hj : Nat.log2 u < c := (Nat.log2_lt h0).mpr hu
  have hp := nextPow2_ge (n := c) (by omega)
  unfold initInv
  simp only [residue_natCast hus]
  rw [initSum_onehot (fun i _ => hob_eq_log2 h0 hu (by omega)) c (Nat.le_refl c), if_pos (by omega)]

theorem two_pow_bracket {c j u : Nat} (hj : j < c) (hlo : 2 ^ j ≤ u) (hhi : u < 2 ^ (j + 1)) :
    2 ^ (c - 1) ≤ 2 ^ (c - 1 - j) * u ∧ 2 ^ (c - 1 - j) * u < 2 ^ c := by
  have h1 := Nat.mul_le_mul_left (2 ^ (c - 1 - j)) hlo
  have h2 := Nat.mul_lt_mul_of_pos_left hhi (Nat.two_pow_pos (c - 1 - j))
  rw [← Nat.pow_add] at h1 h2
  rw [show c - 1 - j + j = c - 1 by omega] at h1
  rw [show c - 1 - j + (j + 1) = c by omega] at h2
  exact ⟨h1, h2⟩

/-- the guess `g` has `g/2^c ∈ [1/(2d), 1/d)`. -/
theorem initInv_bracket {s c : Nat} {d : Int} (hcs : c ≤ s) (hs : s ≤ 128)
    (h0 : 0 < d) (hd : d < 2 ^ c) :
    2 ^ (c - 1) ≤ initInv s c d * d ∧ initInv s c d * d < 2 ^ c := by
  obtain ⟨u, rfl⟩ := Int.eq_ofNat_of_zero_le (Int.le_of_lt h0)
  have hu0 : u ≠ 0 := by omega
  have hu : u < 2 ^ c := by exact_mod_cast hd
  rw [initInv_eq hcs hs hu0 hu]
  exact_mod_cast two_pow_bracket ((Nat.log2_lt hu0).mpr hu) (Nat.log2_self_le hu0) Nat.lt_log2_self

theorem initInv_nonneg (s c : Nat) (d : Int) : 0 ≤ initInv s c d := Int.natCast_nonneg _

theorem initInv_zero (s c : Nat) : initInv s c 0 = 0 := by
  have : residue s 0 = 0 := by simp [residue]
  simp [initInv, this, initSum_false (hob_zero _)]

example : initInv 64 10 3 = 256 := by decide
example : initInv 64 10 1023 = 1 := by decide
example : (2 : Int) ^ (10 - 1) ≤ initInv 64 10 3 * 3 ∧ initInv 64 10 3 * 3 < 2 ^ 10 :=
  initInv_bracket (by decide) (by decide) (by decide) (by decide)

/-- `hob[2k+1] + hob[2k]` marks the pair that holds the highest set bit. -/
theorem bne_decide_half (k L : Nat) :
    (decide (2 * k + 1 = L) != decide (2 * k = L)) = decide (k = L / 2) := by
  rw [Bool.eq_iff_iff, bne_iff_ne, Ne, decide_eq_decide, decide_eq_true_eq]
  omega

/-- `inverse_sqrt_initial_approximation` is `2^(c-1-k)` when the highest set bit of `d` is in the
    pair `k` (`4^k ≤ d < 4^(k+1)`). -/
theorem initSqrt_eq {s c u : Nat} (hcs : 2 * c ≤ s) (hs : s ≤ 128) (h0 : u ≠ 0)
    (hu : u < 2 ^ (2 * c)) :
    initSqrt s c (u : Int) = ((2 ^ (c - 1 - Nat.log2 u / 2) : Nat) : Int) := by
  have hus : u < 2 ^ s := Nat.lt_of_lt_of_le hu (Nat.pow_le_pow_right (by omega) hcs)
  have hj : Nat.log2 u < 2 * c := (Nat.log2_lt h0).mpr hu
  have hp := nextPow2_ge (n := 2 * c) (by omega)
  unfold initSqrt
  simp only [residue_natCast hus]
  rw [initSqrtSum_eq_initSum _ c c (Nat.le_refl c),
    initSum_onehot (j := Nat.log2 u / 2) (fun i _ => ?_) c (Nat.le_refl c), if_pos (by omega)]
  rw [hob_eq_log2 h0 hu (by omega), hob_eq_log2 h0 hu (by omega)]
  exact bne_decide_half i _

theorem four_pow_eq_two_pow (m : Nat) : 4 ^ m = 2 ^ (2 * m) := by rw [Nat.pow_mul]

theorem four_pow_bracket {c k u : Nat} (hk : k < c) (hlo : 2 ^ (2 * k) ≤ u)
    (hhi : u < 2 ^ (2 * k + 2)) :
    4 ^ (c - 1) ≤ 2 ^ (c - 1 - k) * 2 ^ (c - 1 - k) * u ∧
      2 ^ (c - 1 - k) * 2 ^ (c - 1 - k) * u < 4 ^ c := by
  have hG := Nat.two_pow_pos (c - 1 - k)
  have h1 := Nat.mul_le_mul_left (2 ^ (c - 1 - k) * 2 ^ (c - 1 - k)) hlo
  have h2 := Nat.mul_lt_mul_of_pos_left hhi (Nat.mul_pos hG hG)
  have e1 : 2 ^ (c - 1 - k) * 2 ^ (c - 1 - k) * 2 ^ (2 * k) = 4 ^ (c - 1) := by
    rw [← Nat.pow_add, ← Nat.pow_add, four_pow_eq_two_pow]; congr 1; omega
  have e2 : 2 ^ (c - 1 - k) * 2 ^ (c - 1 - k) * 2 ^ (2 * k + 2) = 4 ^ c := by
    rw [← Nat.pow_add, ← Nat.pow_add, four_pow_eq_two_pow]; congr 1; omega
  rw [e1] at h1
  rw [e2] at h2
  exact ⟨h1, h2⟩

/-- the guess `g` has `g/2^c ∈ [1/(2√d), 1/√d)`. -/
theorem initSqrt_bracket {s c : Nat} {d : Int} (hcs : 2 * c ≤ s) (hs : s ≤ 128)
    (h0 : 0 < d) (hd : d < 4 ^ c) :
    4 ^ (c - 1) ≤ initSqrt s c d * initSqrt s c d * d ∧
      initSqrt s c d * initSqrt s c d * d < 4 ^ c := by
  obtain ⟨u, rfl⟩ := Int.eq_ofNat_of_zero_le (Int.le_of_lt h0)
  have hu0 : u ≠ 0 := by omega
  have hu : u < 2 ^ (2 * c) := by rw [← four_pow_eq_two_pow]; exact_mod_cast hd
  have hj : Nat.log2 u < 2 * c := (Nat.log2_lt hu0).mpr hu
  rw [initSqrt_eq hcs hs hu0 hu]
  -- `4^k ≤ 2^(log2 u) ≤ u < 2^(log2 u + 1) ≤ 4^(k+1)` for `k = log2 u / 2`
  exact_mod_cast four_pow_bracket (show Nat.log2 u / 2 < c by omega)
    (Nat.le_trans (Nat.pow_le_pow_right (by omega) (by omega)) (Nat.log2_self_le hu0))
    (Nat.lt_of_lt_of_le Nat.lt_log2_self (Nat.pow_le_pow_right (by omega) (by omega)))

theorem initSqrt_nonneg (s c : Nat) (d : Int) : 0 ≤ initSqrt s c d := Int.natCast_nonneg _

theorem initSqrt_zero (s c : Nat) : initSqrt s c 0 = 0 := by
  have : residue s 0 = 0 := by simp [residue]
  simp [initSqrt, this, initSqrtSum_eq_initSum, initSum_false, hob_zero]

example : initSqrt 64 10 1000000 = 1 := by decide
example : initSqrt 64 10 17 = 128 := by decide
example : (4 : Int) ^ (10 - 1) ≤ initSqrt 64 10 17 * initSqrt 64 10 17 * 17 ∧
    initSqrt 64 10 17 * initSqrt 64 10 17 * 17 < 4 ^ 10 :=
  initSqrt_bracket (by decide) (by decide) (by decide) (by decide)

end CCV.Approx
