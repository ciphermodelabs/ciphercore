import CCV.Lemmas.TypeInfer
/-
  Helper lemmas for C09: associativity of `broadcast_shapes` (positive dimensions).  Both bracketings
  are characterised column by column in the common width `max(|a|,|b|,|c|)` (`bracketL_iff`); the
  three-way column rule does not depend on the order of its arguments (`triL_rot`).
-/
namespace CCV.TI
open CCV CCV.TV

/-- column `j` of a shape right-aligned in width `n` (1 left of the shape) -/
def col (s : List Nat) (n j : Nat) : Nat := dimAt s (n - s.length) j

theorem col_lt (s : List Nat) (n j : Nat) (h : j < n - s.length) : col s n j = 1 := by
  unfold col dimAt
  rw [if_neg (by omega)]

theorem col_pos {s : List Nat} (hs : ∀ d ∈ s, 0 < d) (n j : Nat) : 0 < col s n j := dimAt_pos hs _ _

theorem col_shift (s : List Nat) (m n j : Nat) (hm : s.length ≤ m) (hn : m ≤ n) (hj : n - m ≤ j) :
    col s m (j - (n - m)) = col s n j := by
  unfold col dimAt
  by_cases h : n - s.length ≤ j
  · rw [if_pos h, if_pos (by omega)]
    congr 1
    omega
  · rw [if_neg h, if_neg (by omega)]

theorem col_self (s : List Nat) (m j : Nat) (hm : s.length = m) (h : j < s.length) : col s m j = s[j] := by
  unfold col
  have : m - s.length = 0 := by omega
  rw [this]
  exact dimAt_zero_lt s j h

theorem bcastDim_one_one : bcastDim 1 1 = .ok 1 := by simp [bcastDim]

theorem maxLen_ge (s1 s2 : List Nat) : s1.length ≤ maxLen s1 s2 ∧ s2.length ≤ maxLen s1 s2 := by
  unfold maxLen; split <;> omega

theorem broadcastShapes_padded (s1 s2 r : List Nat) (n : Nat) (hn : maxLen s1 s2 ≤ n) :
    broadcastShapes s1 s2 = .ok r ↔
      (r.length = maxLen s1 s2 ∧ ∀ j, j < n → bcastDim (col s1 n j) (col s2 n j) = .ok (col r n j)) := by
  obtain ⟨h1, h2⟩ := maxLen_ge s1 s2
  rw [broadcastShapes_ok_iff]
  generalize maxLen s1 s2 = M at *
  constructor
  · rintro ⟨hl, hd⟩
    refine ⟨hl, ?_⟩
    intro j hj
    by_cases hjm : n - M ≤ j
    · have hk : j - (n - M) < r.length := by omega
      have := hd _ hk
      rw [← col_shift s1 M n j h1 hn hjm, ← col_shift s2 M n j h2 hn hjm,
        ← col_shift r M n j (Nat.le_of_eq hl) hn hjm, col_self r M _ hl hk]
      exact this
    · rw [col_lt s1 n j (by omega), col_lt s2 n j (by omega), col_lt r n j (by omega)]
      exact bcastDim_one_one
  · rintro ⟨hl, hd⟩
    refine ⟨hl, ?_⟩
    intro k hk
    have hjm : n - M ≤ k + (n - M) := by omega
    have := hd (k + (n - M)) (by omega)
    rw [← col_shift s1 M n _ h1 hn hjm, ← col_shift s2 M n _ h2 hn hjm,
      ← col_shift r M n _ (Nat.le_of_eq hl) hn hjm, Nat.add_sub_cancel, col_self r M _ hl hk] at this
    exact this

theorem bcastDim_iff {x y c : Nat} (hx : 0 < x) (hy : 0 < y) :
    bcastDim x y = .ok c ↔ ((x = c ∨ x = 1) ∧ (y = c ∨ y = 1) ∧ (c = x ∨ c = y)) := by
  constructor
  · intro h
    obtain ⟨h1, h2, _⟩ := bcastDim_ok_pos hx hy h
    obtain ⟨_, h3⟩ := bcastDim_ok h
    refine ⟨h1, h2, ?_⟩
    rw [h3]; split <;> simp
  · intro h
    unfold bcastDim
    rw [if_neg (by omega)]
    congr 1
    split <;> omega

def triL (x y z : Nat) : Option Nat :=
  match bcastDim x y with
  | .ok xy => (bcastDim xy z).toOption
  | .error _ => none

theorem toOption_eq_some {α : Type} {e : Except String α} {r : α} : e.toOption = some r ↔ e = .ok r := by
  cases e <;> simp [Except.toOption]

theorem triL_iff (x y z r : Nat) : triL x y z = some r ↔ ∃ xy, bcastDim x y = .ok xy ∧ bcastDim xy z = .ok r := by
  unfold triL
  cases h : bcastDim x y with
  | error e => simp
  | ok xy => simp [toOption_eq_some]

theorem triL_sym {x y z : Nat} (hx : 0 < x) (hy : 0 < y) (hz : 0 < z) (r : Nat) :
    triL x y z = some r ↔
      (x = r ∨ x = 1) ∧ (y = r ∨ y = 1) ∧ (z = r ∨ z = 1) ∧ (r = x ∨ r = y ∨ r = z) := by
  rw [triL_iff]
  constructor
  · rintro ⟨xy, h1, h2⟩
    obtain ⟨a1, a2, a3⟩ := (bcastDim_iff hx hy).mp h1
    rcases a3 with rfl | rfl
    · obtain ⟨b1, b2, b3⟩ := (bcastDim_iff hx hz).mp h2
      exact ⟨b1, a2.elim (fun h => h ▸ b1) .inr, b2, b3.elim .inl fun h => .inr (.inr h)⟩
    · obtain ⟨b1, b2, b3⟩ := (bcastDim_iff hy hz).mp h2
      exact ⟨a1.elim (fun h => h ▸ b1) .inr, b1, b2, b3.elim (fun h => .inr (.inl h)) fun h => .inr (.inr h)⟩
  · rintro ⟨a, b, c, d⟩
    by_cases hr : x = r ∨ y = r
    · exact ⟨r, (bcastDim_iff hx hy).mpr ⟨a, b, hr.elim (fun h => .inl h.symm) fun h => .inr h.symm⟩,
        (bcastDim_iff (hr.elim (· ▸ hx) (· ▸ hy)) hz).mpr ⟨.inl rfl, c, .inl rfl⟩⟩
    · -- neither `x` nor `y` is the result: both are 1 and the result is `z`
      cases a.resolve_left fun h => hr (.inl h)
      cases b.resolve_left fun h => hr (.inr h)
      cases (d.resolve_left fun h => hr (.inl h.symm)).resolve_left fun h => hr (.inr h.symm)
      exact ⟨1, (bcastDim_iff hx hy).mpr ⟨.inl rfl, .inl rfl, .inl rfl⟩,
        (bcastDim_iff hx hz).mpr ⟨.inr rfl, .inl rfl, .inr rfl⟩⟩

theorem triL_rot (x y z : Nat) (hx : 0 < x) (hy : 0 < y) (hz : 0 < z) : triL x y z = triL y z x := by
  apply Option.ext
  intro r
  rw [triL_sym hx hy hz, triL_sym hy hz hx]
  exact ⟨fun ⟨a, b, c, d⟩ => ⟨b, c, a, d.elim (fun h => .inr (.inr h)) (·.elim .inl fun h => .inr (.inl h))⟩,
    fun ⟨a, b, c, d⟩ => ⟨c, a, b, d.elim (fun h => .inr (.inl h)) (·.elim (fun h => .inr (.inr h)) .inl)⟩⟩

def n3 (x y z : Nat) : Nat := max (max x y) z

theorem n3_rot (x y z : Nat) : n3 x y z = n3 y z x := by
  unfold n3
  rw [Nat.max_assoc, Nat.max_comm]

theorem maxLen_max (s1 s2 : List Nat) : maxLen s1 s2 = max s1.length s2.length := Nat.max_def.symm

theorem bracketL_iff (a b c r : List Nat) :
    (match broadcastShapes a b with
      | .ok ab => (broadcastShapes ab c).toOption
      | .error _ => none) = some r ↔
    (r.length = n3 a.length b.length c.length ∧
      ∀ j, j < n3 a.length b.length c.length →
        triL (col a (n3 a.length b.length c.length) j) (col b (n3 a.length b.length c.length) j)
          (col c (n3 a.length b.length c.length) j) = some (col r (n3 a.length b.length c.length) j)) := by
  generalize hN : n3 a.length b.length c.length = N
  have hM : maxLen a b ≤ N := by rw [← hN, maxLen_max]; exact Nat.le_max_left _ _
  have hNc : ∀ ab : List Nat, ab.length = maxLen a b → maxLen ab c = N := by
    intro ab hab
    rw [← hN, maxLen_max, hab, maxLen_max]
    rfl
  constructor
  · intro h
    cases hab : broadcastShapes a b with
    | error e => rw [hab] at h; cases h
    | ok ab =>
      rw [hab] at h
      have h : (broadcastShapes ab c).toOption = some r := h
      have h := toOption_eq_some.mp h
      obtain ⟨l1, d1⟩ := (broadcastShapes_padded a b ab N hM).mp hab
      obtain ⟨l2, d2⟩ := (broadcastShapes_padded ab c r N (Nat.le_of_eq (hNc ab l1))).mp h
      refine ⟨by rw [l2, hNc ab l1], ?_⟩
      intro j hj
      exact (triL_iff _ _ _ _).mpr ⟨_, d1 j hj, d2 j hj⟩
  · rintro ⟨hl, hd⟩
    have hex : ∃ ab, broadcastShapes a b = .ok ab := by
      rw [broadcastShapes_eq]
      apply loopE_total
      intro k hk
      obtain ⟨xy, h1, _⟩ := (triL_iff _ _ _ _).mp (hd (k + (N - maxLen a b)) (by omega))
      have hjm : N - maxLen a b ≤ k + (N - maxLen a b) := by omega
      rw [← col_shift a _ N _ (maxLen_ge a b).1 hM hjm, ← col_shift b _ N _ (maxLen_ge a b).2 hM hjm,
        Nat.add_sub_cancel] at h1
      exact ⟨xy, by simpa [col] using h1⟩
    obtain ⟨ab, hab⟩ := hex
    rw [hab]
    show (broadcastShapes ab c).toOption = some r
    apply toOption_eq_some.mpr
    obtain ⟨l1, d1⟩ := (broadcastShapes_padded a b ab N hM).mp hab
    refine (broadcastShapes_padded ab c r N (Nat.le_of_eq (hNc ab l1))).mpr ⟨by rw [hl, hNc ab l1], ?_⟩
    intro j hj
    obtain ⟨xy, h1, h2⟩ := (triL_iff _ _ _ _).mp (hd j hj)
    have : xy = col ab N j := by
      have := (d1 j hj).symm.trans h1
      injection this with this
      exact this.symm
    rw [← this]
    exact h2

/-- both bracketings are `some r` for the same `r` (`bracketL_iff` twice, the second time with the operands
    rotated, and `triL_rot` column by column); `a·(b·c)` is first turned into `(b·c)·a` by commutativity -/
theorem broadcastShapes_assoc (a b c : List Nat) (ha : ∀ d ∈ a, 0 < d) (hb : ∀ d ∈ b, 0 < d)
    (hc : ∀ d ∈ c, 0 < d) :
    (match broadcastShapes a b with
      | .ok ab => (broadcastShapes ab c).toOption
      | .error _ => none) =
    (match broadcastShapes b c with
      | .ok bc => (broadcastShapes a bc).toOption
      | .error _ => none) := by
  have e : (match broadcastShapes b c with
      | .ok bc => (broadcastShapes a bc).toOption
      | .error _ => none) =
      (match broadcastShapes b c with
      | .ok bc => (broadcastShapes bc a).toOption
      | .error _ => none) := by
    cases broadcastShapes b c with
    | error e => rfl
    | ok bc => simp only [broadcastShapes_comm a bc]
  rw [e]
  apply Option.ext
  intro r
  rw [bracketL_iff a b c r, bracketL_iff b c a r, n3_rot b.length c.length a.length,
    n3_rot c.length a.length b.length]
  constructor
  · rintro ⟨hl, hd⟩
    refine ⟨hl, fun j hj => ?_⟩
    rw [← triL_rot _ _ _ (col_pos ha _ _) (col_pos hb _ _) (col_pos hc _ _)]
    exact hd j hj
  · rintro ⟨hl, hd⟩
    refine ⟨hl, fun j hj => ?_⟩
    rw [triL_rot _ _ _ (col_pos ha _ _) (col_pos hb _ _) (col_pos hc _ _)]
    exact hd j hj

end CCV.TI
