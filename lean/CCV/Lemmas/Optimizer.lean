import CCV.Model.Optimizer
/-
  Semantics of the optimiser IR (generic in the operation semantics) and the generic soundness
  argument used by C06: a pass whose result *structurally refines* the source (every mapped node
  is sent to a node with the same operation and the re-mapped dependencies, or to a constant with
  the right value) preserves the value of every mapped node.
-/
namespace CCV.Optimizer

theorem lt_of_getElem?_some {α} {l : List α} {y : α} {k : Nat} (h : l[k]? = some y) : k < l.length := by
  obtain ⟨hk, _⟩ := List.getElem?_eq_some_iff.mp h
  exact hk

theorem getElem?_append_some {α} {l : List α} {y : α} {k : Nat} (ext : List α) (h : l[k]? = some y) :
    (l ++ ext)[k]? = some y := by
  rw [List.getElem?_append_left (lt_of_getElem?_some h)]; exact h

theorem getElem?_snoc_cases {α} {l : List α} {x y : α} {k : Nat} (h : (l ++ [x])[k]? = some y) :
    l[k]? = some y ∨ (k = l.length ∧ x = y) := by
  rw [List.getElem?_append] at h
  split at h
  · exact Or.inl h
  · rw [List.getElem?_singleton] at h
    split at h
    · exact Or.inr ⟨by omega, Option.some.inj h⟩
    · cases h

theorem getD_none_eq_some {α} {l : List (Option α)} {i : Nat} {a : α} :
    l.getD i none = some a ↔ l[i]? = some (some a) := by
  rw [List.getD_eq_getElem?_getD]
  cases l[i]? with
  | none => simp
  | some x => simp

theorem getD_true_iff (marks : List Bool) (j : Nat) :
    marks.getD j false = true ↔ marks[j]? = some true := by
  rw [List.getD_eq_getElem?_getD]
  cases h : marks[j]? with
  | none => simp
  | some b => simp

theorem Op.isConstant_plain {op : Op} (h : op.isConstant = true) :
    op.isInput = false ∧ op.isRandom = false ∧ op.isPrf = false :=
  match op, h with
  | .constant _ _, _ => ⟨rfl, rfl, rfl⟩

theorem Op.foldable_plain {op : Op} (h : op.foldable = true) :
    op.isInput = false ∧ op.isRandom = false ∧ op.isPrf = false := by
  cases op with
  | input | random | prf => cases h
  | _ => exact ⟨rfl, rfl, rfl⟩

variable {V : Type}

/-- a randomising node takes the oracle draw `rnd idx`, keyed by its node id; PRF goes through `sem`:
    a deterministic function of its key -/
def nodeVal (sem : Op → List V → V) (inp : Nat → V) (dv : V) (rnd : Nat → List V → V)
    (env : List V) (nin idx : Nat) (n : Node) : V :=
  match n.op with
  | .input _ => inp nin
  | .random _ => rnd idx (n.deps.map fun d => env.getD d dv)
  | op => sem op (n.deps.map fun d => env.getD d dv)

def countIn (ns : List Node) : Nat := (ns.filter fun n => n.op.isInput).length

/-- recursion on the reversed list, so that appending a node to a graph is one unfolding
    (`eval_snoc`) -/
def evalRev (sem : Op → List V → V) (inp : Nat → V) (dv : V) (rnd : Nat → List V → V) :
    List Node → List V
  | [] => []
  | n :: rest =>
    evalRev sem inp dv rnd rest ++
      [nodeVal sem inp dv rnd (evalRev sem inp dv rnd rest) (countIn rest.reverse) rest.length n]

def eval (sem : Op → List V → V) (inp : Nat → V) (dv : V) (rnd : Nat → List V → V)
    (ns : List Node) : List V :=
  evalRev sem inp dv rnd ns.reverse

def inputsOf (ns : List Node) : List (Op × Option Nat × Ty) :=
  (ns.filter fun n => n.op.isInput).map fun n => (n.op, n.name, n.ty)

def Closed (ns : List Node) : Prop := ∀ (k : Nat) (n : Node), ns[k]? = some n → ∀ d ∈ n.deps, d < k

section
variable (sem : Op → List V → V) (inp : Nat → V) (dv : V) (rnd : Nat → List V → V)

theorem evalRev_cons (n : Node) (rest : List Node) :
    evalRev sem inp dv rnd (n :: rest) =
      evalRev sem inp dv rnd rest ++
        [nodeVal sem inp dv rnd (evalRev sem inp dv rnd rest) (countIn rest.reverse) rest.length n] := rfl

theorem eval_snoc (ns : List Node) (n : Node) :
    eval sem inp dv rnd (ns ++ [n]) =
      eval sem inp dv rnd ns ++
        [nodeVal sem inp dv rnd (eval sem inp dv rnd ns) (countIn ns) ns.length n] := by
  simp [eval, evalRev_cons]

theorem evalRev_length (r : List Node) : (evalRev sem inp dv rnd r).length = r.length := by
  induction r with
  | nil => rfl
  | cons n r ih => simp [evalRev_cons, ih]

theorem eval_length (ns : List Node) : (eval sem inp dv rnd ns).length = ns.length := by
  simp [eval, evalRev_length]

theorem eval_prefix (ns l : List Node) :
    ∃ s, eval sem inp dv rnd (ns ++ l) = eval sem inp dv rnd ns ++ s := by
  induction l generalizing ns with
  | nil => exact ⟨[], by simp⟩
  | cons a l ih =>
    obtain ⟨s, hs⟩ := ih (ns ++ [a])
    rw [List.append_assoc, eval_snoc, List.append_assoc] at hs
    exact ⟨_, hs⟩

theorem eval_getD_append (ns l : List Node) (k : Nat) (hk : k < ns.length) :
    (eval sem inp dv rnd (ns ++ l)).getD k dv = (eval sem inp dv rnd ns).getD k dv := by
  obtain ⟨s, hs⟩ := eval_prefix sem inp dv rnd ns l
  rw [hs, List.getD_eq_getElem?_getD, List.getD_eq_getElem?_getD,
    List.getElem?_append_left (by rw [eval_length]; exact hk)]

theorem nodeVal_eq {rnd rnd' : Nat → List V → V} {env env' : List V} {nin nin' idx idx' : Nat}
    {n n' : Node} (hop : n'.op = n.op)
    (hargs : (n'.deps.map fun d => env'.getD d dv) = n.deps.map fun d => env.getD d dv)
    (hin : n.op.isInput = true → nin' = nin) (hr : n.op.isRandom = true → rnd' idx' = rnd idx) :
    nodeVal sem inp dv rnd' env' nin' idx' n' = nodeVal sem inp dv rnd env nin idx n := by
  unfold nodeVal
  rw [hop, hargs]
  split
  · rename_i h; rw [hin (by rw [h]; rfl)]
  · rename_i h; rw [hr (by rw [h]; rfl)]
  · rfl

theorem nodeVal_plain (env : List V) (nin idx : Nat) (n : Node) (h1 : n.op.isInput = false)
    (h2 : n.op.isRandom = false) :
    nodeVal sem inp dv rnd env nin idx n = sem n.op (n.deps.map fun d => env.getD d dv) := by
  unfold nodeVal
  split
  · rename_i h; rw [h] at h1; cases h1
  · rename_i h; rw [h] at h2; cases h2
  · rfl

theorem eval_spec (ns : List Node) (hc : Closed ns) (k : Nat) (n : Node) (hn : ns[k]? = some n) :
    (eval sem inp dv rnd ns).getD k dv =
      nodeVal sem inp dv rnd (eval sem inp dv rnd ns) (countIn (ns.take k)) k n := by
  have hk : k < ns.length := lt_of_getElem?_some hn
  have hlen : (ns.take k).length = k := by rw [List.length_take]; omega
  have hsplit : ns = (ns.take k ++ [n]) ++ ns.drop (k + 1) := by
    have h1 : ns.take (k + 1) = ns.take k ++ [n] := by rw [List.take_add_one, hn]; rfl
    rw [← h1, List.take_append_drop]
  -- the value at k is decided by the prefix up to k, and so are the values of the dependencies
  have e1 : (eval sem inp dv rnd ns).getD k dv =
      (eval sem inp dv rnd (ns.take k ++ [n])).getD k dv := by
    conv => lhs; rw [hsplit]
    exact eval_getD_append sem inp dv rnd _ _ k (by simp [hlen])
  rw [e1, eval_snoc, List.getD_eq_getElem?_getD,
    List.getElem?_append_right (by rw [eval_length, hlen]; exact Nat.le_refl k)]
  simp only [eval_length, hlen, Nat.sub_self, List.getElem?_cons_zero, Option.getD_some]
  refine nodeVal_eq sem inp dv rfl (List.map_congr_left fun d hd => ?_) (fun _ => rfl) (fun _ => rfl)
  have := eval_getD_append sem inp dv rnd (ns.take k) (ns.drop k) d (by rw [hlen]; exact hc k n hn d hd)
  rw [List.take_append_drop] at this
  exact this.symm

end

def Maps (m : Mapping) (i k : Nat) : Prop := m[i]? = some (some k)

theorem look_of_maps {m : Mapping} {i k : Nat} (h : Maps m i k) : look m i = k := by
  unfold look
  rw [List.getD_eq_getElem?_getD, h]; rfl

theorem maps_lt {m : Mapping} {i k : Nat} (h : Maps m i k) : i < m.length := lt_of_getElem?_some h

theorem maps_append_left {m : Mapping} {x : Option Nat} {i k : Nat} (h : Maps m i k) :
    Maps (m ++ [x]) i k := getElem?_append_some [x] h

theorem maps_append_cases {m : Mapping} {x : Option Nat} {i k : Nat} (h : Maps (m ++ [x]) i k) :
    Maps m i k ∨ (i = m.length ∧ x = some k) := getElem?_snoc_cases h

theorem maps_append_new (m : Mapping) (k : Nat) : Maps (m ++ [some k]) m.length k := by
  unfold Maps; simp

theorem maps_snoc_cases {pre : List Node} {m : Mapping} (hlen : m.length = pre.length) {n n0 : Node}
    {x : Option Nat} {i k : Nat} (h : Maps (m ++ [x]) i k) (hn0 : (pre ++ [n])[i]? = some n0) :
    (Maps m i k ∧ pre[i]? = some n0) ∨ (i = pre.length ∧ x = some k ∧ n0 = n) := by
  rcases maps_append_cases h with h | ⟨hi, hx⟩
  · rw [List.getElem?_append_left (hlen ▸ maps_lt h)] at hn0
    exact Or.inl ⟨h, hn0⟩
  · rw [hi, hlen, List.getElem?_concat_length] at hn0
    exact Or.inr ⟨hi.trans hlen, hx, (Option.some.inj hn0).symm⟩

theorem map_look_append (m : Mapping) (x : Option Nat) (ds : List Nat)
    (h : ∀ d ∈ ds, d < m.length) : ds.map (look (m ++ [x])) = ds.map (look m) :=
  List.map_congr_left fun d hd => by
    unfold look
    rw [List.getD_eq_getElem?_getD, List.getD_eq_getElem?_getD, List.getElem?_append_left (h d hd)]

theorem countIn_append (a b : List Node) : countIn (a ++ b) = countIn a + countIn b := by
  simp [countIn]

theorem inputsOf_append (a b : List Node) : inputsOf (a ++ b) = inputsOf a ++ inputsOf b := by
  simp [inputsOf]

theorem countIn_eq_inputsOf (l : List Node) : countIn l = (inputsOf l).length := by
  simp [countIn, inputsOf]

theorem inputsOf_noInput (ext : List Node) (h : ∀ n ∈ ext, n.op.isInput = false) : inputsOf ext = [] := by
  unfold inputsOf
  rw [List.filter_eq_nil_iff.mpr fun n hn => by rw [h n hn]; exact Bool.false_ne_true]; rfl

theorem inputsOf_singleton_congr {n n' : Node} (hop : n'.op = n.op) (hname : n'.name = n.name)
    (hty : n'.ty = n.ty) : inputsOf [n'] = inputsOf [n] := by
  simp only [inputsOf, List.filter, hop]
  cases n.op.isInput
  · rfl
  · simp only [List.map_cons, List.map_nil, hop, hname, hty]

theorem closed_snoc {out : List Node} {n : Node} (h : Closed out) (hn : ∀ d ∈ n.deps, d < out.length) :
    Closed (out ++ [n]) := by
  intro k n' hk d hd
  rcases getElem?_snoc_cases hk with hk | ⟨rfl, rfl⟩
  · exact h k n' hk d hd
  · exact hn d hd

/-- the condition of `Refines.img` on the image `n'` of `n`. The second disjunct is a Constant node
    standing for a folded node, or for a Constant with the same value id and another number -/
def Img (m : Mapping) (n n' : Node) : Prop :=
  (n'.op = n.op ∧ n'.deps = n.deps.map (look m) ∧ ∀ d ∈ n.deps, ∃ kd, Maps m d kd) ∨
  (n'.op.isConstant ∧ n'.op ≠ n.op ∧ n'.deps = [] ∧ !n.op.isInput ∧ !n.op.isRandom)

def ImgOK (out : List Node) (m : Mapping) (n : Node) (k : Nat) : Prop :=
  ∃ n', out[k]? = some n' ∧ Img m n n'

theorem ImgOK.append_out {out : List Node} {m : Mapping} {n : Node} {k : Nat} (h : ImgOK out m n k)
    (ext : List Node) : ImgOK (out ++ ext) m n k := by
  obtain ⟨n', hn', hc⟩ := h
  exact ⟨n', getElem?_append_some ext hn', hc⟩

theorem ImgOK.append_map {out : List Node} {m : Mapping} {n : Node} {k : Nat} (h : ImgOK out m n k)
    (x : Option Nat) : ImgOK out (m ++ [x]) n k := by
  obtain ⟨n', hn', ⟨h1, h2, h3⟩ | hc⟩ := h
  · refine ⟨n', hn', Or.inl ⟨h1, ?_, fun d hd => ?_⟩⟩
    · rw [h2, map_look_append]
      intro d hd; obtain ⟨kd, hkd⟩ := h3 d hd; exact maps_lt hkd
    · obtain ⟨kd, hkd⟩ := h3 d hd; exact ⟨kd, maps_append_left hkd⟩
  · exact ⟨n', hn', Or.inr hc⟩

structure Refines (src out : List Node) (m : Mapping) : Prop where
  closedOut : Closed out
  bound : ∀ i k, Maps m i k → i < src.length ∧ k < out.length
  img : ∀ i k n, Maps m i k → src[i]? = some n →
    ∃ n', out[k]? = some n' ∧
      ((n'.op = n.op ∧ n'.deps = n.deps.map (look m) ∧ ∀ d ∈ n.deps, ∃ kd, Maps m d kd) ∨
       (n'.op.isConstant ∧ n'.op ≠ n.op ∧ n'.deps = [] ∧ !n.op.isInput ∧ !n.op.isRandom))
  inputs : ∀ i k n, Maps m i k → src[i]? = some n → n.op.isInput →
    countIn (out.take k) = countIn (src.take i)

section
variable (sem : Op → List V → V) (inp : Nat → V) (dv : V)

/-- by induction on the source node, using that in a closed graph the value of a node is `nodeVal` of
    the final environment (`eval_spec`) -/
theorem Refines.sound {src out : List Node} {m : Mapping} (R : Refines src out m)
    (hsrc : Closed src) (rO rN : Nat → List V → V)
    (hrnd : ∀ i k n, Maps m i k → src[i]? = some n → n.op.isRandom → rN k = rO i)
    (hconst : ∀ i k n n', Maps m i k → src[i]? = some n → out[k]? = some n' → n'.op.isConstant → n'.op ≠ n.op →
      sem n'.op [] = (eval sem inp dv rO src).getD i dv) :
    ∀ i k, Maps m i k →
      (eval sem inp dv rN out).getD k dv = (eval sem inp dv rO src).getD i dv := by
  intro i
  induction i using Nat.strongRecOn with
  | _ i ih =>
    intro k hik
    have hi := (R.bound i k hik).1
    have hn : src[i]? = some src[i] := List.getElem?_eq_getElem hi
    obtain ⟨n', hn', ⟨hop, hdeps, hmapped⟩ | ⟨hc, hne, hd0, _⟩⟩ := R.img i k src[i] hik hn
    · rw [eval_spec sem inp dv rN out R.closedOut k n' hn', eval_spec sem inp dv rO src hsrc i src[i] hn]
      refine nodeVal_eq sem inp dv hop ?_ (R.inputs i k src[i] hik hn) (hrnd i k src[i] hik hn)
      rw [hdeps, List.map_map]
      refine List.map_congr_left fun d hd => ?_
      obtain ⟨kd, hkd⟩ := hmapped d hd
      simp only [Function.comp, look_of_maps hkd]
      exact ih d (hsrc i src[i] hn d hd) kd hkd
    · rw [← hconst i k src[i] n' hik hn hn' hc hne, eval_spec sem inp dv rN out R.closedOut k n' hn',
        nodeVal_plain sem inp dv rN _ _ _ n' (Op.isConstant_plain hc).1 (Op.isConstant_plain hc).2.1, hd0]
      rfl

end

theorem Refines.extend {pre out : List Node} {m : Mapping} (R : Refines pre out m)
    (hlen : m.length = pre.length) (n : Node) (ext : List Node) (x : Option Nat)
    (hclosed : Closed (out ++ ext))
    (hx : ∀ k, x = some k → ImgOK (out ++ ext) m n k ∧
      (n.op.isInput → countIn ((out ++ ext).take k) = countIn pre)) :
    Refines (pre ++ [n]) (out ++ ext) (m ++ [x]) := by
  refine ⟨hclosed, fun i k h => ?_, fun i k n0 h hn0 => ?_, fun i k n0 h hn0 hin => ?_⟩
  · rw [List.length_append, List.length_append]
    rcases maps_append_cases h with h | ⟨hi, hx'⟩
    · have := R.bound i k h; omega
    · obtain ⟨n', hn', _⟩ := (hx k hx').1
      have := lt_of_getElem?_some hn'
      rw [List.length_append] at this; simp; omega
  · rcases maps_snoc_cases hlen h hn0 with ⟨h, hn0⟩ | ⟨_, hx', rfl⟩
    · exact (ImgOK.append_out (R.img i k n0 h hn0) ext).append_map x
    · exact (hx k hx').1.append_map x
  · rcases maps_snoc_cases hlen h hn0 with ⟨h, hn0⟩ | ⟨rfl, hx', rfl⟩
    · obtain ⟨hi, hk⟩ := R.bound i k h
      rw [List.take_append_of_le_length (Nat.le_of_lt hi), List.take_append_of_le_length (Nat.le_of_lt hk)]
      exact R.inputs i k n0 h hn0 hin
    · rw [(hx k hx').2 hin, List.take_left]

theorem Refines.out_lt {src out : List Node} {m : Mapping} (R : Refines src out m) {o k : Nat}
    (h : Maps m o k) : look m o < out.length :=
  look_of_maps h ▸ (R.bound o k h).2

theorem Refines.nil : Refines [] [] [] :=
  ⟨fun k n h => by simp at h, fun i k h => by simp [Maps] at h, fun i k n h => by simp [Maps] at h,
   fun i k n h => by simp [Maps] at h⟩

end CCV.Optimizer
