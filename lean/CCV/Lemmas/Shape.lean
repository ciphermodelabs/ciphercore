import CCV.Model.Shape

/-!
  Lemmas about the index arithmetic model `CCV.Model.Shape`: row-major bijection
  (`indexToNumber` / `numberToIndex`), broadcasting index law, `broadcastToShape` entrywise.
-/
namespace CCV.Shape

theorem block_div_mod {x i P : Nat} (hi : i < P) : (x * P + i) / P = x ∧ (x * P + i) % P = i := by
  have hP : 0 < P := Nat.lt_of_le_of_lt (Nat.zero_le i) hi
  constructor
  · rw [Nat.mul_comm, Nat.mul_add_div hP, Nat.div_eq_of_lt hi, Nat.add_zero]
  · rw [Nat.mul_comm, Nat.mul_add_mod, Nat.mod_eq_of_lt hi]

theorem getD_map_range {α : Type} {d : α} (n : Nat) (f : Nat → α) (i : Nat) (h : i < n) :
    ((List.range n).map f).getD i d = f i := by
  rw [List.getD_eq_getElem?_getD, List.getElem?_map, List.getElem?_range h, Option.map_some,
    Option.getD_some]

theorem pos_cons {d : Nat} {ds : List Nat} (h : pos (d :: ds)) : 0 < d ∧ pos ds :=
  ⟨h d (List.mem_cons_self), fun x hx => h x (List.mem_cons_of_mem _ hx)⟩

theorem pos_append {s1 s2 : List Nat} (h1 : pos s1) (h2 : pos s2) : pos (s1 ++ s2) := by
  intro d hd
  rcases List.mem_append.mp hd with h | h
  · exact h1 d h
  · exact h2 d h

theorem pos_snoc {s : List Nat} (hs : pos s) {d : Nat} (hd : 0 < d) : pos (s ++ [d]) :=
  pos_append hs fun _ h => List.mem_singleton.mp h ▸ hd

theorem prod_pos {shape : List Nat} (h : pos shape) : 0 < prod shape := by
  induction shape with
  | nil => simp [prod]
  | cons d ds ih =>
    have ⟨hd, hds⟩ := pos_cons h
    simp only [prod]
    exact Nat.mul_pos hd (ih hds)

theorem prod_append (s1 s2 : List Nat) : prod (s1 ++ s2) = prod s1 * prod s2 := by
  induction s1 with
  | nil => simp [prod]
  | cons d ds ih => simp only [List.cons_append, prod, ih, Nat.mul_assoc]

theorem prod_single (d : Nat) : prod [d] = d := Nat.mul_one d

theorem prod_axis (sP : List Nat) (d : Nat) (sR : List Nat) :
    prod (sP ++ [d] ++ sR) = prod sP * d * prod sR := by
  rw [prod_append, prod_append, prod_single]

theorem prod_append_pair (b : List Nat) (P Q : Nat) : prod (b ++ [P, Q]) = prod b * (P * Q) := by
  rw [prod_append]
  simp only [prod, Nat.mul_one]

@[elab_as_elim] theorem validIdx.rec' {motive : List Nat → List Nat → Prop} (nil : motive [] [])
    (cons : ∀ x xs d ds, x < d → validIdx xs ds → motive xs ds → motive (x :: xs) (d :: ds)) :
    ∀ {idx shape : List Nat}, validIdx idx shape → motive idx shape
  | [], [], _ => nil
  | x :: xs, d :: ds, h => cons x xs d ds h.1 h.2 (validIdx.rec' nil cons h.2)
  | [], _ :: _, h => h.elim
  | _ :: _, [], h => h.elim

theorem validIdx_pos {idx shape : List Nat} (h : validIdx idx shape) : pos shape := by
  refine validIdx.rec' ?_ (fun x xs d ds hx _ ih => ?_) h
  · intro d hd; cases hd
  · intro e he
    rcases List.mem_cons.mp he with rfl | he
    · omega
    · exact ih e he

theorem validIdx_length {idx shape : List Nat} (h : validIdx idx shape) :
    idx.length = shape.length := by
  refine validIdx.rec' ?_ (fun x xs d ds _ _ ih => ?_) h
  · rfl
  · rw [List.length_cons, List.length_cons, ih]

theorem validIdx_single {k K : Nat} (h : k < K) : validIdx [k] [K] := ⟨h, trivial⟩

theorem validIdx_pair {a b A B : Nat} (ha : a < A) (hb : b < B) : validIdx [a, b] [A, B] :=
  ⟨ha, hb, trivial⟩

theorem validIdx_append {i1 s1 i2 s2 : List Nat} (h1 : validIdx i1 s1) (h2 : validIdx i2 s2) :
    validIdx (i1 ++ i2) (s1 ++ s2) := by
  refine validIdx.rec' ?_ (fun x xs d ds hx _ ih => ?_) h1
  · exact h2
  · exact ⟨hx, ih⟩

theorem validIdx_append_inv {i1 s1 i2 s2 : List Nat} (hl : i1.length = s1.length)
    (h : validIdx (i1 ++ i2) (s1 ++ s2)) : validIdx i1 s1 ∧ validIdx i2 s2 := by
  induction s1 generalizing i1 with
  | nil =>
    cases i1 with
    | nil => exact ⟨trivial, by simpa using h⟩
    | cons x xs => simp at hl
  | cons d ds ih =>
    cases i1 with
    | nil => simp at hl
    | cons x xs =>
      simp only [List.length_cons, Nat.add_right_cancel_iff] at hl
      simp only [List.cons_append, validIdx] at h
      have := ih hl h.2
      exact ⟨⟨h.1, this.1⟩, this.2⟩

theorem validIdx_drop {I sr : List Nat} (h : validIdx I sr) (k : Nat) :
    validIdx (I.drop k) (sr.drop k) := by
  revert k
  refine validIdx.rec' ?_ (fun x xs d ds hx hxs ih => ?_) h
  · intro k
    simp only [List.drop_nil]
    trivial
  · intro k
    cases k with
    | zero => exact ⟨hx, hxs⟩
    | succ k => exact ih k

theorem validIdx_getD {I s : List Nat} (h : validIdx I s) (k : Nat) (hk : k < s.length) :
    I.getD k 0 < s.getD k 0 := by
  revert k
  refine validIdx.rec' ?_ (fun x xs d ds hx _ ih => ?_) h
  · intro k hk; cases hk
  · intro k hk
    cases k with
    | zero => exact hx
    | succ k => exact ih k (Nat.lt_of_succ_lt_succ hk)

theorem validIdx_iff_getD (I s : List Nat) :
    validIdx I s ↔ I.length = s.length ∧ ∀ k, k < s.length → I.getD k 0 < s.getD k 0 := by
  constructor
  · intro h; exact ⟨validIdx_length h, fun k hk => validIdx_getD h k hk⟩
  · intro ⟨hl, hd⟩
    induction s generalizing I with
    | nil => cases I with
      | nil => trivial
      | cons x xs => simp at hl
    | cons d ds ih =>
      cases I with
      | nil => simp at hl
      | cons x xs =>
        simp only [validIdx]
        refine ⟨by simpa using hd 0 (by simp), ih xs (by simpa using hl) ?_⟩
        intro k hk
        simpa using hd (k + 1) (by simpa using hk)

theorem validIdx_map_getD {I shape : List Nat} (h : validIdx I shape) (perm : List Nat)
    (hlt : ∀ j ∈ perm, j < shape.length) :
    validIdx (perm.map fun j => I.getD j 0) (perm.map fun j => shape.getD j 0) := by
  induction perm with
  | nil => trivial
  | cons a l ih =>
    simp only [List.map_cons, validIdx]
    exact ⟨validIdx_getD h a (hlt a List.mem_cons_self),
      ih (fun j hj => hlt j (List.mem_cons_of_mem _ hj))⟩

theorem flat_lt {idx shape : List Nat} (h : validIdx idx shape) : flat idx shape < prod shape := by
  refine validIdx.rec' ?_ (fun x xs d ds hx _ ih => ?_) h
  · exact Nat.zero_lt_one
  · have h3 : (x + 1) * prod ds ≤ d * prod ds := Nat.mul_le_mul_right _ hx
    rw [Nat.add_mul, Nat.one_mul] at h3
    simp only [flat, prod]
    omega

theorem prod_replicate_one (n : Nat) (s : List Nat) : prod (List.replicate n 1 ++ s) = prod s := by
  induction n with
  | zero => rfl
  | succ n ih => rw [List.replicate_succ, List.cons_append, prod, ih, Nat.one_mul]

theorem flat_replicate (n : Nat) (K s : List Nat) :
    flat (List.replicate n 0 ++ K) (List.replicate n 1 ++ s) = flat K s := by
  induction n with
  | zero => rfl
  | succ n ih =>
    rw [List.replicate_succ, List.replicate_succ, List.cons_append, List.cons_append, flat, ih, Nat.zero_mul,
      Nat.zero_add]

theorem validIdx_replicate (n : Nat) (K s : List Nat) (h : validIdx K s) :
    validIdx (List.replicate n 0 ++ K) (List.replicate n 1 ++ s) := by
  induction n with
  | zero => simpa using h
  | succ n ih => simp [List.replicate_succ, validIdx, ih]

theorem flat_append {i1 s1 : List Nat} (h1 : i1.length = s1.length) (i2 s2 : List Nat) :
    flat (i1 ++ i2) (s1 ++ s2) = flat i1 s1 * prod s2 + flat i2 s2 := by
  induction s1 generalizing i1 with
  | nil =>
    cases i1 with
    | nil => simp [flat]
    | cons x xs => simp at h1
  | cons d ds ih =>
    cases i1 with
    | nil => simp at h1
    | cons x xs =>
      simp only [List.length_cons, Nat.add_right_cancel_iff] at h1
      simp only [List.cons_append, flat, ih h1, prod_append, Nat.add_mul, Nat.mul_assoc,
        Nat.add_assoc]

theorem flat_append3 {P sP Q sQ : List Nat} (hP : P.length = sP.length) (hQ : Q.length = sQ.length)
    (R sR : List Nat) :
    flat (P ++ Q ++ R) (sP ++ sQ ++ sR) = (flat P sP * prod sQ + flat Q sQ) * prod sR + flat R sR := by
  rw [flat_append (by rw [List.length_append, List.length_append, hP, hQ]), flat_append hP]

theorem flat_single (x d : Nat) : flat [x] [d] = x := by
  simp only [flat, prod, Nat.mul_one, Nat.add_zero]

theorem flat_axis {P sP : List Nat} (hP : P.length = sP.length) (x d : Nat) (R sR : List Nat) :
    flat (P ++ [x] ++ R) (sP ++ [d] ++ sR) = (flat P sP * d + x) * prod sR + flat R sR := by
  rw [flat_append3 hP (Q := [x]) (sQ := [d]) rfl, prod_single, flat_single]

theorem flat_append_pair (γ b : List Nat) (h : γ.length = b.length) (i k P Q : Nat) :
    flat (γ ++ [i, k]) (b ++ [P, Q]) = flat γ b * (P * Q) + i * Q + k := by
  rw [flat_append h]
  simp only [flat, prod, Nat.mul_one, Nat.add_zero, Nat.add_assoc]

theorem i2nAux_eq (acc : Nat) (idx shape : List Nat) :
    i2nAux acc idx shape = acc * prod shape + i2nAux 0 idx shape := by
  induction shape generalizing acc idx with
  | nil => simp [i2nAux, prod]
  | cons d ds ih =>
    simp only [i2nAux, prod]
    rw [ih (acc * d + _), ih (0 * d + _)]
    simp only [Nat.zero_mul, Nat.zero_add, Nat.add_mul, Nat.mul_assoc, Nat.add_assoc]

theorem indexToNumber_cons (x d : Nat) (xs ds : List Nat) :
    indexToNumber (x :: xs) (d :: ds) = (x % d) * prod ds + indexToNumber xs ds := by
  simp only [indexToNumber, i2nAux, List.headD_cons, List.tail_cons, Nat.zero_mul, Nat.zero_add]
  rw [i2nAux_eq]

theorem indexToNumber_eq_flat {idx shape : List Nat} (h : validIdx idx shape) :
    indexToNumber idx shape = flat idx shape := by
  refine validIdx.rec' ?_ (fun x xs d ds hx _ ih => ?_) h
  · rfl
  · rw [indexToNumber_cons, ih, Nat.mod_eq_of_lt hx]
    rfl

theorem i2nAux_append (acc : Nat) (J s T t : List Nat) (h : J.length = s.length) :
    i2nAux acc (J ++ T) (s ++ t) = i2nAux (i2nAux acc J s) T t := by
  induction s generalizing acc J with
  | nil =>
    cases J with
    | nil => simp only [List.nil_append, i2nAux]
    | cons x xs => simp at h
  | cons d ds ih =>
    cases J with
    | nil => simp at h
    | cons x xs =>
      simp only [List.length_cons, Nat.add_right_cancel_iff] at h
      simp only [List.cons_append, i2nAux, List.headD_cons, List.tail_cons]
      exact ih _ xs h

theorem indexToNumber_append (J s T t : List Nat) (h : J.length = s.length) :
    indexToNumber (J ++ T) (s ++ t) = indexToNumber J s * prod t + indexToNumber T t := by
  unfold indexToNumber
  rw [i2nAux_append _ _ _ _ _ h, i2nAux_eq]

theorem numberToIndex_cons {d : Nat} (hd : 0 < d) (n : Nat) (ds : List Nat) :
    numberToIndex n (d :: ds) = (n / prod ds) :: numberToIndex (n % prod ds) ds := by
  simp only [numberToIndex, n2iAux, prod, Nat.mul_div_cancel_left _ hd]

theorem numberToIndex_valid {shape : List Nat} (hp : pos shape) {n : Nat} (hn : n < prod shape) :
    validIdx (numberToIndex n shape) shape := by
  induction shape generalizing n with
  | nil => simp [numberToIndex, n2iAux, validIdx]
  | cons d ds ih =>
    have ⟨hd, hds⟩ := pos_cons hp
    rw [numberToIndex_cons hd]
    simp only [validIdx]
    simp only [prod] at hn
    refine ⟨?_, ih hds (Nat.mod_lt _ (prod_pos hds))⟩
    apply Nat.div_lt_of_lt_mul
    rw [Nat.mul_comm]; exact hn

theorem flat_numberToIndex {shape : List Nat} (hp : pos shape) {n : Nat} (hn : n < prod shape) :
    flat (numberToIndex n shape) shape = n := by
  induction shape generalizing n with
  | nil =>
    simp only [prod] at hn
    simp only [numberToIndex, n2iAux, flat]; omega
  | cons d ds ih =>
    have ⟨hd, hds⟩ := pos_cons hp
    rw [numberToIndex_cons hd]
    simp only [flat]
    rw [ih hds (Nat.mod_lt _ (prod_pos hds)), Nat.mul_comm]
    exact Nat.div_add_mod n (prod ds)

theorem indexToNumber_numberToIndex {shape : List Nat} (hp : pos shape) {n : Nat}
    (hn : n < prod shape) : indexToNumber (numberToIndex n shape) shape = n := by
  rw [indexToNumber_eq_flat (numberToIndex_valid hp hn), flat_numberToIndex hp hn]

theorem numberToIndex_flat {idx shape : List Nat} (h : validIdx idx shape) :
    numberToIndex (flat idx shape) shape = idx := by
  refine validIdx.rec' ?_ (fun x xs d ds hx hxs ih => ?_) h
  · rfl
  · obtain ⟨h1, h2⟩ := block_div_mod (x := x) (flat_lt hxs)
    rw [numberToIndex_cons (Nat.lt_of_le_of_lt (Nat.zero_le x) hx)]
    simp only [flat]
    rw [h1, h2, ih]

theorem numberToIndex_indexToNumber {idx shape : List Nat} (h : validIdx idx shape) :
    numberToIndex (indexToNumber idx shape) shape = idx := by
  rw [indexToNumber_eq_flat h, numberToIndex_flat h]

theorem flat_inj {I J s : List Nat} (hI : validIdx I s) (hJ : validIdx J s)
    (h : flat I s = flat J s) : I = J := by
  rw [← numberToIndex_flat hI, ← numberToIndex_flat hJ, h]

theorem bcAligned_index_law {s rs J : List Nat} (hb : bcAligned s rs) (hJ : validIdx J rs) :
    indexToNumber J s = flat (List.zipWith (fun d x => if d = 1 then 0 else x) s J) s ∧
      validIdx (List.zipWith (fun d x => if d = 1 then 0 else x) s J) s := by
  induction s generalizing rs J with
  | nil =>
    cases rs with
    | nil => cases J with
      | nil => simp [indexToNumber, i2nAux, flat, validIdx]
      | cons x xs => simp [validIdx] at hJ
    | cons r rs => simp [bcAligned] at hb
  | cons d ds ih =>
    cases rs with
    | nil => simp [bcAligned] at hb
    | cons r rs =>
      cases J with
      | nil => simp [validIdx] at hJ
      | cons x xs =>
        simp only [bcAligned] at hb
        simp only [validIdx] at hJ
        have ⟨e, v⟩ := ih hb.2 hJ.2
        rw [indexToNumber_cons, e]
        simp only [List.zipWith_cons_cons, flat, validIdx]
        by_cases h1 : d = 1
        · subst h1
          simp [v, Nat.mod_one]
        · have hdr : d = r := by rcases hb.1 with h | h; exact absurd h h1; exact h
          subst hdr
          simp only [h1, if_false, Nat.mod_eq_of_lt hJ.1]
          exact ⟨trivial, hJ.1, v⟩

theorem bcAligned_of_getD : ∀ (s rs : List Nat), s.length = rs.length →
    (∀ i, i < s.length → s.getD i 0 = 1 ∨ s.getD i 0 = rs.getD i 0) → bcAligned s rs
  | [], [], _, _ => trivial
  | _ :: ds, _ :: rs, hl, h =>
    ⟨h 0 (Nat.succ_pos _), bcAligned_of_getD ds rs (Nat.succ.inj hl) fun i hi => h (i + 1) (Nat.succ_lt_succ hi)⟩
  | [], _ :: _, hl, _ => nomatch hl
  | _ :: _, [], hl, _ => nomatch hl

theorem bcAligned_refl : ∀ (s : List Nat), bcAligned s s
  | [] => trivial
  | _ :: ds => ⟨Or.inr rfl, bcAligned_refl ds⟩

theorem bcOK_refl (s : List Nat) : bcOK s s := by
  refine ⟨Nat.le_refl _, ?_⟩
  rw [Nat.sub_self, List.drop_zero]
  exact bcAligned_refl s

theorem bcOK_one {s : List Nat} (h : s ≠ []) : bcOK [1] s := by
  have hl : 0 < s.length := List.length_pos_iff.mpr h
  have e : (s.drop (s.length - 1)).length = 1 := by rw [List.length_drop]; omega
  refine ⟨hl, bcAligned_of_getD [1] _ e.symm fun i hi => ?_⟩
  cases Nat.lt_one_iff.mp hi
  exact Or.inl rfl

theorem bcDrop_length {s sr I : List Nat} (hb : bcOK s sr) (hI : validIdx I sr) :
    (I.drop (sr.length - s.length)).length = s.length := by
  rw [List.length_drop, validIdx_length hI]
  exact Nat.sub_sub_self hb.1

/-- broadcasting index law: what the evaluator computes (drop the leading digits, then
    `index_to_number` with its `% d`) is the row-major position of the NumPy broadcast index -/
theorem broadcast_index_law {s sr I : List Nat} (hb : bcOK s sr) (hI : validIdx I sr) :
    indexToNumber (I.drop (sr.length - s.length)) s = flat (bcIdx s I) s ∧
      validIdx (bcIdx s I) s := by
  have hl := validIdx_length hI
  have := bcAligned_index_law hb.2 (validIdx_drop hI (sr.length - s.length))
  simp only [bcIdx, hl]
  exact this

theorem zipWith_bc : ∀ {s I : List Nat}, validIdx I s →
    List.zipWith (fun d x => if d = 1 then 0 else x) s I = I
  | [], [], _ => rfl
  | d :: ds, x :: xs, h => by
    rw [List.zipWith_cons_cons, zipWith_bc h.2]
    by_cases hd : d = 1
    · have := h.1
      rw [if_pos hd]
      congr 1
      omega
    · rw [if_neg hd]

theorem bcIdx_self {s I : List Nat} (h : validIdx I s) : bcIdx s I = I := by
  unfold bcIdx
  rw [validIdx_length h, Nat.sub_self, List.drop_zero]
  exact zipWith_bc h

theorem broadcast_index_law_append {s sr β T t : List Nat} (hb : bcOK s sr) (hβ : validIdx β sr)
    (hT : validIdx T t) :
    indexToNumber (β.drop (sr.length - s.length) ++ T) (s ++ t) = flat (bcIdx s β ++ T) (s ++ t) := by
  have ⟨e, v⟩ := broadcast_index_law hb hβ
  rw [indexToNumber_append _ _ _ _ (bcDrop_length hb hβ), e, indexToNumber_eq_flat hT,
    flat_append (validIdx_length v)]

theorem broadcastToShape_getD (arr : List Nat) {s sr I : List Nat} (hb : bcOK s sr)
    (hI : validIdx I sr) :
    (broadcastToShape arr s sr).getD (flat I sr) 0 = arr.getD (flat (bcIdx s I) s) 0 := by
  unfold broadcastToShape
  rw [getD_map_range _ _ _ (flat_lt hI), numberToIndex_flat hI, (broadcast_index_law hb hI).1]

theorem broadcastToShape_length (arr s sr : List Nat) :
    (broadcastToShape arr s sr).length = prod sr := by
  simp [broadcastToShape]

example : numberToIndex 17 [2, 3, 4] = [1, 1, 1] := by decide

example : indexToNumber [1, 1, 1] [2, 3, 4] = 17 := by decide

example : flat [1, 2, 3] [2, 3, 4] = 23 := by decide
example : broadcastToShape [10, 20, 30] [3, 1] [2, 3, 2]
    = [10, 10, 20, 20, 30, 30, 10, 10, 20, 20, 30, 30] := by decide

example : bcIdx [3, 1] [1, 2, 1] = [2, 0] := by decide

end CCV.Shape
