import CCV.Lemmas.SortKeys
import CCV.Lemmas.Compare
/-
  Integer keys (C18): the bit string `integer_to_bits` makes, read as a number, is the integer plus a
  fixed offset.
-/
namespace CCV.Sort
open CCV.Compare

theorem cv_rev (l : List Bool) : cv (l.reverse.map bit) = ofBits l := by
  induction l with
  | nil => rfl
  | cons b bs ih =>
    rw [List.reverse_cons, List.map_append, List.map_singleton, cv_append_single, ih, ofBits_cons]
    omega

theorem isBits_map_bit (l : List Bool) : IsBits (l.map bit) := by
  intro x hx
  obtain ⟨b, _, rfl⟩ := List.mem_map.mp hx
  cases b <;> simp [bit]

/-- values of the scalar type: `w = 0` is `BIT` -/
def InRange (signed : Bool) (w : Nat) (x : Int) : Prop :=
  if w = 0 then 0 ≤ x ∧ x < 2
  else if signed = true then -(2 : Int) ^ (w - 1) ≤ x ∧ x < (2 : Int) ^ (w - 1)
  else 0 ≤ x ∧ x < (2 : Int) ^ w

def keyOffset (signed : Bool) (w : Nat) : Int := if w ≠ 0 ∧ signed = true then (2 : Int) ^ (w - 1) else 0

/-- the residue `integer_to_bits` hands to A2B: `x` itself, or `x + 2^w` when `x` is negative -/
theorem residue_spec (w : Nat) (x : Int) (h1 : -(2 : Int) ^ w ≤ x) (h2 : x < (2 : Int) ^ w) :
    ((x % (2 : Int) ^ w).toNat : Int) = (if x < 0 then x + 2 ^ w else x) ∧
      (x % (2 : Int) ^ w).toNat < 2 ^ w := by
  have hpos : (0 : Int) < 2 ^ w := Int.pow_pos (by omega)
  have hcast : ((2 ^ w : Nat) : Int) = (2 : Int) ^ w := by simp
  have hmod : x % (2 : Int) ^ w = if x < 0 then x + 2 ^ w else x := by
    split
    · rw [← Int.add_emod_right x ((2 : Int) ^ w)]
      exact Int.emod_eq_of_lt (by omega) (by omega)
    · exact Int.emod_eq_of_lt (by omega) h2
  have hnat : ((x % (2 : Int) ^ w).toNat : Int) = x % (2 : Int) ^ w :=
    Int.toNat_of_nonneg (Int.emod_nonneg _ (by omega))
  refine ⟨hnat.trans hmod, ?_⟩
  have := Int.emod_lt_of_pos x hpos
  omega

theorem intKeyBits_spec (signed : Bool) (w : Nat) (x : Int) (hx : InRange signed w x) :
    IsBits (intKeyBits signed w x) ∧ (intKeyBits signed w x).length = (if w = 0 then 1 else w) ∧
      (cv (intKeyBits signed w x) : Int) = x + keyOffset signed w := by
  unfold InRange at hx
  by_cases hw : w = 0
  · subst hw
    simp only [if_true] at hx
    have : x = 0 ∨ x = 1 := by omega
    rcases this with rfl | rfl <;> simp [intKeyBits, IsBits, cv_nil, cv_cons, keyOffset]
  · simp only [hw, if_false] at hx
    have hpw : (2 : Int) ^ w = 2 * 2 ^ (w - 1) := by
      rw [show w = (w - 1) + 1 by omega, Int.pow_succ]; simp; omega
    have hpos : (0 : Int) < 2 ^ (w - 1) := Int.pow_pos (by omega)
    cases signed with
    | false =>
      simp only [Bool.false_eq_true, if_false] at hx
      obtain ⟨hr, hrlt⟩ := residue_spec w x (by omega) hx.2
      simp only [intKeyBits, hw, if_false, Bool.false_eq_true]
      refine ⟨isBits_map_bit _, by simp [toBits_length], ?_⟩
      show (cv ((toBits w _).reverse.map bit) : Int) = _
      rw [cv_rev, ofBits_toBits _ _ hrlt, hr, if_neg (by omega)]
      simp [keyOffset]
    | true =>
      simp only [if_true] at hx
      obtain ⟨hr, hrlt⟩ := residue_spec w x (by omega) (by omega)
      have hne : toBits w (x % (2 : Int) ^ w).toNat ≠ [] := by
        intro h
        have := congrArg List.length h
        rw [toBits_length] at this
        exact hw this
      simp only [intKeyBits, hw, if_false, if_true]
      refine ⟨isBits_map_bit _, by simp [flipMsb_length _ hne, toBits_length], ?_⟩
      show (cv ((flipMsb (toBits w _)).reverse.map bit) : Int) = _
      rw [cv_rev, ofBits_flipMsb _ hne, sval_toBits _ _ (by omega) hrlt, toBits_length]
      simp only [keyOffset, hw, ne_eq, not_false_eq_true, and_self, if_true]
      -- the two's-complement reading of the residue is `x` again
      have hcast : ((2 ^ (w - 1) : Nat) : Int) = (2 : Int) ^ (w - 1) := by simp
      unfold toInt
      split <;> split at hr <;> omega

end CCV.Sort
