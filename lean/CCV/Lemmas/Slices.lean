import CCV.Model.Slices
import CCV.Model.Spec
import CCV.Model.Ops
import CCV.Lemmas.Shape
/-
  Slice lemmas (C10): every slice accepted by the model of slices.rs means what Python's
  `slice(b, e, s).indices(dim)` / NumPy basic slicing says.
-/
namespace CCV.Slices
open CCV CCV.Shape

/-- decidable equality of results, for the `decide` examples only -/
@[instance_reducible] private def exceptDecEq {α : Type} [DecidableEq α] : DecidableEq (Except String α)
  | .ok a, .ok b => if h : a = b then isTrue (by rw [h]) else isFalse (by intro h'; cases h'; exact h rfl)
  | .error a, .error b => if h : a = b then isTrue (by rw [h]) else isFalse (by intro h'; cases h'; exact h rfl)
  | .ok _, .error _ => isFalse (by intro h; cases h)
  | .error _, .ok _ => isFalse (by intro h; cases h)
attribute [local instance] exceptDecEq

theorem countLoop_spec (dim : Nat) (e step : Int) (hs : step ≠ 0) (fuel : Nat) (cur : Int) (cnt c : Nat)
    (h : countLoop dim e step fuel cur cnt = .ok c) :
    cnt ≤ c ∧
    (∀ k : Nat, k < c - cnt → 0 ≤ cur + step * k ∧ cur + step * k < dim ∧
        (if 0 < step then cur + step * k < e else cur + step * k > e)) ∧
    (if 0 < step then e ≤ cur + step * ((c - cnt : Nat) : Int) else cur + step * ((c - cnt : Nat) : Int) ≤ e) := by
  induction fuel generalizing cur cnt with
  | zero => simp [countLoop] at h
  | succ fuel ih =>
    unfold countLoop at h
    split at h
    · rename_i hstop
      cases h
      refine ⟨Nat.le_refl _, ?_, ?_⟩
      · intro k hk; omega
      · simp only [Nat.sub_self, Int.natCast_zero, Int.mul_zero, Int.add_zero]
        split <;> omega
    · rename_i hstop
      split at h
      · cases h
      · rename_i hin
        obtain ⟨h1, h2, h3⟩ := ih _ _ h
        have key : ∀ k : Nat, cur + step + step * (k : Int) = cur + step * ((k + 1 : Nat) : Int) := by
          intro k
          rw [Int.natCast_succ, Int.mul_add, Int.mul_one]; omega
        refine ⟨by omega, ?_, ?_⟩
        · intro k hk
          cases k with
          | zero =>
            simp only [Int.natCast_zero, Int.mul_zero, Int.add_zero]
            refine ⟨by omega, by omega, ?_⟩
            split <;> omega
          | succ k =>
            rw [← key]
            exact h2 k (by omega)
        · have hc : c - cnt = (c - (cnt + 1)) + 1 := by omega
          rw [hc, ← key]
          exact h3

example : countLoop 5 (-1) (-2) 6 4 0 = .ok 3 := by decide

/-- normalised begin of `normalize_subarray` -/
def nBegin (dim : Nat) (b : Option Int) (step : Int) : Int :=
  let b0 := b.getD (if 0 < step then 0 else (dim : Int) - 1)
  if b0 < 0 then b0 + dim else b0

/-- normalised end of `normalize_subarray` -/
def nEnd (dim : Nat) (e : Option Int) (step : Int) : Int :=
  match e with
  | some x => if 0 ≤ x then x else x + dim
  | none => if 0 < step then (dim : Int) else -1

theorem normalizeSubarray_eq (dim : Nat) (b e s : Option Int) :
    normalizeSubarray dim b e s =
      if s.getD 1 = 0 then .error "Slice step can't be zero"
      else .ok (nBegin dim b (s.getD 1), nEnd dim e (s.getD 1), s.getD 1) := rfl

theorem getSliceShape1d_sub_ok (dim : Nat) (b e s : Option Int) (c : Nat)
    (h : getSliceShape1d dim (.sub b e s) = .ok (some c)) :
    s.getD 1 ≠ 0 ∧ c ≠ 0 ∧
    countLoop dim (nEnd dim e (s.getD 1)) (s.getD 1) (dim + 1) (nBegin dim b (s.getD 1)) 0 = .ok c := by
  simp only [getSliceShape1d] at h
  rw [normalizeSubarray_eq] at h
  by_cases h0 : s.getD 1 = 0
  · simp [h0] at h
  · simp only [if_neg h0] at h
    refine ⟨h0, ?_⟩
    split at h
    · cases h
    · cases h
    · rename_i c' hne hc
      cases h
      exact ⟨hne, hc⟩

/-- monotonicity facts about `step * j` that `omega` cannot derive itself -/
theorem mul_facts (step : Int) (j c : Nat) :
    (0 < step → 0 ≤ step * (j : Int)) ∧ (step < 0 → step * (j : Int) ≤ 0) ∧
    (0 < step → c ≤ j → step * (c : Int) ≤ step * (j : Int)) ∧
    (step < 0 → c ≤ j → step * (j : Int) ≤ step * (c : Int)) := by
  refine ⟨?_, ?_, ?_, ?_⟩
  · intro h; exact Int.mul_nonneg (by omega) (by omega)
  · intro h; exact Int.mul_nonpos_of_nonpos_of_nonneg (by omega) (by omega)
  · intro h hcj; exact Int.mul_le_mul_of_nonneg_left (by omega) (by omega)
  · intro h hcj; exact Int.mul_le_mul_of_nonpos_left (by omega) (by omega)

/-- the bounds Python clamps to: `[0, dim]` for a positive step, `[-1, dim - 1]` for a negative one -/
theorem clamp_bounds (dim : Nat) (step : Int) :
    (if 0 < step then (0 : Int) else -1) ≤ 0 ∧
      (dim : Int) - 1 ≤ (if 0 < step then (dim : Int) else (dim : Int) - 1) ∧
      (if 0 < step then (0 : Int) else -1) ≤ (if 0 < step then (dim : Int) else (dim : Int) - 1) := by
  split <;> omega

theorem pyStop_eq (dim : Nat) (e : Option Int) (step : Int) :
    Spec.pyStop dim e step = max (if 0 < step then 0 else -1)
      (min (nEnd dim e step) (if 0 < step then (dim : Int) else (dim : Int) - 1)) := by
  obtain ⟨hL, hU, hLU⟩ := clamp_bounds dim step
  unfold Spec.pyStop nEnd
  cases e with
  | none => simp only []; split <;> omega
  | some x =>
    simp only []
    generalize (if 0 < step then (0 : Int) else -1) = L at *
    generalize (if 0 < step then (dim : Int) else (dim : Int) - 1) = U at *
    by_cases hx : x < 0
    · rw [if_pos hx, if_neg (by omega)]; omega
    · rw [if_neg hx, if_pos (by omega)]; omega

theorem pyStart_eq (dim : Nat) (b : Option Int) (step : Int) (h0 : 0 ≤ nBegin dim b step)
    (h1 : nBegin dim b step < dim) : nBegin dim b step = Spec.pyStart dim b step := by
  obtain ⟨hL, hU, hLU⟩ := clamp_bounds dim step
  revert h0 h1
  unfold nBegin Spec.pyStart
  cases b with
  | none => simp only [Option.getD_none]; split <;> omega
  | some x =>
    simp only [Option.getD_some]
    generalize (if 0 < step then (0 : Int) else -1) = L at *
    generalize (if 0 < step then (dim : Int) else (dim : Int) - 1) = U at *
    split <;> omega

/-- one sub-array axis: an accepted slice `b:e:s` of an axis of size `dim` selects exactly the
    elements of Python's `range(*slice(b,e,s).indices(dim))`, in order, all inside the axis -/
theorem slice1d_spec (dim : Nat) (b e s : Option Int) (c : Nat)
    (h : getSliceShape1d dim (.sub b e s) = .ok (some c)) :
    s.getD 1 ≠ 0 ∧ 0 < c ∧
    (∀ j : Nat, j < c ↔ Spec.inRange (Spec.pyStart dim b (s.getD 1)) (Spec.pyStop dim e (s.getD 1)) (s.getD 1) j) ∧
    (∀ j : Nat, j < c →
        slice1dIndex dim b e s j = .ok (Spec.pyStart dim b (s.getD 1) + s.getD 1 * j).toNat ∧
        0 ≤ Spec.pyStart dim b (s.getD 1) + s.getD 1 * j ∧ Spec.pyStart dim b (s.getD 1) + s.getD 1 * j < dim) := by
  obtain ⟨hs, hc0, hcl⟩ := getSliceShape1d_sub_ok dim b e s c h
  have hnorm := normalizeSubarray_eq dim b e s
  rw [if_neg hs] at hnorm
  generalize s.getD 1 = step at *
  obtain ⟨-, hel, hfin⟩ := countLoop_spec dim _ step hs _ _ 0 c hcl
  simp only [Nat.sub_zero] at hel hfin
  have hcpos : 0 < c := by omega
  -- element 0 is inside the axis, hence the start was not clamped
  have h0 := hel 0 hcpos
  simp only [Int.natCast_zero, Int.mul_zero, Int.add_zero] at h0
  rw [pyStart_eq dim b step h0.1 h0.2.1] at hel hfin hnorm h0
  clear hcl
  generalize Spec.pyStart dim b step = st at *
  refine ⟨hs, hcpos, ?_, ?_⟩
  · intro j
    obtain ⟨m1, m2, m3, m4⟩ := mul_facts step j c
    have helj := hel j
    unfold Spec.inRange
    rw [pyStop_eq]
    generalize nEnd dim e step = e0 at *
    generalize step * (j : Int) = t at *
    generalize step * (c : Int) = tc at *
    clear hel hnorm h
    -- `j < c`: the element is inside the axis and before `e0`, hence before the clamped stop;
    -- `c ≤ j`: it is at or past `e0` and past the clamp's own bound
    by_cases hpos : 0 < step
    · have t0 := m1 hpos
      have tm := m3 hpos
      simp only [if_pos hpos] at helj hfin ⊢
      constructor
      · intro hj
        obtain ⟨_, h2, h3⟩ := helj hj
        exact Int.lt_of_lt_of_le (Int.lt_min.mpr ⟨h3, h2⟩) (Int.le_max_right _ _)
      · intro hlt
        apply Classical.byContradiction
        intro hnj
        have := tm (Nat.le_of_not_lt hnj)
        exact absurd hlt (Int.not_lt.mpr
          (Int.max_le.mpr ⟨by omega, Int.le_trans (Int.min_le_left _ _) (by omega)⟩))
    · have hneg : step < 0 := by clear helj hfin h0 m1 m2 m3 m4; omega
      have t0 := m2 hneg
      have tm := m4 hneg
      simp only [if_neg hpos] at helj hfin ⊢
      constructor
      · intro hj
        obtain ⟨h1, _, h3⟩ := helj hj
        exact Int.max_lt.mpr ⟨by omega, Int.lt_of_le_of_lt (Int.min_le_left _ _) h3⟩
      · intro hlt
        apply Classical.byContradiction
        intro hnj
        have := tm (Nat.le_of_not_lt hnj)
        exact absurd hlt (Int.not_lt.mpr
          (Int.le_trans (Int.le_min.mpr ⟨by omega, by omega⟩) (Int.le_max_right _ _)))
  · intro j hj
    obtain ⟨e1, e2, -⟩ := hel j hj
    refine ⟨?_, e1, e2⟩
    unfold slice1dIndex
    rw [hnorm]
    simp only []
    rw [if_neg (by omega)]

theorem slice1dIndex_full (d x : Nat) : slice1dIndex d none none none x = .ok x := by
  show (if 0 + 1 * (x : Int) < 0 then Except.error "Negative index"
    else Except.ok (0 + 1 * (x : Int)).toNat) = _
  rw [Int.zero_add, Int.one_mul, if_neg (Int.not_lt.mpr (Int.natCast_nonneg x))]
  rfl

example : getSliceShape1d 5 (.sub (some (-1)) none (some (-2))) = .ok (some 3) := by decide

example : slice1dIndex 5 (some (-1)) none (some (-2)) 2 = .ok 0 := by decide

example : getSliceShape1d 7 (.sub (some 1) (some (-1)) (some 2)) = .ok (some 3) := by decide

example : slice1dIndex 7 (some 1) (some (-1)) (some 2) 2 = .ok 5 := by decide

theorem single_spec (dim : Nat) (i : Int) :
    getSliceShape1d dim (.single i) = .ok none ↔ (-(dim : Int) ≤ i ∧ i < dim) := by
  have key : (-(dim : Int) ≤ i ∧ i < dim) ↔
      ¬ ((if i < 0 then i + dim else i) < 0 ∨ (dim : Int) ≤ (if i < 0 then i + dim else i)) := by
    split <;> omega
  simp only [getSliceShape1d]
  rw [key]
  generalize (if i < 0 then i + (dim : Int) else i) = ind
  split
  · rename_i h
    exact ⟨fun h' => (by cases h'), fun h' => absurd h h'⟩
  · rename_i h
    exact ⟨fun _ => h, fun _ => rfl⟩

example : getSliceShape1d 5 (.single (-5)) = .ok none := by decide

example : getSliceShape1d 5 (.single 5) ≠ .ok none := by decide

/-- the index read for an accepted single index `i` is `i mod dim` (what `sliceIndexLoop` computes) -/
theorem single_index (dim : Nat) (i : Int) (h : -(dim : Int) ≤ i ∧ i < dim) :
    (if 0 ≤ i then i else i + dim) = i % (dim : Int) := by
  split
  · rw [Int.emod_eq_of_lt (by omega) (by omega)]
  · rw [← Int.add_emod_right, Int.emod_eq_of_lt (by omega) (by omega)]

theorem filter_noEllipsis (sl : List SE) (hne : ∀ x ∈ sl, x ≠ SE.ellipsis) :
    sl.filter (· == SE.ellipsis) = [] := by
  rw [List.filter_eq_nil_iff]
  intro x hx
  simpa using hne x hx

theorem any_noEllipsis (sl : List SE) (hne : ∀ x ∈ sl, x ≠ SE.ellipsis) :
    sl.any (· == SE.ellipsis) = false := by
  rw [List.any_eq_false]
  intro x hx
  simpa using hne x hx

theorem flatMap_noEllipsis (n : Nat) (sl : List SE) (hne : ∀ x ∈ sl, x ≠ SE.ellipsis) :
    (sl.flatMap fun x =>
        if x == SE.ellipsis then List.replicate n (SE.sub none none none) else [x]) = sl := by
  induction sl with
  | nil => rfl
  | cons a l ih =>
    have ha : a ≠ SE.ellipsis := hne a (by simp)
    have hl : ∀ x ∈ l, x ≠ SE.ellipsis := fun x hx => hne x (by simp [hx])
    rw [List.flatMap_cons, ih hl]
    simp [ha]

theorem getCleanSlice_noEllipsis (rank : Nat) (sl : List SE) (hne : ∀ x ∈ sl, x ≠ SE.ellipsis)
    (hl : sl.length ≤ rank) :
    getCleanSlice rank sl = .ok sl := by
  unfold getCleanSlice
  simp only [filter_noEllipsis sl hne, any_noEllipsis sl hne, flatMap_noEllipsis _ sl hne]
  simp
  omega

theorem getCleanSlice_ellipsis (rank : Nat) (pre post : List SE) (hpre : ∀ x ∈ pre, x ≠ SE.ellipsis)
    (hpost : ∀ x ∈ post, x ≠ SE.ellipsis) (hl : pre.length + post.length ≤ rank) :
    getCleanSlice rank (pre ++ [SE.ellipsis] ++ post)
      = .ok (pre ++ List.replicate (rank - pre.length - post.length) (SE.sub none none none) ++ post) := by
  unfold getCleanSlice
  have hpad : ((rank : Int) - ((pre ++ [SE.ellipsis] ++ post).length : Int) + 1).toNat
      = rank - pre.length - post.length := by
    simp only [List.length_append, List.length_cons, List.length_nil]; omega
  simp only [hpad, List.filter_append, filter_noEllipsis pre hpre, filter_noEllipsis post hpost,
    List.flatMap_append, flatMap_noEllipsis _ pre hpre, flatMap_noEllipsis _ post hpost]
  simp
  rw [if_neg (by omega), if_neg (by omega)]

example : getCleanSlice 4 [.single 1, .ellipsis, .sub none none (some (-1))]
    = .ok [.single 1, .sub none none none, .sub none none none, .sub none none (some (-1))] := by decide

example : getSliceShape [5, 4, 3] [.sub (some (-1)) none (some (-2)), .ellipsis, .single (-1)] = .ok [3, 4] := by
  decide

/-- NumPy basic slicing, index side (clean slice, i.e. the ellipsis already expanded): a single
    index `i` reads position `i mod d` and consumes no result digit; a sub-array `b:e:s` maps the
    result digit `x` to `start + s·x` with Python's normalised start; axes beyond the slice are
    taken whole.  (The `.ellipsis` case is a filler: clean slices have none.) -/
def specIndex : List Nat → List SE → List Nat → List Nat
  | [], _, _ => []
  | _ :: ds, [], J => J.headD 0 :: specIndex ds [] J.tail
  | d :: ds, .single i :: ses, J => (i % (d : Int)).toNat :: specIndex ds ses J
  | d :: ds, .sub b _ s :: ses, J =>
    (Spec.pyStart d b (s.getD 1) + s.getD 1 * (J.headD 0 : Nat)).toNat :: specIndex ds ses J.tail
  | _ :: ds, .ellipsis :: ses, J => 0 :: specIndex ds ses J

theorem getSliceShape1d_single_none (d : Nat) (i : Int) (r : Option Nat)
    (h : getSliceShape1d d (.single i) = .ok r) : r = none := by
  cases r with
  | none => rfl
  | some c =>
    exfalso
    simp only [getSliceShape1d] at h
    generalize (if i < 0 then i + (d : Int) else i) = ind at h
    split at h <;> cases h

theorem getSliceShape1d_sub_some (d : Nat) (b e s : Option Int) (r : Option Nat)
    (h : getSliceShape1d d (.sub b e s) = .ok r) : ∃ c, r = some c := by
  simp only [getSliceShape1d] at h
  split at h
  · cases h
  · split at h
    · cases h
    · cases h
    · cases h; exact ⟨_, rfl⟩

theorem sliceLoops_spec (shape : List Nat) (clean : List SE) (rd J : List Nat) (j : Nat)
    (h : sliceShapeLoop shape clean = .ok rd) (hJ : validIdx J rd) :
    sliceIndexLoop shape clean J j = .ok (specIndex shape clean J, j + J.length) ∧
    validIdx (specIndex shape clean J) shape := by
  induction shape generalizing clean rd J j with
  | nil =>
    simp only [sliceShapeLoop] at h
    cases h
    cases J with
    | nil => simp [sliceIndexLoop, specIndex, validIdx]
    | cons x xs => simp [validIdx] at hJ
  | cons d ds ih =>
    cases clean with
    | nil =>
      simp only [sliceShapeLoop] at h
      cases hrest : sliceShapeLoop ds [] with
      | error m => rw [hrest] at h; cases h
      | ok rest =>
        rw [hrest] at h
        cases h
        cases J with
        | nil => simp [validIdx] at hJ
        | cons x xs =>
          obtain ⟨hx, hxs⟩ := hJ
          obtain ⟨i1, i2⟩ := ih [] rest xs (j + 1) hrest hxs
          simp only [sliceIndexLoop, i1, specIndex, List.headD_cons, List.tail_cons, validIdx,
            List.length_cons]
          exact ⟨by congr 2; omega, hx, i2⟩
    | cons se ses =>
      simp only [sliceShapeLoop] at h
      cases h1 : getSliceShape1d d se with
      | error m => rw [h1] at h; cases h
      | ok r =>
        cases hrest : sliceShapeLoop ds ses with
        | error m => rw [h1, hrest] at h; cases h
        | ok rest =>
          rw [h1, hrest] at h
          cases se with
          | ellipsis => simp [getSliceShape1d] at h1
          | single i =>
            have hr := getSliceShape1d_single_none d i r h1
            subst hr
            cases h
            obtain ⟨i1, i2⟩ := ih ses rest J j hrest hJ
            have hrange := (single_spec d i).mp h1
            have hmod := single_index d i hrange
            have hreal : ¬ (i % (d : Int) < 0) := by rw [← hmod]; split <;> omega
            have hlt : (i % (d : Int)).toNat < d := by rw [← hmod]; split <;> omega
            simp only [sliceIndexLoop, hmod, if_neg hreal, i1, specIndex, validIdx]
            exact ⟨trivial, hlt, i2⟩
          | sub b e s =>
            obtain ⟨c, hr⟩ := getSliceShape1d_sub_some d b e s r h1
            subst hr
            cases h
            cases J with
            | nil => simp [validIdx] at hJ
            | cons x xs =>
              obtain ⟨hx, hxs⟩ := hJ
              obtain ⟨i1, i2⟩ := ih ses rest xs (j + 1) hrest hxs
              obtain ⟨-, -, -, hidx⟩ := slice1d_spec d b e s c h1
              obtain ⟨e1, e2, e3⟩ := hidx x hx
              simp only [sliceIndexLoop, e1, i1, specIndex, List.headD_cons, List.tail_cons, validIdx,
                List.length_cons]
              exact ⟨by congr 2; omega, by omega, i2⟩

/-- `get_slice_shape` / `slice_index` against the NumPy reading, for ellipsis-free slices (an
    ellipsis is first expanded, see `getCleanSlice_ellipsis`). -/
theorem sliceIndex_spec (shape : List Nat) (sl : List SE) (rd J : List Nat)
    (hne : ∀ x ∈ sl, x ≠ SE.ellipsis)
    (h : getSliceShape shape sl = .ok rd) (hJ : validIdx J rd) :
    sliceIndex shape sl J = .ok (specIndex shape sl J) ∧ validIdx (specIndex shape sl J) shape := by
  unfold getSliceShape at h
  unfold sliceIndex
  cases hc : getCleanSlice shape.length sl with
  | error m => rw [hc] at h; cases h
  | ok clean =>
    have hlen : sl.length ≤ shape.length := by
      apply Classical.byContradiction
      intro hgt
      unfold getCleanSlice at hc
      simp only [filter_noEllipsis sl hne, any_noEllipsis sl hne, flatMap_noEllipsis _ sl hne] at hc
      simp at hc
      rw [if_pos (by omega)] at hc
      cases hc
    rw [getCleanSlice_noEllipsis _ sl hne hlen] at hc
    cases hc
    rw [getCleanSlice_noEllipsis _ sl hne hlen] at h
    simp only at h
    obtain ⟨i1, i2⟩ := sliceLoops_spec shape sl rd J 0 h hJ
    refine ⟨?_, i2⟩
    simp only [i1, Nat.zero_add]
    split
    · rfl
    · simp

example : specIndex [5, 4, 3] [.sub (some (-1)) none (some (-2)), .sub none none none, .single (-1)] [2, 3]
    = [0, 3, 2] := by decide

example : sliceIndex [5, 4, 3] [.sub (some (-1)) none (some (-2)), .sub none none none, .single (-1)] [2, 3]
    = .ok [0, 3, 2] := by decide

theorem mapM_ok_getD {α : Type} (f : α → Except String Nat) (l : List α) (r : List Nat)
    (h : l.mapM f = .ok r) :
    r.length = l.length ∧ ∀ i (hi : i < l.length), f l[i] = .ok (r.getD i 0) := by
  induction l generalizing r with
  | nil =>
    simp only [List.mapM_nil] at h
    cases h
    exact ⟨rfl, fun i hi => absurd hi (Nat.not_lt_zero _)⟩
  | cons a l ih =>
    rw [List.mapM_cons] at h
    cases hfa : f a with
    | error m => rw [hfa] at h; cases h
    | ok y =>
      cases hl : l.mapM f with
      | error m => rw [hfa, hl] at h; cases h
      | ok ys =>
        rw [hfa, hl] at h
        cases h
        obtain ⟨ih1, ih2⟩ := ih ys hl
        refine ⟨by simp [ih1], ?_⟩
        intro i hi
        cases i with
        | zero => simpa using hfa
        | succ i =>
          have := ih2 i (by simpa using hi)
          simpa using this

theorem getSlice_entry (shape xs : List Nat) (sl : List SE) (rd : List Nat) (r : List Nat)
    (h : Ops.getSlice shape xs sl rd = .ok r) (i : Nat) (hi : i < prod rd) :
    ∃ di, sliceIndex shape sl (numberToIndex i rd) = .ok di ∧ r.getD i 0 = xs.getD (indexToNumber di shape) 0 := by
  unfold Ops.getSlice at h
  obtain ⟨-, h2⟩ := mapM_ok_getD _ _ _ h
  have := h2 i (by simpa using hi)
  simp only [List.getElem_range] at this
  cases hsi : sliceIndex shape sl (numberToIndex i rd) with
  | error m => rw [hsi] at this; cases this
  | ok di =>
    rw [hsi] at this
    exact ⟨di, rfl, (Except.ok.inj this).symm⟩

example : Ops.getSlice [2, 5] [0, 1, 2, 3, 4, 5, 6, 7, 8, 9] [.ellipsis, .sub (some (-1)) none (some (-2))] [2, 3]
    = .ok [4, 2, 0, 9, 7, 5] := by decide

example : sliceIndex [2, 5] [.ellipsis, .sub (some (-1)) none (some (-2))] (numberToIndex 4 [2, 3]) = .ok [1, 2] := by
  decide

end CCV.Slices
