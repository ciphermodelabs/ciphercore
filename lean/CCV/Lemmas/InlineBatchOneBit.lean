import CCV.Lemmas.InlineBatch
/-
  C07, batched one-bit-state inliner (`inline_iterate_small_state(single_bit = true, …)` on a BIT
  array state of dimensions `sh`): everything is elementwise, so reading position `q` of every array
  (`entryMap q`) is a homomorphism from the array-level combiner `comb1B sh` to the one-bit combiner
  `comb1`, every prefix algorithm commutes with it (Lemmas/InlineMap.lean), and the unbatched lemmas
  of Lemmas/Inline.lean apply position by position.
-/
namespace CCV.InlineBatch
open CCV CCV.Shape CCV.Ops CCV.Inline

/-- contract of the one-bit strategy: entry `q` of the new state depends only on entry `q` of the
    old state (and on the input); `g q` is the transition function of position `q` -/
structure PosWise {I : Type} (sh : List Nat) (G : List Nat → I → List Nat) (g : Nat → Bool → I → Bool) :
    Prop where
  wf : ∀ S x, WF sh S → WF sh (G S x)
  ent : ∀ S x q, WF sh S → q < prod sh → (G S x).getD q 0 = (g q (S.getD q 0 == 1) x).toNat

theorem bitAdd_length (sh a b : List Nat) : (bitAdd sh a b).length = prod sh := okD_arith_length .add sh a b

theorem bitMul_length (sh a b : List Nat) : (bitMul sh a b).length = prod sh := okD_arith_length .mul sh a b

/-! ### `s + 1`, the `1` broadcast from the scalar `ones(BIT)` (dimensions `[1]`) -/

theorem flat_one : ∀ (J : List Nat), validIdx J [1] → flat J [1] = 0
  | [x], h => by
    have := h.1
    simp only [flat, prod]
    omega

theorem notS_entry (sh s : List Nat) (hpos : pos sh) (hne : sh ≠ []) (q : Nat) (hq : q < prod sh) :
    (okD (arith .add .bit sh s [1] [1] sh)).getD q 0 = (xor (s.getD q 0 % 2 == 1) true).toNat := by
  have hb := bcOK_one hne
  obtain ⟨r, h1, _, h3⟩ := arith_spec .add .bit sh s [1] [1] sh (bcOK_refl sh) hb
  have hv := numberToIndex_valid hpos hq
  have hf := flat_numberToIndex hpos hq
  have := h3 _ hv
  rw [hf] at this
  rw [h1]
  show r.getD q 0 = _
  rw [this]
  simp only [Spec.arith, Spec.ofFlat, bcIdx_self hv, hf, flat_one _ (broadcast_index_law hb hv).2]
  exact bit_add (s.getD q 0) 1

theorem notS_length (sh s : List Nat) (hne : sh ≠ []) :
    (okD (arith .add .bit sh s [1] [1] sh)).length = prod sh := by
  obtain ⟨r, h1, h2, _⟩ := arith_spec .add .bit sh s [1] [1] sh (bcOK_refl sh) (bcOK_one hne)
  rw [h1]; exact h2

/-- the one-bit transition table at position `q` of an array-level mapping (entries read modulo 2,
    as the evaluator does) -/
def entryMap (q : Nat) (m : Map1B) : Map1 := (m.1.getD q 0 % 2 == 1, m.2.getD q 0 % 2 == 1)

theorem comb1B_entryMap (sh : List Nat) (hpos : pos sh) (q : Nat) (hq : q < prod sh) (m1 m2 : Map1B) :
    entryMap q (comb1B sh m1 m2) = comb1 (entryMap q m1) (entryMap q m2) := by
  simp only [entryMap, comb1B, comb1, bitAdd_entry sh _ _ hpos q hq, bitMul_entry sh _ _ hpos q hq,
    toNat_mod_two_beq]

theorem extract1B_length (sh s : List Nat) (m : Map1B) : (extract1B sh s m).length = prod sh :=
  bitAdd_length _ _ _

theorem extract1B_entry (sh : List Nat) (hpos : pos sh) (hne : sh ≠ []) (q : Nat) (hq : q < prod sh)
    (s : List Nat) (m : Map1B) :
    (extract1B sh s m).getD q 0 = (extract1 (s.getD q 0 % 2 == 1) (entryMap q m)).toNat := by
  simp only [extract1B, entryMap, extract1, bitAdd_entry sh _ _ hpos q hq, bitMul_entry sh _ _ hpos q hq,
    notS_entry sh s hpos hne q hq, toNat_mod_two_beq]

theorem maskToValue_one_entry (sh : List Nat) (m q : Nat) (hq : q < prod sh) :
    (maskToValue sh 1 m).getD q 0 = m % 2 := by
  unfold maskToValue
  rw [getD_map_range _ _ _ hq]
  simp only [if_true, Nat.shiftRight_zero]

theorem maskToValue_one_WF (sh : List Nat) (m : Nat) : WF sh (maskToValue sh 1 m) := by
  have hl : (maskToValue sh 1 m).length = prod sh := by
    simp only [maskToValue, List.length_map, List.length_range]
  refine ⟨hl, fun p => ?_⟩
  by_cases hp : p < prod sh
  · rw [maskToValue_one_entry sh m p hp]; omega
  · rw [getD_of_le (by omega)]; omega

/-- `create_mappings`, single-bit case: position `q` of the mapping of input `x` is the table of
    `g q` for `x` -/
theorem mappings_entryMap {I : Type} (sh : List Nat) (G : List Nat → I → List Nat)
    (g : Nat → Bool → I → Bool) (hG : PosWise sh G g) (q : Nat) (hq : q < prod sh) (xs : List I) :
    (xs.map fun x => ((G (maskToValue sh 1 0) x, G (maskToValue sh 1 1) x) : Map1B)).map (entryMap q)
      = xs.map (mapOf (g q)) := by
  rw [List.map_map]
  apply List.map_congr_left
  intro x _
  simp only [Function.comp, entryMap, mapOf,
    hG.ent _ x q (maskToValue_one_WF sh 0) hq, hG.ent _ x q (maskToValue_one_WF sh 1) hq,
    maskToValue_one_entry sh _ q hq, toNat_mod_two_beq]
  rfl

theorem extract1B_eq (sh : List Nat) (hpos : pos sh) (hne : sh ≠ []) (s : List Nat) (hs : WF sh s)
    (p : Map1B) (T : List Nat) (hT : WF sh T)
    (h : ∀ q, q < prod sh → extract1 (s.getD q 0 == 1) (entryMap q p) = (T.getD q 0 == 1)) :
    extract1B sh s p = T := by
  apply List.ext_getElem (by rw [extract1B_length, hT.1])
  intro q h1 h2
  have hq : q < prod sh := by rw [← hT.1]; exact h2
  rw [← getD_eq_get _ 0 _ h1, ← getD_eq_get _ 0 _ h2, extract1B_entry sh hpos hne q hq,
    Nat.mod_eq_of_lt (hs.2 q), h q hq, toNat_beq_of_lt _ (hT.2 q)]

theorem PosWise.row {I : Type} {sh : List Nat} {G : List Nat → I → List Nat} {g : Nat → Bool → I → Bool}
    (hG : PosWise sh G g) (q : Nat) (S : List Nat) (x : I) (hq : q < prod sh) (hS : WF sh S) :
    ((G S x).getD q 0 == 1) = g q (S.getD q 0 == 1) x := by
  rw [hG.ent S x q hS hq, toNat_beq_one]

theorem iterOneBitB_eq_iterVia {I O : Type} (level : Level) (sh : List Nat) (emptyOut : Bool) (unit : O)
    (G : List Nat → I → List Nat × O) (s : List Nat) (xs : List I) :
    iterOneBitB level sh emptyOut unit G s xs
      = iterVia emptyOut unit G (extract1B sh s) ([], [])
          (logDepthSum (comb1B sh) (xs.map fun x => ((G (maskToValue sh 1 0) x).1, (G (maskToValue sh 1 1) x).1)))
          (pick level xs.length (comb1B sh)
            (xs.map fun x => ((G (maskToValue sh 1 0) x).1, (G (maskToValue sh 1 1) x).1))) s xs := rfl

end CCV.InlineBatch
