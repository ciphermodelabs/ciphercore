import CCV.Model.MaskRev
import CCV.Lemmas.Mask
set_option linter.unusedSectionVars false
namespace CCV.Mask
open CCV.Pivot CCV.Run
variable {R : Type} [AddCommGroup R]

theorem viewRun_isRun (msgs : List Nat) :
    IsRun (viewRun msgs) (fun env n => viewNode msgs env.length env n) := ⟨fun _ => rfl, fun _ _ _ => rfl⟩

theorem rclsRun_isRun (r : Nat) (view : List Bool) :
    IsRun (rclsRun r view) (fun env n => rclsNode r view env.length env n) := ⟨fun _ => rfl, fun _ _ _ => rfl⟩

def val (sem : Nat → List R → R) (own kn : Nat → R) (g : List Node) (m : Nat) (x ρ : Nat → R) : R :=
  (evalRun sem own kn x ρ g []).getD m 0

theorem view_det (sem : Nat → List R → R) (own kn : Nat → R) (g : List Node) (msgs : List Nat)
    (hw : wellScoped g 0 = true) (x x' ρ ρ' : Nat → R)
    (hmsg : ∀ j ∈ msgs, val sem own kn g j x ρ = val sem own kn g j x' ρ')
    (m : Nat) (hm : (viewRun msgs g []).getD m false = true) :
    val sem own kn g m x ρ = val sem own kn g m x' ρ' := by
  refine ind₃ (viewRun_isRun msgs) (evalRun_isRun sem own kn x ρ) (evalRun_isRun sem own kn x' ρ') false 0 0
    Node.deps g (wellScoped_lt hw) (fun _ b r r' => b = true → r = r') (fun k hk hdep hv => ?_) m ((viewRun_isRun msgs).lt_of_getD hm) hm
  rw [(viewRun_isRun msgs).length_take g k hk] at hv
  rcases Bool.or_eq_true_iff.1 hv with hin | hc
  · rw [← (evalRun_isRun sem own kn x ρ).getD g k hk 0, ← (evalRun_isRun sem own kn x' ρ').getD g k hk 0]
    exact hmsg k (List.contains_iff_mem.1 hin)
  · exact comp_step sem own kn x x' ρ ρ' _ _ _ g[k] hdep hc

/-- meaning of the classes for the values `v`, `v'` of a node in two runs whose views agree, `δ`, `δ'`
    being the values of the reveal message: `det` = equal values; `plusR` = equal differences to the
    reveal message -/
def RRelV (δ δ' : R) : RCls → R → R → Prop
  | .det, v, v' => v = v'
  | .plusR, v, v' => v - δ = v' - δ'
  | .other, _, _ => True

def RRel (r : Nat) (fin fin' : List R) (c : RCls) (i : Nat) : Prop :=
  RRelV (fin.getD r 0) (fin'.getD r 0) c (fin.getD i 0) (fin'.getD i 0)

theorem rrel_add (δ δ' : R) (c0 c1 : RCls) (a a' b b' : R) (h0 : RRelV δ δ' c0 a a')
    (h1 : RRelV δ δ' c1 b b') : RRelV δ δ' (rclsAdd c0 c1) (a + b) (a' + b') := by
  cases c0 <;> cases c1
  case det.det => exact congrArg₂ (· + ·) h0 h1
  case plusR.det =>
    show a + b - δ = a' + b' - δ'
    rw [add_sub_right_comm, add_sub_right_comm, show a - δ = a' - δ' from h0, show b = b' from h1]
  case det.plusR =>
    show a + b - δ = a' + b' - δ'
    rw [add_sub_assoc, add_sub_assoc, show a = a' from h0, show b - δ = b' - δ' from h1]
  all_goals trivial

theorem rrel_sub (δ δ' : R) (c0 c1 : RCls) (a a' b b' : R) (h0 : RRelV δ δ' c0 a a')
    (h1 : RRelV δ δ' c1 b b') :
    RRelV δ δ' (match (generalizing := false) c0, c1 with | .plusR, .det => .plusR | .det, .det => .det | _, _ => .other)
      (a - b) (a' - b') := by
  cases c0 <;> cases c1
  case det.det => exact congrArg₂ (· - ·) h0 h1
  case plusR.det =>
    show a - b - δ = a' - b' - δ'
    rw [sub_right_comm, sub_right_comm a', show a - δ = a' - δ' from h0, show b = b' from h1]
  all_goals trivial

/-- `hr` and `hview` take care of the reveal message itself and of the nodes determined by the view -/
theorem rstep (sem : Nat → List R → R) (own kn : Nat → R) (x x' ρ ρ' : Nat → R) (δ δ' : R) (r : Nat)
    (view : List Bool) (idx : Nat) (cl : List RCls) (env env' : List R) (n : Node)
    (hdep : ∀ d ∈ n.deps, RRelV δ δ' (cl.getD d .other) (env.getD d 0) (env'.getD d 0))
    (hr : idx = r → evalNode sem own kn x ρ env n = δ ∧ evalNode sem own kn x' ρ' env' n = δ')
    (hview : view.getD idx false = true →
      evalNode sem own kn x ρ env n = evalNode sem own kn x' ρ' env' n) :
    RRelV δ δ' (rclsNode r view idx cl n) (evalNode sem own kn x ρ env n)
      (evalNode sem own kn x' ρ' env' n) := by
  unfold rclsNode
  by_cases hi : idx = r
  · rw [if_pos hi]
    show _ - δ = _ - δ'
    rw [(hr hi).1, (hr hi).2, sub_self, sub_self]
  rw [if_neg hi]
  by_cases hv : view.getD idx false = true
  · rw [if_pos hv]; exact hview hv
  rw [if_neg hv]
  obtain ⟨k, deps⟩ := n
  -- operand `j`, as `rclsNode` and `evalNode` read it
  have arg : ∀ j, j < deps.length → RRelV δ δ' (cl.getD (deps.getD j 0) .other)
      ((deps.map (fun d => env.getD d 0)).getD j 0) ((deps.map (fun d => env'.getD d 0)).getD j 0) := by
    intro j hj
    rw [getD_map_lt _ deps hj, getD_map_lt _ deps hj]
    exact hdep _ (getD_mem_lt deps hj)
  cases k with
  | nop =>
    show RRelV δ δ' (if deps.length = 1 then _ else .other) _ _
    by_cases h1 : deps.length = 1
    · rw [if_pos h1]; exact arg 0 (h1.symm ▸ Nat.zero_lt_one)
    · rw [if_neg h1]; trivial
  | add =>
    show RRelV δ δ' (if deps.length = 2 then _ else .other) _ _
    by_cases h2 : deps.length = 2
    · rw [if_pos h2]
      exact rrel_add δ δ' _ _ _ _ _ _ (arg 0 (h2.symm ▸ Nat.zero_lt_two)) (arg 1 (h2.symm ▸ Nat.one_lt_two))
    · rw [if_neg h2]; trivial
  | sub =>
    show RRelV δ δ' (if deps.length = 2 then _ else .other) _ _
    by_cases h2 : deps.length = 2
    · rw [if_pos h2]
      exact rrel_sub δ δ' _ _ _ _ _ _ (arg 0 (h2.symm ▸ Nat.zero_lt_two)) (arg 1 (h2.symm ▸ Nat.one_lt_two))
    · rw [if_neg h2]; trivial
  | _ => trivial

theorem rcls_sound (sem : Nat → List R → R) (own kn : Nat → R) (g : List Node) (msgs : List Nat) (r : Nat)
    (hw : wellScoped g 0 = true) (x x' ρ ρ' : Nat → R)
    (hmsg : ∀ j ∈ msgs, val sem own kn g j x ρ = val sem own kn g j x' ρ') :
    ∀ (i : Nat), i < g.length →
      RRel r (evalRun sem own kn x ρ g []) (evalRun sem own kn x' ρ' g [])
        ((rclsRun r (viewRun msgs g []) g []).getD i .other) i := by
  have e := (evalRun_isRun sem own kn x ρ).getD g
  have e' := (evalRun_isRun sem own kn x' ρ').getD g
  refine ind₃ (rclsRun_isRun r _) (evalRun_isRun sem own kn x ρ) (evalRun_isRun sem own kn x' ρ') .other 0 0
    Node.deps g (wellScoped_lt hw) (fun _ c v v' => RRelV _ _ c v v') (fun k hk hdep => ?_)
  refine rstep sem own kn x x' ρ ρ' _ _ r _ _ _ _ _ g[k] hdep (fun hkr => ?_) (fun hv => ?_)
  · rw [(rclsRun_isRun r _).length_take g k hk] at hkr
    subst hkr
    exact ⟨(e k hk 0).symm, (e' k hk 0).symm⟩
  · rw [(rclsRun_isRun r _).length_take g k hk] at hv
    rw [← e k hk 0, ← e' k hk 0]
    exact view_det sem own kn g msgs hw x x' ρ ρ' hmsg k hv

end CCV.Mask
