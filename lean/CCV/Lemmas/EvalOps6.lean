import CCV.Lemmas.EvalOps5
/-
  Value-level half of C09: compound values (tuples, named tuples,
  vectors) — constructors, accessors, Zip, Repeat and Reshape (`flatten_value` / `unflatten_value`).
-/
namespace CCV.EvalOps
open CCV CCV.TV CCV.Shape
open CCV.TI hiding prod broadcastShapes transposeShape

mutual
theorem Ty.eq_of_beq : ∀ (a b : Ty), Ty.beq a b = true → a = b
  | .scalar a, .scalar b, h => congrArg Ty.scalar (beq_iff_eq.mp h)
  | .array s a, .array s' b, h => by
    have h := (Bool.and_eq_true _ _).mp h
    rw [beq_iff_eq.mp h.1, beq_iff_eq.mp h.2]
  | .vector n t, .vector n' t', h => by
    have h := (Bool.and_eq_true _ _).mp h
    rw [beq_iff_eq.mp h.1, Ty.eq_of_beq t t' h.2]
  | .tuple ts, .tuple ts', h => congrArg Ty.tuple (eqL_of_beqL ts ts' h)
  | .named fs, .named fs', h => congrArg Ty.named (eqN_of_beqN fs fs' h)
  | .scalar _, .array _ _, h | .scalar _, .vector _ _, h | .scalar _, .tuple _, h | .scalar _, .named _, h
  | .array _ _, .scalar _, h | .array _ _, .vector _ _, h | .array _ _, .tuple _, h | .array _ _, .named _, h
  | .vector _ _, .scalar _, h | .vector _ _, .array _ _, h | .vector _ _, .tuple _, h | .vector _ _, .named _, h
  | .tuple _, .scalar _, h | .tuple _, .array _ _, h | .tuple _, .vector _ _, h | .tuple _, .named _, h
  | .named _, .scalar _, h | .named _, .array _ _, h | .named _, .vector _ _, h | .named _, .tuple _, h =>
    nomatch h
theorem eqL_of_beqL : ∀ (as bs : List Ty), beqL as bs = true → as = bs
  | [], [], _ => rfl
  | a :: as, b :: bs, h => by
    have h := (Bool.and_eq_true _ _).mp h
    rw [Ty.eq_of_beq a b h.1, eqL_of_beqL as bs h.2]
  | [], _ :: _, h => nomatch h
  | _ :: _, [], h => nomatch h
theorem eqN_of_beqN : ∀ (as bs : List (String × Ty)), beqN as bs = true → as = bs
  | [], [], _ => rfl
  | (n, a) :: as, (m, b) :: bs, h => by
    have h := (Bool.and_eq_true _ _).mp h
    have h1 := (Bool.and_eq_true _ _).mp h.1
    rw [beq_iff_eq.mp h1.1, Ty.eq_of_beq a b h1.2, eqN_of_beqN as bs h.2]
  | [], _ :: _, h => nomatch h
  | _ :: _, [], h => nomatch h
end

theorem hasTypeL_length : ∀ (ts : List Ty) (vs : List EV), hasTypeL ts vs → vs.length = ts.length
  | [], [], _ => rfl
  | [], _ :: _, h => h.elim
  | _ :: _, [], h => h.elim
  | _ :: ts, _ :: vs, h => congrArg Nat.succ (hasTypeL_length ts vs h.2)

theorem hasTypeL_append : ∀ (as : List Ty) (xs : List EV) (bs : List Ty) (ys : List EV),
    hasTypeL as xs → hasTypeL bs ys → hasTypeL (as ++ bs) (xs ++ ys)
  | [], [], _, _, _, h2 => h2
  | [], _ :: _, _, _, h, _ => h.elim
  | _ :: _, [], _, _, h, _ => h.elim
  | _ :: as, _ :: xs, bs, ys, h1, h2 => ⟨h1.1, hasTypeL_append as xs bs ys h1.2 h2⟩

theorem hasTypeL_split : ∀ (as bs : List Ty) (xs : List EV), hasTypeL (as ++ bs) xs →
    ∃ ys zs, xs = ys ++ zs ∧ hasTypeL as ys ∧ hasTypeL bs zs
  | [], bs, xs, h => ⟨[], xs, rfl, trivial, h⟩
  | a :: as, bs, [], h => h.elim
  | a :: as, bs, x :: xs, h => by
    obtain ⟨ys, zs, rfl, h1, h2⟩ := hasTypeL_split as bs xs h.2
    exact ⟨x :: ys, zs, rfl, ⟨h.1, h1⟩, h2⟩

theorem hasTypeL_getElem : ∀ (ts : List Ty) (cs : List EV) (i : Nat) (t : Ty), hasTypeL ts cs →
    ts[i]? = some t → ∃ c, cs[i]? = some c ∧ hasType t c
  | [], _, _, _, _, h => nomatch h
  | _ :: _, [], _, _, h, _ => h.elim
  | _ :: _, c :: _, 0, _, h, hi => ⟨c, rfl, Option.some.inj hi ▸ h.1⟩
  | _ :: ts, _ :: cs, i + 1, t, h, hi => hasTypeL_getElem ts cs i t h.2 hi

theorem hasTypeN_getElem : ∀ (fs : List (String × Ty)) (cs : List EV) (i : Nat) (n : String) (t : Ty),
    hasTypeN fs cs → fs[i]? = some (n, t) → ∃ c, cs[i]? = some c ∧ hasType t c
  | [], _, _, _, _, _, h => nomatch h
  | _ :: _, [], _, _, _, h, _ => h.elim
  | _ :: _, c :: _, 0, _, _, h, hi => ⟨c, rfl, (Prod.mk.inj (Option.some.inj hi)).2 ▸ h.1⟩
  | _ :: fs, _ :: cs, i + 1, n, t, h, hi => hasTypeN_getElem fs cs i n t h.2 hi

theorem hasTypeN_lookup (name : String) : ∀ (fs : List (String × Ty)) (cs : List EV) (t : Ty),
    hasTypeN fs cs → lookupField name fs = some t →
    ∃ k c, fieldIdx name fs = some k ∧ cs[k]? = some c ∧ hasType t c
  | [], _, t, _, h => nomatch h
  | _ :: _, [], _, h, _ => h.elim
  | (m, a) :: fs, c :: cs, t, h, hl => by
    by_cases hm : m = name
    · exact ⟨0, c, if_pos hm, rfl, Option.some.inj ((if_pos hm).symm.trans hl) ▸ h.1⟩
    · obtain ⟨k, c', e1, e2, e3⟩ := hasTypeN_lookup name fs cs t h.2 ((if_neg hm).symm.trans hl)
      exact ⟨k + 1, c', (if_neg hm).trans (by rw [e1]), e2, e3⟩

theorem hasTypeN_zip : ∀ (names : List String) (tys : List Ty) (vs : List EV), tys.length = names.length →
    hasTypeL tys vs → hasTypeN (names.zip tys) vs
  | [], [], [], _, _ => trivial
  | [], [], _ :: _, _, h => h.elim
  | [], _ :: _, _, hl, _ => nomatch hl
  | _ :: _, [], _, hl, _ => nomatch hl
  | _ :: _, _ :: _, [], _, h => h.elim
  | _ :: names, _ :: tys, _ :: vs, hl, h => ⟨h.1, hasTypeN_zip names tys vs (Nat.succ.inj hl) h.2⟩

theorem hasTypeL_const (et : Ty) : ∀ (tys : List Ty) (vs : List EV), (∀ ty ∈ tys, ty = et) → hasTypeL tys vs →
    vs.length = tys.length ∧ ∀ v ∈ vs, hasType et v
  | [], [], _, _ => ⟨rfl, fun _ hm => nomatch hm⟩
  | [], _ :: _, _, h => h.elim
  | _ :: _, [], _, h => h.elim
  | t :: tys, v :: vs, he, h => by
    obtain ⟨i1, i2⟩ := hasTypeL_const et tys vs (fun ty hty => he ty (List.mem_cons_of_mem _ hty)) h.2
    refine ⟨congrArg Nat.succ i1, fun w hw => ?_⟩
    rcases List.mem_cons.mp hw with rfl | hw
    · exact he t List.mem_cons_self ▸ h.1
    · exact i2 w hw

theorem zipGo_facts : ∀ (tys : List Ty) (lo : Option Nat) (n : Nat) (ets : List Ty),
    zipGo tys lo = .ok (n, ets) → tys = ets.map (fun et => .vector n et) ∧ ∀ l, lo = some l → l = n
  | [], some len, n, ets, h => by
    cases h
    exact ⟨rfl, fun l hl => (Option.some.inj hl).symm⟩
  | [], none, n, ets, h => nomatch h
  | .vector l et :: ts, lo, n, ets, h => by
    obtain ⟨hlen, h1⟩ := of_ite_error h
    cases hz : zipGo ts (some l) with
    | error e => rw [hz] at h1; cases h1
    | ok r =>
      obtain ⟨n', ets'⟩ := r
      rw [hz] at h1
      cases h1
      obtain ⟨i1, i2⟩ := zipGo_facts ts (some l) n ets' hz
      cases i2 l rfl
      exact ⟨congrArg (Ty.vector l et :: ·) i1, fun l' hl' => by subst hl'; exact Decidable.of_not_not hlen⟩
  | .scalar _ :: _, _, _, _, h | .array _ _ :: _, _, _, _, h | .tuple _ :: _, _, _, _, h
  | .named _ :: _, _, _, _, h => nomatch h

def colsOK (n : Nat) : List Ty → List (List EV) → Prop
  | [], [] => True
  | et :: ets, c :: cs => (c.length = n ∧ ∀ v ∈ c, hasType et v) ∧ colsOK n ets cs
  | _, _ => False

theorem colsOf_typed (n : Nat) : ∀ (ets : List Ty) (vs : List EV),
    hasTypeL (ets.map fun et => .vector n et) vs → ∃ cols, colsOf vs = some cols ∧ colsOK n ets cols
  | [], [], _ => ⟨[], rfl, trivial⟩
  | [], _ :: _, h => h.elim
  | _ :: _, [], h => h.elim
  | et :: ets, v :: vs, h => by
    obtain ⟨cols, hc, hok⟩ := colsOf_typed n ets vs h.2
    obtain ⟨cs, rfl, h1⟩ := hasType_vector h.1
    exact ⟨cs :: cols, by rw [colsOf, hc], ⟨h1, hok⟩⟩

theorem row_typed (n i : Nat) (hi : i < n) (d : EV) : ∀ (ets : List Ty) (cols : List (List EV)), colsOK n ets cols →
    hasTypeL ets (cols.map fun col => col.getD i d)
  | [], [], _ => trivial
  | [], _ :: _, h => h.elim
  | _ :: _, [], h => h.elim
  | et :: ets, c :: cs, h => by
    refine ⟨?_, row_typed n i hi d ets cs h.2⟩
    have hic : i < c.length := h.1.1 ▸ hi
    show hasType et (c.getD i d)
    rw [List.getD_eq_getElem?_getD, List.getElem?_eq_getElem hic]
    exact h.1.2 _ (List.getElem_mem hic)

theorem minLen_const (n : Nat) : ∀ (cs : List (List EV)), (∀ c ∈ cs, c.length = n) →
    cs.foldl (fun m c' => if c'.length ≤ m then c'.length else m) n = n
  | [], _ => rfl
  | c :: cs, h => by
    simp only [List.foldl_cons, h c (by simp), Nat.le_refl, if_true]
    exact minLen_const n cs (fun c' hc' => h c' (by simp [hc']))

theorem colsOK_length (n : Nat) : ∀ (ets : List Ty) (cols : List (List EV)), colsOK n ets cols →
    ∀ c ∈ cols, c.length = n
  | [], [], _ => fun _ hm => nomatch hm
  | [], _ :: _, h => h.elim
  | _ :: _, [], h => h.elim
  | _ :: ets, _ :: cs, h => fun c' hc' =>
    (List.mem_cons.mp hc').elim (fun e => e ▸ h.1.1) (colsOK_length n ets cs h.2 c')

theorem zipRows_typed (n : Nat) (ets : List Ty) (cols : List (List EV)) (h : colsOK n ets cols)
    (hne : ets ≠ []) : hasType (.vector n (.tuple ets)) (.vec (zipRows cols)) := by
  cases cols with
  | nil =>
    cases ets with
    | nil => exact absurd rfl hne
    | cons _ _ => simp [colsOK] at h
  | cons c cs =>
    have hl := colsOK_length n ets (c :: cs) h
    have hc : c.length = n := hl c (by simp)
    have hmin := minLen_const n cs (fun c' hc' => hl c' (by simp [hc']))
    simp only [zipRows, hc, hmin, hasType, List.length_map, List.length_range, true_and]
    intro v hv
    obtain ⟨i, hi, rfl⟩ := List.mem_map.mp hv
    have hi := List.mem_range.mp hi
    simp only [hasType]
    exact row_typed n i hi (.arr []) ets (c :: cs) h

theorem flattenRep_typed (T : List Ty) : ∀ (vs : List EV), (∀ v ∈ vs, hasTypeL T (flattenEV v)) →
    hasTypeL (List.replicate vs.length T).flatten (flattenEVL vs)
  | [], _ => trivial
  | v :: vs, h =>
    hasTypeL_append _ _ _ _ (h v List.mem_cons_self)
      (flattenRep_typed T vs fun w hw => h w (List.mem_cons_of_mem _ hw))

mutual
theorem flattenEV_typed : ∀ (t : Ty) (v : EV), hasType t v → hasTypeL (flattenTy t) (flattenEV v)
  | .scalar st, .arr xs, h => ⟨h, trivial⟩
  | .scalar st, .vec _, h => h.elim
  | .array s st, .arr xs, h => ⟨h, trivial⟩
  | .array s st, .vec _, h => h.elim
  | .vector n t, .vec vs, h => by
    obtain ⟨rfl, hall⟩ := h
    exact flattenRep_typed (flattenTy t) vs fun v hv => flattenEV_typed t v (hall v hv)
  | .vector n t, .arr _, h => h.elim
  | .tuple ts, .vec vs, h => flattenEVL_typed ts vs h
  | .tuple ts, .arr _, h => h.elim
  | .named fs, .vec vs, h => flattenEVN_typed fs vs h
  | .named fs, .arr _, h => h.elim
theorem flattenEVL_typed : ∀ (ts : List Ty) (vs : List EV), hasTypeL ts vs → hasTypeL (flattenL ts) (flattenEVL vs)
  | [], [], _ => trivial
  | [], _ :: _, h => h.elim
  | _ :: _, [], h => h.elim
  | t :: ts, v :: vs, h => hasTypeL_append _ _ _ _ (flattenEV_typed t v h.1) (flattenEVL_typed ts vs h.2)
theorem flattenEVN_typed : ∀ (fs : List (String × Ty)) (vs : List EV), hasTypeN fs vs →
    hasTypeL (flattenN fs) (flattenEVL vs)
  | [], [], _ => trivial
  | [], _ :: _, h => h.elim
  | _ :: _, [], h => h.elim
  | (_, t) :: fs, v :: vs, h => hasTypeL_append _ _ _ _ (flattenEV_typed t v h.1) (flattenEVN_typed fs vs h.2)
end

theorem prod_dimsOf {a : Ty} (h : isFlat a = true) : TI.prod (dimsOf a) = prod (dimsE a) := by
  rcases isFlat_cases h with ⟨st, rfl⟩ | ⟨s, st, rfl⟩
  · rfl
  · exact prod_eq s

theorem atomic_hasType {a b : Ty} {v : EV} (h : canAtomicReshape a b = true) (hv : hasType a v) :
    hasType b v := by
  unfold canAtomicReshape at h
  split at h
  · rename_i sa sb ha hb
    obtain ⟨fa, ea⟩ := isFlat_of_stOf ha
    obtain ⟨fb, eb⟩ := isFlat_of_stOf hb
    obtain ⟨xs, rfl, hx⟩ := hasType_flat_arr fa hv
    simp only [Bool.and_eq_true, beq_iff_eq] at h
    refine (hasType_flat fb xs).mpr ?_
    rw [eb, ← h.1.1.1, ← ea, ← prod_dimsOf fb, ← h.2, prod_dimsOf fa]
    exact hx
  · cases h

theorem allAtomic_hasTypeL : ∀ (as bs : List Ty) (xs : List EV), allAtomic as bs = true →
    as.length = bs.length → hasTypeL as xs → hasTypeL bs xs
  | [], [], _, _, _, h => h
  | [], _ :: _, _, _, hl, _ => nomatch hl
  | _ :: _, [], _, _, hl, _ => nomatch hl
  | _ :: _, _ :: _, [], _, _, h => h.elim
  | _ :: as, _ :: bs, _ :: xs, ha, hl, h =>
    have ha' := (Bool.and_eq_true _ _).mp ha
    ⟨atomic_hasType ha'.1 h.1, allAtomic_hasTypeL as bs xs ha'.2 (Nat.succ.inj hl) h.2⟩

theorem repM_typed (t : Ty) (T : List Ty) (f : List EV → Option (EV × List EV))
    (hf : ∀ (restT : List Ty) (xs : List EV), hasTypeL (T ++ restT) xs →
      ∃ v r, f xs = some (v, r) ∧ hasType t v ∧ hasTypeL restT r) :
    ∀ (n : Nat) (restT : List Ty) (xs : List EV), hasTypeL ((List.replicate n T).flatten ++ restT) xs →
      ∃ vs r, repM f n xs = some (vs, r) ∧ vs.length = n ∧ (∀ v ∈ vs, hasType t v) ∧ hasTypeL restT r
  | 0, restT, xs, h => ⟨[], xs, rfl, rfl, (fun _ hm => nomatch hm), h⟩
  | n + 1, restT, xs, h => by
    rw [List.replicate_succ, List.flatten_cons, List.append_assoc] at h
    obtain ⟨v, r, e1, e2, e3⟩ := hf _ xs h
    obtain ⟨vs, r', g1, g2, g3, g4⟩ := repM_typed t T f hf n restT r e3
    refine ⟨v :: vs, r', by simp only [repM, e1, g1], congrArg Nat.succ g2, fun w hw => ?_, g4⟩
    rcases List.mem_cons.mp hw with rfl | hw
    · exact e2
    · exact g3 w hw

mutual
theorem unflat_typed : ∀ (t : Ty) (restT : List Ty) (xs : List EV), hasTypeL (flattenTy t ++ restT) xs →
    ∃ v r, unflat t xs = some (v, r) ∧ hasType t v ∧ hasTypeL restT r
  | .scalar st, restT, [], h => h.elim
  | .scalar st, restT, x :: r, h => ⟨x, r, rfl, h.1, h.2⟩
  | .array s st, restT, [], h => h.elim
  | .array s st, restT, x :: r, h => ⟨x, r, rfl, h.1, h.2⟩
  | .vector n t, restT, xs, h => by
    obtain ⟨vs, r, e1, e2, e3, e4⟩ :=
      repM_typed t (flattenTy t) (unflat t) (fun restT xs h => unflat_typed t restT xs h) n restT xs h
    exact ⟨.vec vs, r, by simp only [unflat, e1], ⟨e2, e3⟩, e4⟩
  | .tuple ts, restT, xs, h => by
    obtain ⟨vs, r, e1, e2, e3⟩ := unflatL_typed ts restT xs h
    exact ⟨.vec vs, r, by simp only [unflat, e1], e2, e3⟩
  | .named fs, restT, xs, h => by
    obtain ⟨vs, r, e1, e2, e3⟩ := unflatN_typed fs restT xs h
    exact ⟨.vec vs, r, by simp only [unflat, e1], e2, e3⟩
theorem unflatL_typed : ∀ (ts : List Ty) (restT : List Ty) (xs : List EV), hasTypeL (flattenL ts ++ restT) xs →
    ∃ vs r, unflatL ts xs = some (vs, r) ∧ hasTypeL ts vs ∧ hasTypeL restT r
  | [], restT, xs, h => ⟨[], xs, rfl, trivial, h⟩
  | t :: ts, restT, xs, h => by
    rw [flattenL, List.append_assoc] at h
    obtain ⟨v, r, e1, e2, e3⟩ := unflat_typed t _ xs h
    obtain ⟨vs, r', g1, g2, g3⟩ := unflatL_typed ts restT r e3
    exact ⟨v :: vs, r', by simp only [unflatL, e1, g1], ⟨e2, g2⟩, g3⟩
theorem unflatN_typed : ∀ (fs : List (String × Ty)) (restT : List Ty) (xs : List EV),
    hasTypeL (flattenN fs ++ restT) xs →
    ∃ vs r, unflatN fs xs = some (vs, r) ∧ hasTypeN fs vs ∧ hasTypeL restT r
  | [], restT, xs, h => ⟨[], xs, rfl, trivial, h⟩
  | (_, t) :: fs, restT, xs, h => by
    rw [flattenN, List.append_assoc] at h
    obtain ⟨v, r, e1, e2, e3⟩ := unflat_typed t _ xs h
    obtain ⟨vs, r', g1, g2, g3⟩ := unflatN_typed fs restT r e3
    exact ⟨v :: vs, r', by simp only [unflatN, e1, g1], ⟨e2, g2⟩, g3⟩
end

end CCV.EvalOps
