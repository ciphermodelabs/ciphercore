import CCV.Model.Approx
/-
  C20: `wrap` (the evaluator's arithmetic modulo `2^s` on denoted values) and `Truncate` (toward zero),
  for every width `s`.  Core only (no Mathlib).
-/
namespace CCV.Approx

def InRange (sg : Bool) (s : Nat) (v : Int) : Prop :=
  if sg = true then -(2:Int)^(s-1) ≤ v ∧ v < 2^(s-1) else 0 ≤ v ∧ v < 2^s

theorem two_pow_pred (s : Nat) (h : 1 ≤ s) : (2:Int) ^ s = 2 * 2 ^ (s - 1) := by
  obtain ⟨k, rfl⟩ : ∃ k, s = k + 1 := ⟨s - 1, by omega⟩
  rw [Int.pow_succ, Int.mul_comm]; rfl

theorem two_pow_pos' (n : Nat) : (0:Int) < 2 ^ n := Int.pow_pos (by decide)

theorem inRange_zero (sg : Bool) (s : Nat) : InRange sg s 0 := by
  have hP := two_pow_pos' (s - 1)
  have hM := two_pow_pos' s
  cases sg
  · simp only [InRange]; exact ⟨Int.le_refl 0, hM⟩
  · simp only [InRange, if_true]; omega

theorem wrap_of_inRange {sg : Bool} {s : Nat} {v : Int} (h : 1 ≤ s) (hv : InRange sg s v) :
    wrap sg s v = v := by
  have hM := two_pow_pred s h
  cases sg
  · simp only [InRange, Bool.false_eq_true, if_false] at hv
    simp only [wrap, Bool.false_eq_true, if_false]
    exact Int.emod_eq_of_lt hv.1 hv.2
  · simp only [InRange, if_true] at hv
    simp only [wrap, if_true]
    rw [Int.emod_eq_of_lt (by omega) (by omega)]; omega

theorem wrap_inRange {sg : Bool} {s : Nat} {v : Int} (h : 1 ≤ s) : InRange sg s (wrap sg s v) := by
  have hM := two_pow_pred s h
  have hP := two_pow_pos' s
  cases sg
  · simp only [InRange, wrap, Bool.false_eq_true, if_false]
    exact ⟨Int.emod_nonneg _ (by omega), Int.emod_lt_of_pos _ hP⟩
  · simp only [InRange, wrap, if_true]
    have h1 := Int.emod_nonneg (v + 2 ^ (s - 1)) (b := 2 ^ s) (by omega)
    have h2 := Int.emod_lt_of_pos (v + 2 ^ (s - 1)) hP
    omega

theorem wrap_wrap_add (sg : Bool) (s : Nat) (a b : Int) :
    wrap sg s (wrap sg s a + b) = wrap sg s (a + b) := by
  cases sg
  · simp only [wrap, Bool.false_eq_true, if_false]
    exact Int.emod_add_emod _ _ _
  · simp only [wrap, if_true]
    have e : (a + 2 ^ (s - 1)) % 2 ^ s - 2 ^ (s - 1) + b + 2 ^ (s - 1)
        = (a + 2 ^ (s - 1)) % 2 ^ s + b := by omega
    rw [e, Int.emod_add_emod]
    have e2 : a + 2 ^ (s - 1) + b = a + b + 2 ^ (s - 1) := by omega
    rw [e2]

theorem wrap_add_wrap (sg : Bool) (s : Nat) (a b : Int) :
    wrap sg s (a + wrap sg s b) = wrap sg s (a + b) := by
  rw [Int.add_comm, wrap_wrap_add, Int.add_comm]

theorem wrap_wrap (sg : Bool) (s : Nat) (a : Int) : wrap sg s (wrap sg s a) = wrap sg s a := by
  have := wrap_wrap_add sg s a 0
  simpa using this

theorem add_inRange {sg : Bool} {s : Nat} (a b : Int) (h : 1 ≤ s) : InRange sg s (add sg s a b) :=
  wrap_inRange h

/-- the odd entry is recovered exactly when the selection bit is set. -/
theorem add_sub_cancel_wrap {sg : Bool} {s : Nat} {o : Int} (e : Int) (h : 1 ≤ s)
    (ho : InRange sg s o) : add sg s (sub sg s o e) e = o := by
  simp only [add, sub]
  rw [wrap_wrap_add]
  have : o - e + e = o := by omega
  rw [this, wrap_of_inRange h ho]

theorem add_zero_left {sg : Bool} {s : Nat} {e : Int} (h : 1 ≤ s) (he : InRange sg s e) :
    add sg s 0 e = e := by
  simp only [add, Int.zero_add]; exact wrap_of_inRange h he

theorem add_zero_right {sg : Bool} {s : Nat} {e : Int} (h : 1 ≤ s) (he : InRange sg s e) :
    add sg s e 0 = e := by
  simp only [add, Int.add_zero]; exact wrap_of_inRange h he

example : wrap true 8 200 = -56 := by decide
example : add true 8 (sub true 8 (-128) 127) 127 = -128 := by decide
example : add false 8 (sub false 8 3 250) 250 = 3 := by decide

theorem trunc_of_nonneg {y : Int} (D : Int) (hy : 0 ≤ y) : trunc y D = y / D :=
  Int.tdiv_eq_ediv_of_nonneg hy

theorem trunc_neg (y D : Int) : trunc (-y) D = -trunc y D :=
  Int.neg_tdiv ..

/-- toward-zero rounding: arguments in `(-D, 0)` go to bucket `0`, not `-1`. -/
theorem trunc_eq_zero_of_small_neg {y D : Int} (h1 : -D < y) (h2 : y < 0) : trunc y D = 0 := by
  rw [← Int.neg_neg y, trunc_neg, trunc_of_nonneg D (by omega),
    Int.ediv_eq_zero_of_lt (by omega) (by omega)]
  rfl

example : trunc 37 10 = 3 ↔ 3 * 10 ≤ (37:Int) ∧ (37:Int) < (3 + 1) * 10 := by decide
example : trunc (-7) 10 = 0 := trunc_eq_zero_of_small_neg (by decide) (by decide)
example : trunc (-7) 10 = 0 := by decide

/-- a floor quotient with its remainder, in the multiplied-out form the error recurrences use. -/
theorem ediv_rem (N : Int) {P : Int} (hP : 0 < P) : ∃ r, 0 ≤ r ∧ r < P ∧ N / P * P + r = N :=
  ⟨N % P, Int.emod_nonneg N (Int.ne_of_gt hP), Int.emod_lt_of_pos N hP, Int.ediv_mul_add_emod N P⟩

theorem trunc_within_unit {y D : Int} (hD : 0 < D) :
    (0 ≤ y → trunc y D * D ≤ y ∧ y < trunc y D * D + D) ∧
    (y ≤ 0 → y ≤ trunc y D * D ∧ trunc y D * D - D < y) := by
  constructor
  · intro hy
    obtain ⟨r, h0, h1, e⟩ := ediv_rem y hD
    rw [trunc_of_nonneg D hy]
    omega
  · intro hy
    obtain ⟨r, h0, h1, e⟩ := ediv_rem (-y) hD
    have e' : trunc y D = -(-y / D) := by
      rw [← trunc_of_nonneg D (by omega : 0 ≤ -y), trunc_neg, Int.neg_neg]
    rw [e', Int.neg_mul]
    omega

end CCV.Approx
