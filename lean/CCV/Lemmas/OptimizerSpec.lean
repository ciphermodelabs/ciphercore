import CCV.Lemmas.Optimizer
/-
  The vocabulary of the statements of C06 / C04(b) about the optimiser model, in one place:
  what is assumed of the source graph (`ConstWF`, `InputWF`, `MetaWF`, `VecWF`), how the randomness
  of the result relates to that of the source (`Compat`, `transport`), what "randomising / PRF /
  input nodes are preserved" means (`SpecialPreserved`, `SpecialInj`, `Reach`), and what the meta
  pass assumes of the operation semantics (`MetaLaws`, `ValOK`, `TyOK`, `VecOK`).
  Evaluation (`eval`), `Closed`, `Maps` and `inputsOf` are in `Lemmas/Optimizer.lean`.
-/
namespace CCV.Optimizer

variable {V : Type}

/-- well-formedness the constants pass relies on: Constant nodes carry no annotations (otherwise the
    pass returns `Err`, see `constantsOk`) and have no dependencies -/
def ConstWF (ns : List Node) : Prop :=
  ∀ n ∈ ns, n.op.isConstant = true → n.ann = [] ∧ n.deps = []

def InputWF (ns : List Node) : Prop := ∀ n ∈ ns, n.op.isInput = true → n.deps = []

/-- arities the type checker of ciphercore guarantees and the meta pass silently relies on
    (`k` = number of dependencies); field names of a named tuple are distinct -/
def arityOK (op : Op) (k : Nat) : Bool :=
  match op with
  | .constant _ _ => k == 0
  | .arrayToVector => k == 1
  | .a2b => k == 1
  | .b2a _ => k == 1
  | .createNamedTuple names => decide names.Nodup && names.length == k
  | _ => true

def metaWF (n : Node) : Bool := arityOK n.op n.deps.length

def MetaWF (ns : List Node) : Prop := ∀ n ∈ ns, metaWF n = true

/-- `VecOK` on the recorded types -/
def VecWF (ns : List Node) : Prop :=
  ∀ (i : Nat) (n : Node), ns[i]? = some n →
    (n.op = .vectorGet → ∀ d, n.deps.head? = some d → ∃ e, tyOf ns d = .vec e) ∧
    (n.op = .zip → ∀ d ∈ n.deps, ∃ e, tyOf ns d = .vec e)

/-- the operations C04(b) is about -/
def Special (op : Op) : Prop := op.isRandom = true ∨ op.isPrf = true ∨ op.isInput = true

def Compat (src : List Node) (m : Mapping) (rO rN : Nat → List V → V) : Prop :=
  ∀ i k n, Maps m i k → src[i]? = some n → n.op.isRandom = true → rN k = rO i

def origin (m : Mapping) (k : Nat) : Nat := m.idxOf (some k)

def transport (m : Mapping) (rO : Nat → List V → V) : Nat → List V → V := fun k => rO (origin m k)

/-- C04(b) on the IR: a randomising / PRF / input node keeps its operation, is not merged with any
    other node, and every such node of the result comes from exactly one such source node -/
def SpecialPreserved (src out : List Node) (m : Mapping) : Prop :=
  (∀ i k n, Maps m i k → src[i]? = some n → Special n.op →
     (∃ n', out[k]? = some n' ∧ n'.op = n.op) ∧ ∀ j, Maps m j k → j = i) ∧
  (∀ k n', out[k]? = some n' → Special n'.op →
     ∃ i n, Maps m i k ∧ src[i]? = some n ∧ n.op = n'.op ∧ ∀ j, Maps m j k → j = i)

/-- C04(b) for the meta pass: a getter resolved through a proxy may be mapped to a randomising
    node, so injectivity is among randomising / PRF / input nodes only -/
def SpecialInj (src out : List Node) (m : Mapping) : Prop :=
  (∀ i k n, Maps m i k → src[i]? = some n → Special n.op →
     (∃ n', out[k]? = some n' ∧ n'.op = n.op) ∧
     (∀ j nj, Maps m j k → src[j]? = some nj → Special nj.op → j = i) ∧
     -- the special node is the first node mapped to its image (later getters may be resolved to it)
     ∀ j, Maps m j k → i ≤ j) ∧
  (∀ k n', out[k]? = some n' → Special n'.op →
     ∃ i n, Maps m i k ∧ src[i]? = some n ∧ n.op = n'.op)

inductive Reach (g : Graph) : Nat → Prop where
  | out : Reach g g.out
  | dep (i d : Nat) (n : Node) : Reach g i → g.nodes[i]? = some n → d ∈ n.deps → Reach g d

/-- the laws of the structural operations the meta pass relies on.  `tyv v` is the type summary of
    a value (what the harness records in `Node.ty`: `arr nd st` for scalars / arrays, `vec e` for
    vectors, `other` for everything else).  The pass reads recorded types to choose between `Get`
    and `GetSlice`, to cancel B2A∘A2B, and the nodes it creates get re-inferred types — hence the
    four typing laws (the type of a created `GetSlice` node is read again when vectors of arrays
    are nested).

    `ok v` = "the evaluation that produced `v` succeeded".  Every equation is only demanded when
    its left-hand side — the value of the node the pass replaces — is `ok`: for a strict partial
    semantics (ciphercore's evaluator: type errors, index out of range) the unconditional equations
    are false (e.g. `A2B(B2A_st x) = x` for an `x` that is not a bit array), see
    `Lemmas/OptimizerEval.lean`.  With `ok := fun _ => True` these are the unconditional laws.
    `ok_createTuple`: strictness of CreateTuple (needed for the components of a resolved Zip).
    `b2a_a2b` also demands that `x` itself (the value of a node of the result graph) is `ok`: for
    the evaluator model `ok` includes "has a valid type", and the law is false for a value of the
    invalid type `array [] st` whose summary `arr 0 st` is that of a scalar. -/
structure MetaLaws (ok : V → Prop) (sem : Op → List V → V) (tyv : V → Ty) : Prop where
  tupleGet : ∀ (vs : List V) (j : Nat) (h : j < vs.length),
    ok (sem (.tupleGet j) [sem .createTuple vs]) →
    sem (.tupleGet j) [sem .createTuple vs] = vs[j]
  namedGet : ∀ (names : List Nat) (vs : List V) (j : Nat) (h : j < vs.length), names.length = vs.length →
    names.Nodup → ok (sem (.namedTupleGet names[j]!) [sem (.createNamedTuple names) vs]) →
    sem (.namedTupleGet names[j]!) [sem (.createNamedTuple names) vs] = vs[j]
  vectorGet : ∀ (t : Nat) (vs : List V) (vid c : Nat) (h : c < vs.length),
    ok (sem .vectorGet [sem (.createVector t) vs, sem (.constant vid (some c)) []]) →
    sem .vectorGet [sem (.createVector t) vs, sem (.constant vid (some c)) []] = vs[c]
  zipGet : ∀ (vs : List V) (i : V), ok (sem .vectorGet [sem .zip vs, i]) →
    sem .vectorGet [sem .zip vs, i] = sem .createTuple (vs.map fun v => sem .vectorGet [v, i])
  a2vGet : ∀ (a : V) (vid c : Nat),
    ok (sem .vectorGet [sem .arrayToVector [a], sem (.constant vid (some c)) []]) →
    sem .vectorGet [sem .arrayToVector [a], sem (.constant vid (some c)) []] =
      match tyv a with
      | .arr 1 _ => sem (.get c) [a]
      | _ => sem (.getSlice c) [a]
  a2b_b2a : ∀ (x : V) (st : Nat), ok (sem .a2b [sem (.b2a st) [x]]) →
    sem .a2b [sem (.b2a st) [x]] = x
  b2a_a2b : ∀ (x : V) (nd st : Nat), tyv x = .arr nd st → ok x → ok (sem (.b2a st) [sem .a2b [x]]) →
    sem (.b2a st) [sem .a2b [x]] = x
  ty_get : ∀ (a : V) (c st : Nat), tyv a = .arr 1 st → ok (sem (.get c) [a]) →
    tyv (sem (.get c) [a]) = .arr 0 st
  ty_getSlice : ∀ (a : V) (c : Nat), ok (sem (.getSlice c) [a]) → tyv (sem (.getSlice c) [a]) =
      match tyv a with
      | .arr nd st => .arr (nd - 1) st
      | _ => .other
  ty_vectorGet : ∀ (v i : V) (e : Ty), tyv v = .vec e → ok (sem .vectorGet [v, i]) →
    tyv (sem .vectorGet [v, i]) = e
  ty_createTuple : ∀ (vs : List V), tyv (sem .createTuple vs) = .other
  ok_createTuple : ∀ (vs : List V), ok (sem .createTuple vs) → ∀ v ∈ vs, ok v

def ValOK (ok : V → Prop) (sem : Op → List V → V) (inp : Nat → V) (dv : V) (rnd : Nat → List V → V)
    (ns : List Node) : Prop :=
  ∀ i, i < ns.length → ok ((eval sem inp dv rnd ns).getD i dv)

/-- the recorded type summaries describe the values (the meta pass reads them for A2B/B2A and Get) -/
def TyOK (sem : Op → List V → V) (inp : Nat → V) (dv : V) (rnd : Nat → List V → V)
    (tyv : V → Ty) (ns : List Node) : Prop :=
  ∀ (i : Nat) (n : Node), ns[i]? = some n → tyv ((eval sem inp dv rnd ns).getD i dv) = n.ty

/-- `VectorGet` is applied to vectors and `Zip` to vectors only (guaranteed by the type checker of
    ciphercore): stated on the values, like `TyOK` -/
def VecOK (sem : Op → List V → V) (inp : Nat → V) (dv : V) (rnd : Nat → List V → V)
    (tyv : V → Ty) (ns : List Node) : Prop :=
  ∀ (i : Nat) (n : Node), ns[i]? = some n →
    (n.op = .vectorGet → ∀ d, n.deps.head? = some d →
      ∃ e, tyv ((eval sem inp dv rnd ns).getD d dv) = .vec e) ∧
    (n.op = .zip → ∀ d ∈ n.deps, ∃ e, tyv ((eval sem inp dv rnd ns).getD d dv) = .vec e)

end CCV.Optimizer
