import CCV.Model.TypedValue
import CCV.Lemmas.Bytes
/- The predicates the C13 statements about containers are written with (`Layout`, `bytesOk`, `expressible`),
   `check_type` against `Layout`, and the decode / print / parse / encode cycle of one number. -/
namespace CCV.TV
open CCV CCV.Bytes

/- The layout `check_type` is compared with: byte length for scalars and arrays, the same nesting
   structure for vectors, tuples and named tuples. -/
mutual
inductive Layout : Ty → Val → Prop
  | scalar (st : ST) (bs : List Nat) : bs.length = (st.bits + 7) / 8 → Layout (.scalar st) (.bytes bs)
  | array (sh : List Nat) (st : ST) (bs : List Nat) :
      bs.length = (numel sh * st.bits + 7) / 8 → Layout (.array sh st) (.bytes bs)
  | vector (n : Nat) (t : Ty) (vs : List Val) :
      vs.length = n → (∀ v ∈ vs, Layout t v) → Layout (.vector n t) (.vec vs)
  | tuple (ts : List Ty) (vs : List Val) : LayoutL ts vs → Layout (.tuple ts) (.vec vs)
  | named (fs : List (String × Ty)) (vs : List Val) : LayoutL (fs.map (·.2)) vs → Layout (.named fs) (.vec vs)
inductive LayoutL : List Ty → List Val → Prop
  | nil : LayoutL [] []
  | cons (t : Ty) (v : Val) (ts : List Ty) (vs : List Val) : Layout t v → LayoutL ts vs → LayoutL (t :: ts) (v :: vs)
end

mutual
def bytesOk : Val → Bool
  | .bytes bs => bs.all (fun b => decide (b < 256))
  | .vec vs => bytesOkL vs
def bytesOkL : List Val → Bool
  | [] => true
  | v :: vs => bytesOk v && bytesOkL vs
end

theorem bytesOkL_iff (vs : List Val) : bytesOkL vs = true ↔ ∀ v ∈ vs, bytesOk v = true := by
  induction vs with
  | nil => simp [bytesOkL]
  | cons w ws ih => simp [bytesOkL, ih]

mutual
/-- types whose JSON form determines them: valid, no empty vector, no empty named tuple
    (the two blind spots of the format, see known findings) -/
def expressible : Ty → Bool
  | .scalar _ => true
  | .array sh _ => isValidShape sh
  | .vector n t => decide (0 < n) && expressible t
  | .tuple ts => expressibleL ts
  | .named fs => !fs.isEmpty && nodupB (fs.map (·.1)) && expressibleN fs
def expressibleL : List Ty → Bool
  | [] => true
  | t :: ts => expressible t && expressibleL ts
def expressibleN : List (String × Ty) → Bool
  | [] => true
  | (_, t) :: fs => expressible t && expressibleN fs
end

theorem bytesOk_bytes (bs : List Nat) (h : bytesOk (.bytes bs) = true) : ∀ b ∈ bs, b < 256 :=
  fun b hb => of_decide_eq_true (List.all_eq_true.1 h b hb)

mutual
theorem checkB_iff_layout : ∀ (t : Ty) (v : Val), checkB t v = true ↔ Layout t v
  | .scalar st, .bytes bs => by
    simp only [checkB, checkArrayType, numel_nil, beq_iff_eq]
    exact ⟨fun h => .scalar st bs (by omega), fun h => by cases h with | scalar _ _ h => omega⟩
  | .array sh st, .bytes bs => by
    simp only [checkB, checkArrayType, beq_iff_eq]
    exact ⟨.array sh st bs, fun h => by cases h with | array _ _ _ h => exact h⟩
  | .vector n t, .vec vs => by
    simp only [checkB, Bool.and_eq_true, decide_eq_true_eq, List.all_eq_true]
    exact ⟨fun h => .vector n t vs h.1 (fun v hv => (checkB_iff_layout t v).1 (h.2 v hv)),
      fun h => by
        cases h with
        | vector _ _ _ hl hv => exact ⟨hl, fun v hm => (checkB_iff_layout t v).2 (hv v hm)⟩⟩
  | .tuple ts, .vec vs => by
    simp only [checkB]
    exact ⟨fun h => .tuple ts vs ((checkL_iff_layoutL ts vs).1 h),
      fun h => by cases h with | tuple _ _ h => exact (checkL_iff_layoutL ts vs).2 h⟩
  | .named fs, .vec vs => by
    simp only [checkB]
    exact ⟨fun h => .named fs vs ((checkN_iff_layoutL fs vs).1 h),
      fun h => by cases h with | named _ _ h => exact (checkN_iff_layoutL fs vs).2 h⟩
  | .scalar _, .vec _ => ⟨fun h => (Bool.false_ne_true h).elim, fun h => nomatch h⟩
  | .array _ _, .vec _ => ⟨fun h => (Bool.false_ne_true h).elim, fun h => nomatch h⟩
  | .vector _ _, .bytes _ => ⟨fun h => (Bool.false_ne_true h).elim, fun h => nomatch h⟩
  | .tuple _, .bytes _ => ⟨fun h => (Bool.false_ne_true h).elim, fun h => nomatch h⟩
  | .named _, .bytes _ => ⟨fun h => (Bool.false_ne_true h).elim, fun h => nomatch h⟩
theorem checkL_iff_layoutL : ∀ (ts : List Ty) (vs : List Val), checkL ts vs = true ↔ LayoutL ts vs
  | [], [] => ⟨fun _ => .nil, fun _ => rfl⟩
  | t :: ts, v :: vs => by
    simp only [checkL, Bool.and_eq_true]
    exact ⟨fun h => .cons t v ts vs ((checkB_iff_layout t v).1 h.1) ((checkL_iff_layoutL ts vs).1 h.2),
      fun h => by
        cases h with
        | cons _ _ _ _ h1 h2 => exact ⟨(checkB_iff_layout t v).2 h1, (checkL_iff_layoutL ts vs).2 h2⟩⟩
  | [], _ :: _ => ⟨fun h => (Bool.false_ne_true h).elim, fun h => nomatch h⟩
  | _ :: _, [] => ⟨fun h => (Bool.false_ne_true h).elim, fun h => nomatch h⟩
theorem checkN_iff_layoutL : ∀ (fs : List (String × Ty)) (vs : List Val),
    checkN fs vs = true ↔ LayoutL (fs.map (·.2)) vs
  | [], [] => ⟨fun _ => .nil, fun _ => rfl⟩
  | (_, t) :: fs, v :: vs => by
    simp only [checkN, Bool.and_eq_true]
    exact ⟨fun h => .cons t v _ vs ((checkB_iff_layout t v).1 h.1) ((checkN_iff_layoutL fs vs).1 h.2),
      fun h => by
        cases h with
        | cons _ _ _ _ h1 h2 => exact ⟨(checkB_iff_layout t v).2 h1, (checkN_iff_layoutL fs vs).2 h2⟩⟩
  | [], _ :: _ => ⟨fun h => (Bool.false_ne_true h).elim, fun h => nomatch h⟩
  | _ :: _, [] => ⟨fun h => (Bool.false_ne_true h).elim, fun h => nomatch h⟩
end

theorem layoutL_of_checkL : ∀ (ts : List Ty) (vs : List Val), checkL ts vs = true → LayoutL ts vs :=
  fun ts vs => (checkL_iff_layoutL ts vs).1

theorem layoutL_of_checkN : ∀ (fs : List (String × Ty)) (vs : List Val),
    checkN fs vs = true → LayoutL (fs.map (·.2)) vs :=
  fun fs vs => (checkN_iff_layoutL fs vs).1

theorem checkL_of_layoutL : ∀ (ts : List Ty) (vs : List Val), LayoutL ts vs → checkL ts vs = true :=
  fun ts vs => (checkL_iff_layoutL ts vs).2

theorem checkN_of_layoutL : ∀ (fs : List (String × Ty)) (vs : List Val),
    LayoutL (fs.map (·.2)) vs → checkN fs vs = true :=
  fun fs vs => (checkN_iff_layoutL fs vs).2

mutual
theorem checkB_zeroOf : ∀ t : Ty, checkB t (zeroOf t) = true
  | .scalar st => by simp [checkB, zeroOf, checkArrayType]
  | .array sh st => by simp [checkB, zeroOf, checkArrayType]
  | .vector n t => by
    simp only [checkB, zeroOf, Bool.and_eq_true, decide_eq_true_eq, List.all_eq_true, List.length_replicate, true_and]
    intro v hv
    rw [List.eq_of_mem_replicate hv]
    exact checkB_zeroOf t
  | .tuple ts => by simp only [checkB, zeroOf]; exact checkL_zeroOfL ts
  | .named fs => by simp only [checkB, zeroOf]; exact checkN_zeroOfN fs
theorem checkL_zeroOfL : ∀ ts : List Ty, checkL ts (zeroOfL ts) = true
  | [] => rfl
  | t :: ts => by simp only [checkL, zeroOfL, Bool.and_eq_true]; exact ⟨checkB_zeroOf t, checkL_zeroOfL ts⟩
theorem checkN_zeroOfN : ∀ fs : List (String × Ty), checkN fs (zeroOfN fs) = true
  | [] => rfl
  | (_, t) :: fs => by simp only [checkN, zeroOfN, Bool.and_eq_true]; exact ⟨checkB_zeroOf t, checkN_zeroOfN fs⟩
end

theorem numToU128_of_range (y : Int) (h1 : -((2 ^ 127 : Nat) : Int) ≤ y) (h2 : y < ((2 ^ 128 : Nat) : Int)) :
    numToU128 y = some (asU128 y) := by
  unfold numToU128 asU128
  by_cases h : 0 ≤ y
  · rw [if_pos ⟨h, h2⟩, Int.emod_eq_of_lt h h2]
  · rw [if_neg (fun h' => h h'.1), if_pos ⟨h1, Int.not_le.1 h⟩, ← Int.add_emod_right,
      Int.emod_eq_of_lt (by omega) (by omega)]

theorem castTo_ne_bit (st : ST) (h : st ≠ .bit) (r : Nat) : castTo st r = st.toInt r := by
  cases st <;> first | exact absurd rfl h | rfl

/-- the number the deserializer reads from the literal printed for a decoded element `a` -/
def readBack (st : ST) (a : Nat) : Nat := asU128 (castTo st a)

theorem numToU128_castTo (st : ST) (a : Nat) : numToU128 (castTo st a) = some (readBack st a) := by
  by_cases h : st = .bit
  · subst h
    exact numToU128_of_range _ (by simp only [castTo]; omega) (by simp only [castTo]; omega)
  · rw [readBack, castTo_ne_bit st h]
    exact numToU128_of_range _ (toInt_range st a).1 (toInt_range st a).2

theorem readBack_bit (a : Nat) (h : a ≤ 1) : readBack .bit a = a := by
  simp only [readBack, castTo, asU128_ofNat]; omega

theorem castNative_eq_toInt (st : ST) (r : Nat) : castNative st.bits st.signed r = st.toInt r := rfl

theorem bytesEq_refl (n : Nat) (a : List Nat) : bytesEq n a a = true := by
  simp [bytesEq]

/-- one element, non-bit: decode `byteLen` bytes, print, parse, encode — the same bytes come back -/
theorem elem_back (st : ST) (h : st ≠ .bit) (c : List Nat) (hl : c.length = st.byteLen)
    (hb : ∀ b ∈ c, b < 256) :
    leBytes (asU128 ((readBack st (signPad 128 st (fromLE (c.take (128 / 8)))) : Nat) : Int)) st.byteLen = c := by
  have htake : c.take (128 / 8) = c := by
    apply List.take_of_length_le
    have := bits_eq_byteLen st h
    have := Ops.bits_le st
    omega
  have hR : fromLE c < 2 ^ st.bits := by
    have := fromLE_lt c hb
    rw [hl, pow256_byteLen st h] at this; exact this
  have e3 := leBytes_fromLE c hb
  rw [hl] at e3
  rw [htake, asU128_ofNat, readBack, castTo_ne_bit st h]
  refine Eq.trans (leBytes_congr _ (fromLE c) _ ?_) e3
  rw [pow256_byteLen st h, Nat.mod_mod_of_dvd _ (Nat.pow_dvd_pow 2 (Ops.bits_le st)), asU128_toInt_mod,
    signPad_mod 128 st h _ hR (Ops.bits_le st) (Nat.le_refl _), Nat.mod_eq_of_lt hR]


/-- what `TypedValue::new` asks of a child: a valid type and the layout of that type -/
theorem checkOk_of {t : Ty} {v : Val} (hv : t.isValid = true) (hc : checkB t v = true) :
    checkOk v t = true := by
  rw [checkOk, hv, hc]; rfl

theorem isEqual_tuple (ts : List Ty) (a b : List Val) :
    isEqual (.tuple ts) (.vec a) (.vec b) = isEqualL ts a b := by simp only [isEqual]

theorem toJ_tuple (ts : List Ty) (vs : List Val) :
    toJ (.tuple ts) (.vec vs) = (toJL ts vs).map (fun js => tvObj "tuple" none (.arr js)) := by
  simp only [toJ]

end CCV.TV
