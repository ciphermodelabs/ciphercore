import CCV.Lemmas.SortPerm
/-
  The rank permutation of a strict total order on row indices is the inverse of its sorted
  enumeration; the counting rank of `gen_multi_bit_sort_graph` is such a rank; the shuffles of a
  radix round cancel, and the round refines the order by one more key (C18).
-/
namespace CCV.Sort

def cnt (lt : Nat → Nat → Bool) (n i : Nat) : Nat := (List.range n).countP (fun k => lt k i)

def rankOf (lt : Nat → Nat → Bool) (n : Nat) : List Nat := (List.range n).map (cnt lt n)

theorem countP_lt_of {l : List Nat} {p q : Nat → Bool} (h : ∀ x ∈ l, p x = true → q x = true)
    (a : Nat) (ha : a ∈ l) (hpa : p a = false) (hqa : q a = true) :
    l.countP p < l.countP q := by
  -- filtering by `p` is filtering by `q` and then by `p`, which drops `a`
  have e : l.filter p = (l.filter q).filter p := by
    rw [List.filter_filter]
    apply List.filter_congr
    intro x hx
    cases hp : p x
    · rfl
    · rw [h x hx hp]; rfl
  rw [List.countP_eq_length_filter, List.countP_eq_length_filter, e]
  exact List.length_filter_lt_length_iff_exists.mpr ⟨a, List.mem_filter.mpr ⟨ha, hqa⟩, by simp [hpa]⟩

theorem cnt_lt_of {lt : Nat → Nat → Bool} (hs : IsSTO lt) {n i j : Nat} (hi : i < n)
    (h : lt i j = true) : cnt lt n i < cnt lt n j :=
  countP_lt_of (fun k _ hk => hs.trans k i j hk h) i (List.mem_range.mpr hi) (hs.irrefl i) h

theorem cnt_lt_iff {lt : Nat → Nat → Bool} (hs : IsSTO lt) {n i j : Nat} (hi : i < n) (hj : j < n) :
    cnt lt n i < cnt lt n j ↔ lt i j = true := by
  constructor
  · intro h
    rcases hs.tri i j with h1 | h1 | h1
    · exact h1
    · subst h1; omega
    · have := cnt_lt_of hs hj h1; omega
  · exact cnt_lt_of hs hi

theorem cnt_lt_n {lt : Nat → Nat → Bool} (hs : IsSTO lt) {n i : Nat} (hi : i < n) : cnt lt n i < n := by
  have : (List.range n).countP (fun k => lt k i) < (List.range n).countP (fun _ => true) :=
    countP_lt_of (fun _ _ _ => rfl) i (List.mem_range.mpr hi) (hs.irrefl i) rfl
  simpa [cnt] using this

theorem rankOf_length (lt : Nat → Nat → Bool) (n : Nat) : (rankOf lt n).length = n := by
  simp [rankOf]

theorem rankOf_get (lt : Nat → Nat → Bool) (n i : Nat) (hi : i < n) :
    (rankOf lt n)[i]? = some (cnt lt n i) := by
  simp [rankOf, hi]

theorem rankOf_perm {lt : Nat → Nat → Bool} (hs : IsSTO lt) (n : Nat) :
    (rankOf lt n).Perm (List.range n) := by
  apply perm_range_of_nodup n _ ?_ ?_ (rankOf_length lt n)
  · rw [List.nodup_iff_pairwise_ne, rankOf, List.pairwise_map]
    refine List.Pairwise.imp_of_mem ?_ List.pairwise_lt_range
    intro a b ha hb hab
    have ha := List.mem_range.mp ha
    have hb := List.mem_range.mp hb
    rcases hs.tri a b with h | h | h
    · have := cnt_lt_of hs ha h; omega
    · omega
    · have := cnt_lt_of hs hb h; omega
  · intro x hx
    simp only [rankOf, List.mem_map, List.mem_range] at hx
    obtain ⟨i, hi, e⟩ := hx
    subst e
    exact cnt_lt_n hs hi

theorem rankOf_congr {lt lt' : Nat → Nat → Bool} (n : Nat)
    (h : ∀ k i, k < n → i < n → lt k i = lt' k i) : rankOf lt n = rankOf lt' n := by
  unfold rankOf
  apply List.map_congr_left
  intro i hi
  unfold cnt
  apply List.countP_congr
  intro k hk
  rw [h k i (List.mem_range.mp hk) (List.mem_range.mp hi)]

/-- Counting over `0..n-1` may be done along the ranks (the ranks are a permutation of `0..n-1`);
    this lets `radixRound_spec` compare a count in `lt`-order with a count in input order. -/
theorem countP_rank {lt : Nat → Nat → Bool} (hs : IsSTO lt) (n : Nat) (Q : Nat → Bool) :
    (List.range n).countP Q = (List.range n).countP (fun k => Q (cnt lt n k)) := by
  rw [← (rankOf_perm hs n).countP_eq Q, rankOf, List.countP_map]
  rfl

/-- The rank list inverts the sorted enumeration: if `p` lists `0..n-1` in the order `lt`, row
    `p[j]` has rank `j`.  (The ranks along `p` increase and are a permutation of `0..n-1`.) -/
theorem rankOf_invRel {lt : Nat → Nat → Bool} (hs : IsSTO lt) {n : Nat} {p : List Nat}
    (hp : p.Perm (List.range n)) (hsorted : p.Pairwise fun a b => lt a b = true) :
    InvRel p (rankOf lt n) := by
  have hL : p.map (cnt lt n) = List.range n := by
    apply List.Perm.eq_of_pairwise (le := (· < ·)) (fun a b _ _ h1 h2 => by omega) ?_
      List.pairwise_lt_range ((hp.map _).trans (rankOf_perm hs n))
    rw [List.pairwise_map]
    exact hsorted.imp_of_mem (fun ha _ h => cnt_lt_of hs (perm_range_lt hp _ ha) h)
  intro j v hj
  have hjn : j < n := by
    rw [← perm_range_length hp]; exact (List.getElem?_eq_some_iff.mp hj).1
  have h1 := congrArg (·[j]?) hL
  simp only [List.getElem?_map, hj, Option.map_some, List.getElem?_range hjn] at h1
  rw [rankOf_get _ _ v (perm_range_get_lt hp j v hj), h1]

def stableRank (keys : List (List Nat)) : List Nat := rankOf (keyLt (keys.getD · [])) keys.length

theorem countP_range_and_lt (P : Nat → Bool) {i n : Nat} (h : i ≤ n) :
    (List.range n).countP (fun k => P k && decide (k < i)) = (List.range i).countP P := by
  obtain ⟨d, rfl⟩ := Nat.exists_eq_add_of_le h
  induction d with
  | zero =>
    apply List.countP_congr
    intro k hk
    have h2 : k < i := List.mem_range.mp hk
    simp [h2]
  | succ d ih =>
    rw [← Nat.add_assoc, List.range_succ, List.countP_append, ih (Nat.le_add_right i d)]
    simp

theorem countP_or_disjoint (l : List Nat) (A B : Nat → Bool) (h : ∀ x, A x = true → B x = false) :
    l.countP (fun k => A k || B k) = l.countP A + l.countP B := by
  induction l with
  | nil => rfl
  | cons x xs ih =>
    rw [List.countP_cons, List.countP_cons, List.countP_cons, ih]
    cases hA : A x with
    | false => cases hB : B x <;> simp <;> omega
    | true => simp [h x hA]; omega

theorem countingRank_eq (vals : List Nat) :
    countingRank vals = rankOf (lexStep (vals.getD · 0) idxLt) vals.length := by
  -- the rows before `i` in the order are those with a smaller value (first sum of `countS`) and those
  -- with the same value and a smaller index, i.e. the second sum of `countS` without row `i` itself
  unfold countingRank rankOf
  apply List.map_congr_left
  intro i hi
  have hi := List.mem_range.mp hi
  unfold countS cnt
  have h1 : (List.range vals.length).countP (fun k => lexStep (vals.getD · 0) idxLt k i) =
      (List.range vals.length).countP (fun k => decide (vals.getD k 0 < vals.getD i 0)) +
      (List.range vals.length).countP (fun k => (vals.getD k 0 == vals.getD i 0) && decide (k < i)) := by
    rw [← countP_or_disjoint]
    · rfl
    · intro x hx
      simp only [decide_eq_true_eq] at hx
      simp only [Bool.and_eq_false_imp, beq_iff_eq]
      intro e; omega
  rw [h1]
  rw [countP_range_and_lt (fun k => vals.getD k 0 == vals.getD i 0) (Nat.le_of_lt hi), List.range_succ,
    List.countP_append]
  have h3 : (List.range i).countP (fun k => decide (vals.getD k 0 = vals.getD i 0)) =
      (List.range i).countP (fun k => vals.getD k 0 == vals.getD i 0) := by
    apply List.countP_congr; intro k _; simp
  rw [h3]
  simp

/-- The shuffle cancels: `apply_sorting_permutation` applies the inverse of `sigma`, whatever the
    shuffle `pi`. -/
theorem applySorting_eq_invApply {α : Type} {n : Nat} {pi sigma : List Nat} {a : List α}
    (hpi : pi.Perm (List.range n)) (hs : sigma.Perm (List.range n)) (ha : a.length = n) :
    applySorting pi sigma a = (inversePerm sigma).bind (gather a) := by
  obtain ⟨s', hs', hs'l, hs'2⟩ := gather_perm_spec hpi (perm_range_length hs)
  obtain ⟨c, hc, hcl, hc2⟩ := gather_perm_spec hpi ha
  have hs'p := perm_of_gather hs hpi hs'
  obtain ⟨r, hr, hrl, hr2⟩ := invApply_spec hs'p hcl
  obtain ⟨r0, hr0, hr0l, hr02⟩ := invApply_spec hs ha
  have : r = r0 := by
    apply ext_perm hs'p hrl hr0l
    intro i v hi
    have hin : i < pi.length := by
      rw [perm_range_length hpi, ← hs'l]; exact (List.getElem?_eq_some_iff.mp hi).1
    have hpi_i := List.getElem?_eq_getElem hin
    rw [hr2 i v hi, hc2 i _ hpi_i]
    rw [hs'2 i _ hpi_i] at hi
    rw [hr02 _ v hi]
  simp [applySorting, hs', hc, hr, hr0, this]

/-- The shuffle `pi` also cancels around the composition with the chunk's rank `ro`: composing `ro`
    with the shuffled `sigma` and unshuffling is composing `ro` with `sigma`. -/
theorem gather_unshuffle {n : Nat} {pi sigma s' ro : List Nat} (hpi : pi.Perm (List.range n))
    (hs : sigma.Perm (List.range n)) (hro : ro.length = n) (hs' : gather sigma pi = some s') :
    ((gather ro s').bind fun s'' => (inversePerm pi).bind (gather s'')) = gather ro sigma := by
  obtain ⟨s'', hs'', hs''l, hs''2⟩ := gather_perm_spec (perm_of_gather hs hpi hs') hro
  obtain ⟨out, hout, houtl, hout2⟩ := invApply_spec hpi hs''l
  obtain ⟨t, ht, htl, ht2⟩ := gather_perm_spec hs hro
  have : out = t := by
    apply ext_perm hpi houtl htl
    intro i m hi
    have hm : m < sigma.length := by
      rw [perm_range_length hs]; exact perm_range_get_lt hpi i m hi
    have hsm := List.getElem?_eq_getElem hm
    rw [hout2 i m hi, ht2 m _ hsm]
    exact hs''2 i _ ((gather_get hs' i m hi).1.trans hsm)
  simp [hs'', hout, ht, this]

/-- a round with any shuffle `pi` is the round without shuffle: bring the column into `sigma`-order,
    take its counting rank, compose with `sigma` -/
theorem radixRound_eq {n : Nat} {pi sigma col : List Nat} (hpi : pi.Perm (List.range n))
    (hs : sigma.Perm (List.range n)) (hcol : col.length = n) :
    radixRound pi sigma col =
      ((inversePerm sigma).bind (gather col)).bind fun k' => gather (countingRank k') sigma := by
  obtain ⟨k, hk, -, -⟩ := gather_perm_spec hpi hcol
  obtain ⟨s', hs', -, -⟩ := gather_perm_spec hpi (perm_range_length hs)
  have h1 := applySorting_eq_invApply hpi hs hcol
  obtain ⟨k', hk', hk'l, -⟩ := invApply_spec hs hcol
  have h2 := gather_unshuffle hpi hs (ro := countingRank k') (by simp [countingRank, hk'l]) hs'
  -- `h1`: the first three steps of the round give `k'`; `h2`: the last two give `gather _ sigma`
  simp only [applySorting, hs', hk, Option.bind_eq_bind, Option.bind_some, hk'] at h1
  simp [radixRound, hk, hs', h1, hk', h2]

/-- One round: if `sigma` ranks the rows by `lt`, the round returns the ranks by (chunk value,
    then `lt`): the counting rank of the column brought into `lt`-order breaks ties by position
    there, i.e. by `lt`. -/
theorem radixRound_spec {n : Nat} {lt : Nat → Nat → Bool} (hs : IsSTO lt) {pi col : List Nat}
    (hpi : pi.Perm (List.range n)) (hcol : col.length = n) :
    radixRound pi (rankOf lt n) col = some (rankOf (lexStep (col.getD · 0) lt) n) := by
  have hsig := rankOf_perm hs n
  obtain ⟨k', hk', hk'l, hk'2⟩ := invApply_spec hsig hcol
  have hk'3 : ∀ m, m < n → k'.getD (cnt lt n m) 0 = col.getD m 0 := fun m hm => by
    rw [List.getD_eq_getElem?_getD, hk'2 m _ (rankOf_get lt n m hm), List.getD_eq_getElem?_getD]
  obtain ⟨t, ht, htl, ht2⟩ := gather_perm_spec hsig (a := countingRank k') (by simp [countingRank, hk'l])
  rw [radixRound_eq hpi hsig hcol, hk', Option.bind_some, ht]
  congr 1
  apply ext_lt htl (rankOf_length _ n)
  intro m hm
  rw [ht2 m _ (rankOf_get lt n m hm), countingRank_eq, hk'l, rankOf_get _ n _ (cnt_lt_n hs hm),
    rankOf_get _ n m hm]
  congr 1
  show (List.range n).countP (fun c => lexStep (k'.getD · 0) idxLt c (cnt lt n m)) =
    (List.range n).countP (fun c => lexStep (col.getD · 0) lt c m)
  rw [countP_rank hs]
  apply List.countP_congr
  intro c hc
  have hc := List.mem_range.mp hc
  rw [lexStep_true, lexStep_true, hk'3 c hc, hk'3 m hm]
  simp only [idxLt, decide_eq_true_eq, cnt_lt_iff hs hc hm]

end CCV.Sort
