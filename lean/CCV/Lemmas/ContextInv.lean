import CCV.Lemmas.Context
/-
  C11: the well-formedness invariant `Inv` of a context state, and `Outcome`: what a call may do to
  a well-formed state (one lemma per mutator).  Core only.
-/
namespace CCV.Context

structure NodeOk (gs : List Graph) (i j : Nat) (nd : Node) : Prop where
  id : nd.id = j
  /-- the node passed the type verdict (has a valid cached type) -/
  typed : nd.typed = true
  deps : ∀ d ∈ nd.deps, d.1 = i ∧ d.2 < j
  gdeps : ∀ gd ∈ nd.gdeps, gd < i ∧ ∃ cg : Graph, gs[gd]? = some cg ∧ cg.finalized = true

structure GraphOk (gs : List Graph) (i : Nat) (g : Graph) : Prop where
  id : g.id = i
  nodes : ∀ j nd, g.nodes[j]? = some nd → NodeOk gs i j nd
  output : ∀ o, g.output = some o → o < g.nodes.length
  fin : g.finalized = true → g.output.isSome = true

def InRange (gs : List Graph) (g n : Nat) : Prop :=
  ∃ gr : Graph, gs[g]? = some gr ∧ n < gr.nodes.length

structure Inv (s : State) : Prop where
  graphs : ∀ (i : Nat) (g : Graph), s.graphs[i]? = some g → GraphOk s.graphs i g
  main : ∀ m, s.main = some m → ∃ g : Graph, s.graphs[m]? = some g ∧ g.finalized = true
  fin : s.finalized = true →
    s.main.isSome = true ∧ ∀ (i : Nat) (g : Graph), s.graphs[i]? = some g → g.finalized = true
  gnames : ∀ id nm, tget s.gnames id = some nm ↔ tget s.gnamesInv nm = some id
  gnamesRange : ∀ id nm, tget s.gnames id = some nm → id < s.graphs.length
  nnames : ∀ g n nm, tget s.nnames (g, n) = some nm ↔ tget s.nnamesInv (g, nm) = some n
  nnamesRange : ∀ g n nm, tget s.nnames (g, n) = some nm → InRange s.graphs g n
  nannotRange : ∀ g n v, tget s.nannot (g, n) = some v → InRange s.graphs g n
  gannotRange : ∀ g v, tget s.gannot g = some v → g < s.graphs.length
  nodup : (keys s.gnames).Nodup ∧ (keys s.gnamesInv).Nodup ∧ (keys s.nnames).Nodup ∧
          (keys s.nnamesInv).Nodup ∧ (keys s.nannot).Nodup ∧ (keys s.gannot).Nodup
  total : s.total ≤ maxTotal

def Frozen (gs gs' : List Graph) : Prop :=
  ∀ (i : Nat) (gr : Graph), gs[i]? = some gr → gr.finalized = true → gs'[i]? = some gr

theorem NodeOk.mono {gs gs' : List Graph} {i j : Nat} {nd : Node} (h : NodeOk gs i j nd)
    (hm : Frozen gs gs') : NodeOk gs' i j nd :=
  ⟨h.id, h.typed, h.deps, fun gd hgd =>
    let ⟨h1, cg, h2, h3⟩ := h.gdeps gd hgd
    ⟨h1, cg, hm gd cg h2 h3, h3⟩⟩

theorem GraphOk.mono {gs gs' : List Graph} {i : Nat} {g : Graph} (h : GraphOk gs i g)
    (hm : Frozen gs gs') : GraphOk gs' i g :=
  ⟨h.id, fun j nd hj => (h.nodes j nd hj).mono hm, h.output, h.fin⟩

theorem Frozen.refl (gs : List Graph) : Frozen gs gs := fun _ _ h _ => h

theorem frozen_append (gs : List Graph) (x : Graph) : Frozen gs (gs ++ [x]) := by
  intro i gr h _
  rw [List.getElem?_append_left (lt_of_getElem? h)]
  exact h

theorem frozen_set {gs : List Graph} {g : Nat} {gr gr' : Graph} (hg : gs[g]? = some gr)
    (hf : gr.finalized = true → gr' = gr) : Frozen gs (gs.set g gr') := by
  intro i cg h1 h2
  by_cases e : g = i
  · subst e
    obtain rfl : gr = cg := Option.some.inj (hg.symm.trans h1)
    rw [hf h2, set_self hg]
    exact hg
  · rw [List.getElem?_set_ne e]
    exact h1

theorem inRange_set {gs : List Graph} {g : Nat} {gr gr' : Graph} (hg : gs[g]? = some gr)
    (hl : gr.nodes.length ≤ gr'.nodes.length) {a n : Nat} (h : InRange gs a n) :
    InRange (gs.set g gr') a n := by
  obtain ⟨x, h1, h2⟩ := h
  by_cases e : g = a
  · subst e
    obtain rfl : gr = x := Option.some.inj (hg.symm.trans h1)
    exact ⟨gr', List.getElem?_set_self (lt_of_getElem? hg), Nat.lt_of_lt_of_le h2 hl⟩
  · exact ⟨x, by rw [List.getElem?_set_ne e]; exact h1, h2⟩

theorem inRange_append {gs : List Graph} (x : Graph) {a n : Nat} (h : InRange gs a n) :
    InRange (gs ++ [x]) a n := by
  obtain ⟨y, h1, h2⟩ := h
  exact ⟨y, by rw [List.getElem?_append_left (lt_of_getElem? h1)]; exact h1, h2⟩

theorem hasNode_inRange {s : State} {r : NRef} (h : hasNode s r = true) :
    InRange s.graphs r.g r.n := by
  unfold hasNode at h
  split at h
  · next gr hgr => exact ⟨gr, hgr, of_decide_eq_true h⟩
  · cases h

theorem inv_setGraph {s : State} {g : Nat} {gr gr' : Graph} (h : Inv s)
    (hg : s.graphs[g]? = some gr)
    (hfin : gr.finalized = true → gr' = gr)
    (hlen : gr.nodes.length ≤ gr'.nodes.length)
    (hok : GraphOk s.graphs g gr') : Inv (setGraph s g gr') where
  graphs i x hx := by
    rcases getElem?_set_some hx with ⟨rfl, rfl⟩ | hx
    · exact hok.mono (frozen_set hg hfin)
    · exact (h.graphs i x hx).mono (frozen_set hg hfin)
  main m hm :=
    let ⟨x, h1, h2⟩ := h.main m hm
    ⟨x, frozen_set hg hfin m x h1 h2, h2⟩
  fin hf := by
    refine ⟨(h.fin hf).1, fun i x hx => ?_⟩
    rcases getElem?_set_some hx with ⟨rfl, rfl⟩ | hx
    · have hgf := (h.fin hf).2 _ gr hg
      rw [hfin hgf]
      exact hgf
    · exact (h.fin hf).2 i x hx
  gnames := h.gnames
  gnamesRange id nm hh := by
    rw [setGraph, List.length_set]
    exact h.gnamesRange id nm hh
  nnames := h.nnames
  nnamesRange a n nm hh := inRange_set hg hlen (h.nnamesRange a n nm hh)
  nannotRange a n v hh := inRange_set hg hlen (h.nannotRange a n v hh)
  gannotRange a v hh := by
    rw [setGraph, List.length_set]
    exact h.gannotRange a v hh
  nodup := h.nodup
  total := h.total

inductive Outcome (s : State) : State × Result → Prop
  | err : Outcome s (s, .err)
  | ok {s' : State} {p : List Nat} (inv : Inv s') (frozen : Frozen s.graphs s'.graphs)
      (fixed : s.finalized = true → s' = s) : Outcome s (s', .ok p)

theorem Outcome.inv {s : State} {x : State × Result} (h : Inv s) : Outcome s x → Inv x.1
  | .err => h
  | .ok hi _ _ => hi

theorem Outcome.unchanged {s : State} {x : State × Result} (he : x.2 = .err) : Outcome s x → x.1 = s
  | .err => rfl
  | .ok _ _ _ => nomatch he

theorem Outcome.frozen {s : State} {x : State × Result} : Outcome s x → Frozen s.graphs x.1.graphs
  | .err => .refl _
  | .ok _ hf _ => hf

theorem Outcome.fixed {s : State} {x : State × Result} (hf : s.finalized = true) :
    Outcome s x → x.1 = s
  | .err => rfl
  | .ok _ _ hx => hx hf

theorem Outcome.same {s : State} (h : Inv s) : ∀ r, Outcome s (s, r)
  | .err => .err
  | .ok _ => .ok h (.refl _) fun _ => rfl

theorem Outcome.guard {s : State} {c : Prop} [Decidable c] {y : State × Result}
    (h : ¬c → Outcome s y) : Outcome s (if c then (s, .err) else y) := by
  by_cases hc : c
  · rw [if_pos hc]
    exact .err
  · rw [if_neg hc]
    exact h hc

theorem Outcome.tables {s s' : State} {p : List Nat} (hf : ¬s.finalized = true)
    (hg : s'.graphs = s.graphs) (hi : Inv s') : Outcome s (s', .ok p) :=
  .ok hi (hg ▸ .refl _) fun hf' => absurd hf' hf

theorem Outcome.set {s : State} {g : Nat} {gr gr' : Graph} {p : List Nat} (h : Inv s)
    (hg : s.graphs[g]? = some gr) (hfin : gr.finalized = true → gr' = gr)
    (hlen : gr.nodes.length ≤ gr'.nodes.length) (hok : GraphOk s.graphs g gr') :
    Outcome s (setGraph s g gr', .ok p) :=
  .ok (inv_setGraph h hg hfin hlen hok) (frozen_set hg hfin) fun hf => by
    rw [setGraph, hfin ((h.fin hf).2 g gr hg), set_self hg]

theorem createGraph_outcome {s : State} (h : Inv s) : Outcome s (createGraph s) :=
  .guard fun hf => .ok
    { h with
      graphs := fun i x hx => by
        rcases getElem?_concat_some hx with hx | ⟨rfl, rfl⟩
        · exact (h.graphs i x hx).mono (frozen_append _ _)
        · exact ⟨rfl, nofun, nofun, nofun⟩
      main := fun m hm =>
        let ⟨x, h1, h2⟩ := h.main m hm
        ⟨x, frozen_append _ _ m x h1 h2, h2⟩
      fin := fun hh => absurd hh hf
      gnamesRange := fun id nm hh => Nat.lt_of_lt_of_le (h.gnamesRange id nm hh) (by simp)
      nnamesRange := fun a n nm hh => inRange_append _ (h.nnamesRange a n nm hh)
      nannotRange := fun a n v hh => inRange_append _ (h.nannotRange a n v hh)
      gannotRange := fun a v hh => Nat.lt_of_lt_of_le (h.gannotRange a v hh) (by simp) }
    (frozen_append _ _) fun hf' => absurd hf' hf

theorem setGraphName_outcome {s : State} (h : Inv s) {r : GRef} {name : Nat} :
    Outcome s (setGraphName s r name) := by
  obtain ⟨n1, n2, n3⟩ := h.nodup
  exact .guard fun _ => .guard fun hf => .guard fun hg => .guard fun h1 => .guard fun h2 =>
    .tables hf rfl { h with
      gnames := fun id nm => tget_tinsert_iff (Option.not_isSome_iff_eq_none.1 h1)
        (Option.not_isSome_iff_eq_none.1 h2) And.comm (h.gnames id nm)
      gnamesRange := tget_tinsert_range (P := (· < s.graphs.length)) (lt_of_not_isNone hg)
        h.gnamesRange
      nodup := ⟨nodup_keys_tinsert n1, nodup_keys_tinsert n2, n3⟩ }

theorem setNodeName_outcome {s : State} (h : Inv s) {r : NRef} {name : Nat} :
    Outcome s (setNodeName s r name) := by
  obtain ⟨n1, n2, n3, n4, n5⟩ := h.nodup
  exact .guard fun _ => .guard fun hf => .guard fun hn => .guard fun h1 => .guard fun h2 =>
    .tables hf rfl { h with
      nnames := fun g n nm => tget_tinsert_iff (Option.not_isSome_iff_eq_none.1 h1)
        (Option.not_isSome_iff_eq_none.1 h2)
        (by rw [Prod.mk.injEq, Prod.mk.injEq, and_right_comm]) (h.nnames g n nm)
      nnamesRange := fun g n nm => tget_tinsert_range (P := fun k => InRange s.graphs k.1 k.2)
        (hasNode_inRange (by simpa using hn)) (fun k => h.nnamesRange k.1 k.2) (g, n) nm
      nodup := ⟨n1, n2, nodup_keys_tinsert n3, nodup_keys_tinsert n4, n5⟩ }

theorem addNodeAnnotation_outcome {s : State} (h : Inv s) {r : NRef} {a : Nat} :
    Outcome s (addNodeAnnotation s r a) := by
  obtain ⟨n1, n2, n3, n4, n5, n6⟩ := h.nodup
  exact .guard fun _ => .guard fun hf => .guard fun hn =>
    .tables hf rfl { h with
      nannotRange := fun g n v => by
        rw [tpush_eq]
        exact tget_tinsert_range (P := fun k => InRange s.graphs k.1 k.2) (k := (r.g, r.n))
          (hasNode_inRange (by simpa using hn)) (fun k => h.nannotRange k.1 k.2) (g, n) v
      nodup := ⟨n1, n2, n3, n4, nodup_keys_tpush n5, n6⟩ }

theorem addGraphAnnotation_outcome {s : State} (h : Inv s) {r : GRef} {a : Nat} :
    Outcome s (addGraphAnnotation s r a) := by
  obtain ⟨n1, n2, n3, n4, n5, n6⟩ := h.nodup
  exact .guard fun _ => .guard fun hf => .guard fun hg =>
    .tables hf rfl { h with
      gannotRange := fun g v => by
        rw [tpush_eq]
        exact tget_tinsert_range (P := (· < s.graphs.length)) (lt_of_not_isNone hg)
          h.gannotRange g v
      nodup := ⟨n1, n2, n3, n4, n5, nodup_keys_tpush n6⟩ }

theorem setMain_outcome {s : State} (h : Inv s) {r : GRef} : Outcome s (setMain s r) := by
  unfold setMain
  cases hm : s.main with
  | some _ => exact .err
  | none =>
    refine .guard fun _ => ?_
    cases hg : s.graphs[r.g]? with
    | none => exact .err
    | some gr =>
      refine .guard fun hf => .ok
        { h with
          main := fun m hm' => Option.some.inj hm' ▸ ⟨gr, hg, by simpa using hf⟩
          fin := fun hh => ⟨rfl, (h.fin hh).2⟩ }
        (.refl _) fun hf' => ?_
      have := (h.fin hf').1
      rw [hm] at this
      cases this

theorem finalizeContext_outcome {s : State} (h : Inv s) : Outcome s (finalizeContext s) := by
  unfold finalizeContext
  refine .guard fun hall => ?_
  split
  · next hm =>
    refine .ok { h with fin := fun _ => ⟨by rw [hm]; rfl, fun i g hg => ?_⟩ } (.refl _)
      fun hf => by rw [← hf]
    exact List.all_eq_true.1 (by simpa using hall) g (List.mem_of_getElem? hg)
  · exact .err

theorem GraphOk.not_fin {gs : List Graph} {i : Nat} {g : Graph} (h : GraphOk gs i g)
    (ho : g.output = none) : g.finalized ≠ true := fun hf => by
  have := h.fin hf
  rw [ho] at this
  cases this

theorem setOutput_outcome {s : State} (h : Inv s) {g : Nat} {r : NRef} :
    Outcome s (setOutput s g r) := by
  unfold setOutput
  cases hg : s.graphs[g]? with
  | none => exact .err
  | some gr =>
    dsimp only
    cases ho : gr.output with
    | some _ => exact .err
    | none =>
      refine .guard fun hc => .guard fun hn => ?_
      obtain ⟨x, h1, h2⟩ := hasNode_inRange (r := r) (by simpa using hn)
      obtain rfl : r.g = g := (by simpa using hc : _ ∧ _).2
      obtain rfl : gr = x := Option.some.inj (hg.symm.trans h1)
      have hok := h.graphs r.g gr hg
      have hfin (hf : gr.finalized = true) : { gr with output := some r.n } = gr :=
        absurd hf (hok.not_fin ho)
      exact .set h hg hfin (Nat.le_refl _)
        { hok with output := fun o ho' => Option.some.inj ho' ▸ h2, fin := fun _ => rfl }

theorem finalized_eq {gr : Graph} (hf : gr.finalized = true) : { gr with finalized := true } = gr := by
  cases gr
  cases hf
  rfl

theorem finalizeGraph_outcome {s : State} (h : Inv s) {g : Nat} :
    Outcome s (finalizeGraph s g) := by
  unfold finalizeGraph
  cases hg : s.graphs[g]? with
  | none => exact .err
  | some gr =>
    dsimp only
    split
    · next ho =>
      have hok := h.graphs g gr hg
      exact .set h hg finalized_eq (Nat.le_refl _) { hok with fin := fun _ => by rw [ho]; rfl }
    · exact .err

theorem Inv.open {s : State} (h : Inv s) {g : Nat} {gr : Graph} (hg : s.graphs[g]? = some gr)
    (hnf : gr.finalized = false) : ¬s.finalized = true :=
  fun hf => Bool.eq_false_iff.1 hnf ((h.fin hf).2 g gr hg)

/-- in a well-formed state the roll-back undoes the push exactly: the new position carries no name
    and no annotation yet -/
theorem removeLast_push {s : State} (h : Inv s) {g : Nat} {gr : Graph} (hg : s.graphs[g]? = some gr)
    (hnf : gr.finalized = false) (nd : Node) :
    removeLastNode (setGraph s g { gr with nodes := gr.nodes ++ [nd] }) g = s := by
  have fresh : ¬ InRange s.graphs g gr.nodes.length := by
    rintro ⟨x, h1, h2⟩
    obtain rfl : gr = x := Option.some.inj (hg.symm.trans h1)
    exact Nat.lt_irrefl _ h2
  have hn1 : tget s.nnames (g, gr.nodes.length) = none :=
    Option.eq_none_iff_forall_ne_some.2 fun _ hh => fresh (h.nnamesRange _ _ _ hh)
  have hn2 : tget s.nannot (g, gr.nodes.length) = none :=
    Option.eq_none_iff_forall_ne_some.2 fun _ hh => fresh (h.nannotRange _ _ _ hh)
  simp only [removeLastNode, setGraph, List.getElem?_set_self (lt_of_getElem? hg),
    List.length_append, List.length_singleton, Nat.add_sub_cancel, hn1,
    tremove_of_tget_none _ _ hn1, tremove_of_tget_none _ _ hn2, List.dropLast_concat, List.set_set,
    set_self hg]
  exact if_neg (h.open hg hnf)

theorem push_inv {s : State} (h : Inv s) {g : Nat} {gr : Graph} (hg : s.graphs[g]? = some gr)
    (hnf : gr.finalized = false) {nd : Node} (hnd : NodeOk s.graphs g gr.nodes.length nd) :
    Inv (setGraph s g { gr with nodes := gr.nodes ++ [nd] }) := by
  have hok := h.graphs g gr hg
  have hfin {p : Prop} (hf : gr.finalized = true) : p := absurd hf (Bool.eq_false_iff.1 hnf)
  refine inv_setGraph h hg hfin (by simp) ⟨hok.id, fun j x hj => ?_, fun o ho => ?_, hfin⟩
  · rcases getElem?_concat_some hj with hj | ⟨rfl, rfl⟩
    · exact hok.nodes j x hj
    · exact hnd
  · exact Nat.lt_of_lt_of_le (hok.output o ho) (by simp)

/-- the dependency checks of `add_node_internal` are what `NodeOk` asks of the new node -/
theorem nodeOk_new {s : State} {g id op : Nat} {deps : List NRef} {gdeps : List GRef}
    (hd : deps.all (depOk g id) = true) (hgd : gdeps.all (gdepOk s g) = true) :
    NodeOk s.graphs g id ⟨id, op, deps.map (fun d => (d.g, d.n)), gdeps.map (·.g), true⟩ := by
  refine ⟨rfl, rfl, fun d hdm => ?_, fun gd hgm => ?_⟩
  · obtain ⟨r, hr, rfl⟩ := List.mem_map.1 hdm
    have := List.all_eq_true.1 hd r hr
    simp only [depOk, Bool.and_eq_true, decide_eq_true_eq] at this
    exact ⟨this.1.2, this.2⟩
  · obtain ⟨r, hr, rfl⟩ := List.mem_map.1 hgm
    have := List.all_eq_true.1 hgd r hr
    simp only [gdepOk, Bool.and_eq_true, decide_eq_true_eq] at this
    obtain ⟨_, h2⟩ := this
    split at h2
    · next cg hcg =>
      simp only [Bool.and_eq_true, decide_eq_true_eq] at h2
      exact ⟨h2.2, cg, hcg, h2.1⟩
    · cases h2

theorem addNodeInternal_outcome {s : State} (h : Inv s) {g op : Nat} {deps : List NRef}
    {gdeps : List GRef} {tv : Bool} {sz : Option Nat} :
    Outcome s (addNodeInternal s g op deps gdeps tv sz) := by
  unfold addNodeInternal
  cases hg : s.graphs[g]? with
  | none => exact .err
  | some gr =>
    refine .guard fun hf => .guard fun hd => .guard fun hgd => ?_
    have hnf := Bool.eq_false_iff.2 hf
    dsimp only
    -- both roll-back sites (type verdict refused, size budget exceeded) hand back `s`
    rw [removeLast_push h hg hnf]
    refine .guard fun htv => ?_
    obtain rfl : tv = true := by simpa using htv
    have hp := push_inv h hg hnf (nodeOk_new (op := op) (by simpa using hd) (by simpa using hgd))
    have hfz {gr' : Graph} : Frozen s.graphs (s.graphs.set g gr') := frozen_set hg (absurd · hf)
    have hfx {s' : State} (hf' : s.finalized = true) : s' = s := absurd hf' (h.open hg hnf)
    cases sz with
    | none => exact .ok hp hfz hfx
    | some n => exact .guard fun hle => .ok { hp with total := Nat.le_of_not_gt hle } hfz hfx

end CCV.Context
